import VOPyVerif.Model.Schedules
import VOPyVerif.Proofs.RealInst
import VOPyVerif.Proofs.Tails
import Mathlib.NumberTheory.ZetaValues
import Mathlib.Analysis.Real.Pi.Bounds
/-!
# The schedule terms at `ℝ`, series, the union bound, log arguments

`*_real` lemmas rewrite the `RealLike` terms of `Model/Schedules.lean`, instantiated at `ℝ` with
contraction `1`, into ordinary real expressions (the term itself is untouched: these are equalities
about the very definitions the driver runs at `Float`).  Every schedule is then handled by the same
three steps: its tail at the radius is (at most) the inverse `A⁻¹` of its logarithm's argument
(`exp_neg_log`, `exp_neg_sq_div_le`), `A = p·(s·N)/d` is large and `N·A⁻¹ = (d/p)/s` (`le_arg`,
`mul_inv_arg`), and the per-round terms `(c/π²)/(t+1)²` sum to `c/6` (`hasSum_div_pi_sq`, `union_le`).
-/
namespace VOPy.SchedR
open Real MeasureTheory ProbabilityTheory VOPy VOPy.Sched
open scoped NNReal

/-! ### The schedule terms at `ℝ`, contraction 1 -/

theorem vogpBeta_real (t m K : ℕ) (δ : ℝ) :
    vogpBeta t m K δ (1:ℝ) = √(2 * Real.log ((m:ℝ) * K * π^2 * ((t:ℝ)+1)^2 / (3*δ))) := by
  simp only [vogpBeta, RealLike.ofNat_real, RealLike.sqrt_real, RealLike.log_real, RealLike.pi_real,
    RealLike.sq_real, div_one]
  push_cast
  rw [sq ((t:ℝ)+1)]

theorem epalBeta_real (t m K : ℕ) (δ : ℝ) :
    epalBeta t m K δ (1:ℝ) = √(2 * Real.log ((m:ℝ) * K * π^2 * ((t:ℝ)+1)^2 / (6*δ))) := by
  simp only [epalBeta, RealLike.ofNat_real, RealLike.sqrt_real, RealLike.log_real, RealLike.pi_real,
    RealLike.sq_real, div_one]
  push_cast
  rw [sq ((t:ℝ)+1)]

theorem auerBeta_real (t m K : ℕ) (δ : ℝ) :
    auerBeta t m K δ (1:ℝ) = √(2 * Real.log (4 * ((t:ℝ)^2 * ((K:ℝ) * m)) / δ) / t) := by
  simp only [auerBeta, RealLike.ofNat_real, RealLike.sqrt_real, RealLike.log_real, div_one]
  push_cast
  ring_nf

theorem pavebaRadius_real (nv : ℝ) (t m K : ℕ) (δ : ℝ) :
    pavebaRadius nv t m K δ (1:ℝ)
      = √(8 * nv / t * Real.log (π^2 * ((t:ℝ)^2 * (((m:ℝ)+1) * K)) / (6*δ))) := by
  simp only [pavebaRadius, RealLike.ofNat_real, RealLike.sqrt_real, RealLike.log_real,
    RealLike.pi_real, RealLike.sq_real, div_one]
  push_cast
  ring_nf

theorem pavebaGpAlpha_real (t m K : ℕ) (δ : ℝ) :
    pavebaGpAlpha t m K δ (1:ℝ)
      = 8 * m * Real.log 6 + 4 * Real.log (π^2 * ((t:ℝ)^2 * K) / (6*δ)) := by
  simp only [pavebaGpAlpha, RealLike.ofNat_real, RealLike.log_real, RealLike.pi_real,
    RealLike.sq_real, div_one]
  push_cast
  rw [mul_assoc (π^2), sq (t:ℝ)]

theorem partialGpAlpha_real (t K : ℕ) (δ : ℝ) :
    partialGpAlpha t K δ (1:ℝ) = 2 * Real.log (π^2 * ((t:ℝ)^2 * K) / (3*δ)) := by
  simp only [partialGpAlpha, RealLike.ofNat_real, RealLike.log_real, RealLike.pi_real,
    RealLike.sq_real, div_one]
  push_cast
  rw [mul_assoc (π^2), sq (t:ℝ)]

/-! ### Series -/

lemma hasSum_inv_sq_succ : HasSum (fun t : ℕ => 1 / ((t:ℝ)+1)^2) (π^2/6) := by
  simpa using (hasSum_nat_add_iff' 1).mpr hasSum_zeta_two

lemma hasSum_inv_four_succ : HasSum (fun t : ℕ => 1 / ((t:ℝ)+1)^4) (π^4/90) := by
  simpa using (hasSum_nat_add_iff' 1).mpr hasSum_zeta_four

/-- a union bound whose round-`t` term is `(c/π²)/(t+1)²` has total `c/6` -/
lemma hasSum_div_pi_sq (c : ℝ) : HasSum (fun t : ℕ => c / π^2 * (1 / ((t:ℝ)+1)^2)) (c / 6) := by
  have h := hasSum_inv_sq_succ.mul_left (c / π^2)
  rwa [div_mul_div_cancel₀ (by positivity)] at h

/-- a union bound whose round-`t` term is `(c/π⁴)/(t+1)⁴` has total `c/90` -/
lemma hasSum_div_pi_four (c : ℝ) : HasSum (fun t : ℕ => c / π^4 * (1 / ((t:ℝ)+1)^4)) (c / 90) := by
  have h := hasSum_inv_four_succ.mul_left (c / π^4)
  rwa [div_mul_div_cancel₀ (by positivity)] at h

/-- **Union bound, one finite family of events per round.**  If each of the `card ι` probabilities
of round `t` is at most `q t` and `card ι · q t ≤ b t` with `∑ b = S ≤ δ`, the series of the
per-round sums converges (proved, not assumed) and is at most `δ`. -/
lemma union_le {ι : Type*} [Fintype ι] {p : ℕ → ι → ℝ} {q b : ℕ → ℝ} {S δ : ℝ}
    (h0 : ∀ t a, 0 ≤ p t a) (hp : ∀ t a, p t a ≤ q t)
    (hq : ∀ t, (Fintype.card ι : ℝ) * q t ≤ b t) (hb : HasSum b S) (hS : S ≤ δ) :
    Summable (fun t => ∑ a, p t a) ∧ ∑' t, ∑ a, p t a ≤ δ := by
  have h : ∀ t, ∑ a, p t a ≤ b t := fun t =>
    ((Finset.sum_le_sum fun a _ => hp t a).trans_eq
      (by rw [Finset.sum_const, Finset.card_univ, nsmul_eq_mul])).trans (hq t)
  have sa : Summable (fun t => ∑ a, p t a) :=
    Summable.of_nonneg_of_le (fun t => Finset.sum_nonneg fun a _ => h0 t a) h hb.summable
  exact ⟨sa, ((sa.tsum_le_tsum h hb.summable).trans_eq hb.tsum_eq).trans hS⟩

/-- `union_le` for designs × objectives -/
lemma union_le₂ {K m : ℕ} {p : ℕ → Fin K → Fin m → ℝ} {q b : ℕ → ℝ} {S δ : ℝ}
    (h0 : ∀ t i j, 0 ≤ p t i j) (hp : ∀ t i j, p t i j ≤ q t)
    (hq : ∀ t, (K:ℝ) * m * q t ≤ b t) (hb : HasSum b S) (hS : S ≤ δ) :
    Summable (fun t => ∑ i, ∑ j, p t i j) ∧ ∑' t, ∑ i, ∑ j, p t i j ≤ δ := by
  have h := union_le (ι := Fin K × Fin m) (p := fun t a => p t a.1 a.2) (fun t a => h0 t a.1 a.2)
    (fun t a => hp t a.1 a.2) (fun t => by
      rw [Fintype.card_prod, Fintype.card_fin, Fintype.card_fin, Nat.cast_mul]; exact hq t) hb hS
  simpa only [Fintype.sum_prod_type] using h

/-- Coordinatewise Gaussian regions `μ ± β_t·√v`: if `K·m·exp(-β_t²/2) ≤ b t` with `∑ b = S ≤ δ`,
the sum over rounds, designs and objectives of the actual probabilities `P(|X - μ| > β_t √v)`,
`X ~ N(μ, v)`, converges and is at most `δ`.  Means and variances are arbitrary (they may depend on
round, design and objective). -/
lemma union_gauss_le {K m : ℕ} (β : ℕ → ℝ) (hβ : ∀ t, 0 ≤ β t)
    (μ : ℕ → Fin K → Fin m → ℝ) (v : ℕ → Fin K → Fin m → ℝ≥0) {b : ℕ → ℝ} {S δ : ℝ}
    (hB : ∀ t, (K:ℝ) * m * rexp (-(β t)^2/2) ≤ b t) (hb : HasSum b S) (hS : S ≤ δ) :
    Summable (fun t => ∑ i, ∑ j, (gaussianReal (μ t i j) (v t i j)).real
        {x | β t * √(v t i j : ℝ) < |x - μ t i j|}) ∧
    ∑' t, (∑ i, ∑ j, (gaussianReal (μ t i j) (v t i j)).real
        {x | β t * √(v t i j : ℝ) < |x - μ t i j|}) ≤ δ :=
  union_le₂ (fun _ _ _ => measureReal_nonneg)
    (fun t _ _ => Tails.gauss_two_sided _ _ _ (hβ t)) hB hb hS

/-! ### exp/log algebra -/

lemma exp_neg_log {A : ℝ} (hA : 0 < A) : rexp (-Real.log A) = A⁻¹ := by
  rw [Real.exp_neg, Real.exp_log hA]

lemma exp_neg_half_sq_sqrt_two_log {A : ℝ} (hA : 1 ≤ A) :
    rexp (-(√(2 * Real.log A))^2/2) = A⁻¹ := by
  rw [Real.sq_sqrt (mul_nonneg zero_le_two (Real.log_nonneg hA)), neg_div,
    mul_div_cancel_left₀ _ two_ne_zero, exp_neg_log (one_pos.trans_le hA)]

/-- A scale `x ≥ c` entered where its square root was meant: `x²/c ≥ x`, so the tail
`exp(-x²/c)` is at most `exp(-y)` for every `y ≤ x`. -/
lemma exp_neg_sq_div_le {x y c : ℝ} (hc : 0 < c) (hcx : c ≤ x) (hy : y ≤ x) :
    rexp (-x^2/c) ≤ rexp (-y) := by
  have hx : x ≤ x^2/c := by
    rw [le_div_iff₀ hc, pow_two]
    exact mul_le_mul_of_nonneg_left hcx (hc.le.trans hcx)
  rw [neg_div]
  exact Real.exp_le_exp.mpr (by linarith)

lemma pi_sq_pos : 0 < π^2 := pow_pos Real.pi_pos 2

lemma pi_sq_gt_nine : 9 < π^2 := by
  have := pow_lt_pow_left₀ Real.pi_gt_three (by norm_num) two_ne_zero
  linarith

lemma one_le_cast_succ_sq (t : ℕ) : (1:ℝ) ≤ ((t:ℝ)+1)^2 :=
  one_le_pow₀ (le_add_of_nonneg_left t.cast_nonneg)

/-! ### The argument of a schedule's logarithm

Every schedule takes the logarithm of `p·(s·N)/d`: `p = π²` (Auer: `4`), `s = (t+1)²`, `N` a product
of the counts `K`, `m`, and `d` a multiple of `δ`. -/

lemma le_arg {k p s N d : ℝ} (hd : 0 < d) (hp : 0 < p) (hk : k * d ≤ p) (hs : 1 ≤ s)
    (hN : 1 ≤ N) : k ≤ p * (s * N) / d :=
  (le_div_iff₀ hd).mpr
    (hk.trans (le_mul_of_one_le_right hp.le (one_le_mul_of_one_le_of_one_le hs hN)))

/-- `N` events of probability `(p·(s·N)/d)⁻¹` each: together `(d/p)/s` -/
lemma mul_inv_arg {p s N d : ℝ} (hp : 0 < p) (hs : 1 ≤ s) (hN : 1 ≤ N) :
    N * (p * (s * N) / d)⁻¹ = d / p * (1 / s) := by
  have hs0 : s ≠ 0 := (zero_lt_one.trans_le hs).ne'
  have hN0 : N ≠ 0 := (zero_lt_one.trans_le hN).ne'
  rw [inv_div]
  field_simp

end VOPy.SchedR
