import VOPyVerif.Model.Schedules
import VOPyVerif.Proofs.RealInst
import Mathlib.Probability.Distributions.Gaussian.Real
import Mathlib.MeasureTheory.Constructions.Pi
import Mathlib.LinearAlgebra.Matrix.DotProduct
import Mathlib.Topology.Instances.Matrix
/-!
# The regions denoted by the model's `rectUpdate` / `ellUpdate` at `ℝ`

* `rectRegion mean cov s` : the box `∏ⱼ [rectLower …, rectUpper …]` built from the *model terms*
  `Sched.rectLower/rectUpper` (what `RectangularConfidenceRegion.update` stores)
* `ellRegion c W α`       : `{x | ‖W (x - c)‖₂ ≤ α}`, `W = sqrtm(inv(sigma))` — the set the code's
  `EllipsoidalConfidenceRegion.is_dominated` constrains its variables to
-/
namespace VOPy.SchedR
open Real MeasureTheory ProbabilityTheory VOPy VOPy.Sched Matrix
open scoped NNReal

/-- the rectangle stored by `RectangularConfidenceRegion.update(mean, cov, scale)`, at `ℝ` -/
def rectRegion {m : ℕ} (mean : Fin m → ℝ) (cov : Matrix (Fin m) (Fin m) ℝ) (s : Fin m → ℝ) :
    Set (Fin m → ℝ) :=
  {f | ∀ j, rectLower (mean j) (cov j j) (s j) ≤ f j ∧ f j ≤ rectUpper (mean j) (cov j j) (s j)}

lemma rect_coord_iff (μ v s x : ℝ) :
    (rectLower μ v s ≤ x ∧ x ≤ rectUpper μ v s) ↔ |x - μ| ≤ s * √v := by
  simp only [rectLower, rectUpper, RealLike.sqrt_real, abs_le]
  constructor
  · rintro ⟨h1, h2⟩; constructor <;> linarith
  · rintro ⟨h1, h2⟩; constructor <;> linarith

/-- the set `{x | ‖W (x - c)‖₂ ≤ α}` (Euclidean norm written out) -/
def ellRegion {m : ℕ} (c : Fin m → ℝ) (W : Matrix (Fin m) (Fin m) ℝ) (α : ℝ) :
    Set (Fin m → ℝ) :=
  {x | √(∑ j, ((W *ᵥ (x - c)) j)^2) ≤ α}

end VOPy.SchedR
