import VOPyVerif.Proofs.Pessimistic
/-!
# C11: what the polytope routine decides

* `SegWit poly p`: some point of a segment between two members of `poly` is componentwise `≤ p`;
  `isPtIn_iff`, `checkDominates_iff`: the specification of `isPtIn` and of `checkDominates` in exact
  arithmetic (`⇒` is `isPtIn_sound`, `⇐` is `seg_hit`);
* `exists_tight`: moving along a direction inside finitely many constraints `cᵢ τ ≤ sᵢ` until one
  becomes tight (the exit point of a ray from a box, without any analysis);
* `seg_hit`: in `ℚᴺ`, if a point of a segment between two members (at different positions) of the
  polytope list is componentwise `≤ p`, the routine answers `true` (vertex test, or the pair loop at
  the coordinate that becomes tight first when walking back along the segment);
* `isPtIn_of_seg_witness`: the same for the images under `W` of a list of points: a witness on a
  segment between two of them suffices.
-/
namespace VOPy.Pess
set_option linter.unusedSimpArgs false

/-! ## reaching the answer `true` -/

theorem isPtIn_of_vertex {p v : Vec} {poly : List Vec} (hv : v ∈ poly) (h : vle v p = true) :
    isPtIn exact false p poly = true := by
  unfold isPtIn
  rw [Bool.or_eq_true]
  exact Or.inl (List.any_eq_true.mpr ⟨v, hv, h⟩)

theorem isPtIn_of_edge {p v1 v2 : Vec} {poly : List Vec} {i j d : Nat}
    (hi : poly[i]? = some v1) (hj : poly[j]? = some v2) (hij : i ≠ j) (hd : d < polyDim poly)
    (h : edgeHit exact false p d v1 v2 = true) :
    isPtIn exact false p poly = true := by
  unfold isPtIn
  rw [Bool.or_eq_true]
  refine Or.inr ?_
  simp only [List.any_eq_true, Bool.and_eq_true]
  refine ⟨d, List.mem_range.mpr hd, (v1, i), ?_, (v2, j), ?_, ?_, h⟩
  · simp [List.mem_zipIdx_iff_getElem?, hi]
  · simp [List.mem_zipIdx_iff_getElem?, hj]
  · simpa using hij

/-! ## coordinates -/

theorem vle_of_getD : ∀ (a b : Vec), (∀ k < a.length, a.getD k 0 ≤ b.getD k 0) → vle a b = true
  | [], _, _ => by simp [vle]
  | _ :: _, [], _ => by simp [vle]
  | x :: a, y :: b, h => by
    have ih := vle_of_getD a b fun k hk => h (k + 1) (Nat.succ_lt_succ hk)
    simp only [vle, List.zipWith_cons_cons, List.all_cons, Bool.and_eq_true, decide_eq_true_eq,
      id_eq] at ih ⊢
    exact ⟨h 0 (Nat.succ_pos _), ih⟩

theorem getD_le_of_vle : ∀ (a b : Vec), vle a b = true → ∀ k < a.length, k < b.length →
    a.getD k 0 ≤ b.getD k 0
  | x :: a, y :: b, h, k, hk, hk' => by
    simp only [vle, List.zipWith_cons_cons, List.all_cons, Bool.and_eq_true, decide_eq_true_eq,
      id_eq] at h
    cases k with
    | zero => exact h.1
    | succ k => exact getD_le_of_vle a b h.2 k (Nat.lt_of_succ_lt_succ hk) (Nat.lt_of_succ_lt_succ hk')
  | [], _, _, _, hk, _ => absurd hk (Nat.not_lt_zero _)
  | _ :: _, [], _, _, _, hk => absurd hk (Nat.not_lt_zero _)

theorem getD_of_lt {v : Vec} {k : Nat} (h : k < v.length) : v.getD k 0 = v[k] := by
  simp [List.getD_eq_getElem?_getD, List.getElem?_eq_getElem h]

theorem getElem?_eq_some_getD {v : Vec} {k : Nat} (h : k < v.length) : v[k]? = some (v.getD k 0) := by
  rw [List.getElem?_eq_getElem h, getD_of_lt h]

theorem matVec_getD (W : Mat) (v : Vec) (k : Nat) (hk : k < W.length) :
    (matVec W v).getD k 0 = dot (W[k]) v := by
  rw [getD_of_lt (v := matVec W v) (by simpa [matVec] using hk)]
  simp [matVec]

/-- the pair loop at coordinate `d` for `v1[d] < v2[d]`: if the segment point at a parameter
`t ∈ [0,1]` has coordinate `d` equal to `p[d]` and is componentwise `≤ p`, the pair `(v1, v2)` is a
hit (`t` is then the parameter the routine computes) -/
theorem edgeHit_of_param {p v1 v2 : Vec} {d N : Nat} (h1 : v1.length = N) (h2 : v2.length = N)
    (hp : p.length = N) (hd : d < N) {t : Rat} (ht0 : 0 ≤ t) (ht1 : t ≤ 1)
    (hlt : v1.getD d 0 < v2.getD d 0)
    (htd : t * (v2.getD d 0 - v1.getD d 0) = p.getD d 0 - v1.getD d 0)
    (hq : ∀ k < N, v1.getD k 0 + t * (v2.getD k 0 - v1.getD k 0) ≤ p.getD k 0) :
    edgeHit exact false p d v1 v2 = true := by
  have hpos : 0 < v2.getD d 0 - v1.getD d 0 := sub_pos.mpr hlt
  have g1 : v1.getD d 0 ≤ p.getD d 0 := sub_nonneg.mp (htd ▸ mul_nonneg ht0 hpos.le)
  have g2 : p.getD d 0 ≤ v2.getD d 0 := by
    linear_combination mul_nonneg (sub_nonneg.mpr ht1) hpos.le - htd
  have ht : (p.getD d 0 - v1.getD d 0) / (v2.getD d 0 - v1.getD d 0) = t :=
    (div_eq_iff hpos.ne').mpr htd.symm
  have hv : vle (List.zipWith (fun x y => x + t * (y - x)) v1 v2) p = true := by
    refine vle_of_getD _ _ fun k hk => ?_
    have hk' : k < N := by simpa [h1, h2] using hk
    rw [getD_zipWith _ _ _ _ (h1 ▸ hk') (h2 ▸ hk') 0 0 0]
    exact hq k hk'
  unfold edgeHit lineSegAt
  rw [getElem?_eq_some_getD (v := v1) (h1 ▸ hd), getElem?_eq_some_getD (v := v2) (h2 ▸ hd),
    getElem?_eq_some_getD (v := p) (hp ▸ hd)]
  simp only [exact, ht, g1, g2, decide_true, Bool.true_and, hpos.ne', ↓reduceIte, not_lt.mpr ht0,
    not_lt.mpr ht1, or_self, Bool.false_eq_true]
  exact hv

/-! ## exit point of a ray from finitely many constraints -/

section Tight
variable {K : Type} [Field K] [LinearOrder K] [IsStrictOrderedRing K]

/-- constraints `c i * τ ≤ s i` with `s i ≥ 0` (all satisfied at `τ = 0`); if some `c i` is positive
there is a `τ ≥ 0` satisfying all of them with one of them (with positive `c i`) tight. -/
theorem exists_tight {ι : Type} (c s : ι → K) : ∀ (I : List ι), (∀ i ∈ I, 0 ≤ s i) →
    (∃ i ∈ I, 0 < c i) →
    ∃ τ, 0 ≤ τ ∧ (∀ i ∈ I, c i * τ ≤ s i) ∧ ∃ i ∈ I, 0 < c i ∧ c i * τ = s i
  | [], _, hpos => by obtain ⟨p, hp, _⟩ := hpos; simp at hp
  | p :: I, hs, hpos => by
    have hsI : ∀ q ∈ I, 0 ≤ s q := fun q hq => hs q (List.mem_cons_of_mem _ hq)
    have hp2 : 0 ≤ s p := hs p (List.mem_cons_self ..)
    -- the candidate `τ = s p / c p`, once `c p > 0` and the other constraints hold there
    have stop : 0 < c p → (∀ q ∈ I, c q * (s p / c p) ≤ s q) →
        ∃ τ, 0 ≤ τ ∧ (∀ i ∈ p :: I, c i * τ ≤ s i) ∧ ∃ i ∈ p :: I, 0 < c i ∧ c i * τ = s i := by
      intro hp1 hrest
      have e : c p * (s p / c p) = s p := mul_div_cancel₀ _ hp1.ne'
      exact ⟨s p / c p, div_nonneg hp2 hp1.le, List.forall_mem_cons.mpr ⟨e.le, hrest⟩,
        p, List.mem_cons_self .., hp1, e⟩
    by_cases hposI : ∃ q ∈ I, 0 < c q
    · obtain ⟨τ', h0, hall, q0, hq0, hq0pos, htight⟩ := exists_tight c s I hsI hposI
      by_cases hp : c p * τ' ≤ s p
      · exact ⟨τ', h0, List.forall_mem_cons.mpr ⟨hp, hall⟩, q0, List.mem_cons_of_mem _ hq0, hq0pos,
          htight⟩
      · -- constraint `p` fails at `τ'`: stop earlier, where it is tight
        have hp1 : 0 < c p := by
          by_contra hneg
          exact hp ((mul_nonpos_of_nonpos_of_nonneg (not_lt.mp hneg) h0).trans hp2)
        have hττ : s p / c p ≤ τ' := by
          rw [div_le_iff₀ hp1, mul_comm]; exact (not_le.mp hp).le
        refine stop hp1 fun q hq => ?_
        rcases le_total 0 (c q) with hq1 | hq1
        · exact (mul_le_mul_of_nonneg_left hττ hq1).trans (hall q hq)
        · exact (mul_nonpos_of_nonpos_of_nonneg hq1 (div_nonneg hp2 hp1.le)).trans (hsI q hq)
    · have hp1 : 0 < c p := by
        obtain ⟨q, hq, hq1⟩ := hpos
        rcases List.mem_cons.mp hq with rfl | hq
        · exact hq1
        · exact absurd ⟨q, hq, hq1⟩ hposI
      refine stop hp1 fun q hq => ?_
      have hq1 : c q ≤ 0 := not_lt.mp fun h => hposI ⟨q, hq, h⟩
      exact (mul_nonpos_of_nonpos_of_nonneg hq1 (div_nonneg hp2 hp1.le)).trans (hsI q hq)

end Tight

/-! ## a point of a segment between two members below `p` -/

section Seg
variable {L : Type} [Field L] [LinearOrder L] [IsStrictOrderedRing L]

/-- **Case analysis in `ℚᴺ`.**  If the point `r = A + s (B − A)`, `s ∈ [0,1]`, of the segment between
the members `A`, `B` at positions `i ≠ j` of the polytope list is componentwise `≤ p`, the routine
answers `true`: by the vertex test on `A`, or by the pair `(B, A)` at the first coordinate that
becomes tight when walking from `r` back towards `A`.  The parameter `s` may live in any ordered
field `L ⊇ ℚ` (real witnesses). -/
theorem seg_hit {poly : List Vec} {i j N : Nat} {A B p : Vec} {s : L}
    (hi : poly[i]? = some A) (hj : poly[j]? = some B) (hij : i ≠ j)
    (hdim : polyDim poly = N) (hA : A.length = N) (hB : B.length = N) (hp : p.length = N)
    (hs0 : 0 ≤ s) (hs1 : s ≤ 1)
    (hr : ∀ k < N, (A.getD k 0 : L) + s * ((B.getD k 0 : L) - A.getD k 0) ≤ p.getD k 0) :
    isPtIn exact false p poly = true := by
  by_cases hAp : vle A p = true
  · exact isPtIn_of_vertex (List.mem_of_getElem? hi) hAp
  -- some coordinate `k0` of `A` exceeds `p`; there `B` is below `A`
  have hAp := mt (vle_of_getD A p) hAp
  simp only [not_forall, not_le, hA] at hAp
  obtain ⟨k0, hk0, hk0A⟩ := hAp
  have hk0L : (p.getD k0 0 : L) < A.getD k0 0 := Rat.cast_lt.mpr hk0A
  have hk0B : (B.getD k0 0 : L) < A.getD k0 0 := lt_of_not_ge fun h =>
    (((le_add_of_nonneg_right (mul_nonneg hs0 (sub_nonneg.mpr h))).trans (hr k0 hk0)).trans_lt
      hk0L).false
  -- after `τ` steps back the parameter is `s − τ`; constraint `k` reads `(A_k − B_k) τ ≤ p_k − r_k`
  obtain ⟨τ, hτ0, hall, d, hd, hdpos, htight⟩ := exists_tight
    (fun k => (A.getD k 0 : L) - B.getD k 0)
    (fun k => (p.getD k 0 : L) - ((A.getD k 0 : L) + s * ((B.getD k 0 : L) - A.getD k 0)))
    (List.range N) (fun k hk => sub_nonneg.mpr (hr k (List.mem_range.mp hk)))
    ⟨k0, List.mem_range.mpr hk0, sub_pos.mpr hk0B⟩
  have hd : d < N := List.mem_range.mp hd
  -- `A` itself (`τ = s`) violates constraint `k0`
  have hτs : τ < s :=
    lt_of_mul_lt_mul_left
      ((hall k0 (List.mem_range.mpr hk0)).trans_lt (by linear_combination hk0L))
      (sub_pos.mpr hk0B).le
  have hab : B.getD d 0 < A.getD d 0 := Rat.cast_lt.mp (sub_pos.mp hdpos)
  -- the parameter the routine computes for the pair `(B, A)` at coordinate `d` is `1 − (s − τ)`
  have htd : (p.getD d 0 - B.getD d 0) / (A.getD d 0 - B.getD d 0) * (A.getD d 0 - B.getD d 0) =
      p.getD d 0 - B.getD d 0 := div_mul_cancel₀ _ (sub_pos.mpr hab).ne'
  generalize (p.getD d 0 - B.getD d 0) / (A.getD d 0 - B.getD d 0) = t at htd
  have htL : (t : L) = 1 - s + τ := by
    have h := congrArg (Rat.cast : Rat → L) htd
    simp only [Rat.cast_mul, Rat.cast_sub] at h
    apply mul_right_cancel₀ hdpos.ne'
    rw [h]
    linear_combination (-1 : L) * htight
  refine isPtIn_of_edge hj hi hij.symm (hdim ▸ hd)
    (edgeHit_of_param hB hA hp hd (t := t) ?_ ?_ hab htd fun k hk => ?_)
  · exact Rat.cast_nonneg (K := L).mp (htL ▸ add_nonneg (sub_nonneg.mpr hs1) hτ0)
  · refine Rat.cast_le (K := L).mp ?_
    rw [Rat.cast_one, htL]
    linear_combination hτs.le
  · refine Rat.cast_le (K := L).mp ?_
    simp only [Rat.cast_add, Rat.cast_mul, Rat.cast_sub]
    rw [htL]
    linear_combination hall k (List.mem_range.mpr hk)

/-- **A witness on a segment between two of the points suffices.**  For any cone matrix and any list
of points (of one length): if some point `y` of the segment between the members at positions `i ≠ j`
has `W y ≤ W x`, the routine run on `W x` and the images of the points answers `true`. -/
theorem isPtIn_of_seg_witness {W : Mat} {pts : List Vec} {i j : Nat} {a b x : Vec} {s : L}
    (hi : pts[i]? = some a) (hj : pts[j]? = some b) (hij : i ≠ j) (hab : a.length = b.length)
    (hs0 : 0 ≤ s) (hs1 : s ≤ 1)
    (h : ∀ w ∈ W, gdot (castV w) (comb s (castV a) (castV b)) ≤ ((dot w x : Rat) : L)) :
    isPtIn exact false (matVec W x) (pts.map (matVec W)) = true := by
  have hlen : ∀ v : Vec, (matVec W v).length = W.length := fun v => List.length_map _
  have hdim : polyDim (pts.map (matVec W)) = W.length := by
    cases pts with
    | nil => simp at hi
    | cons v _ => exact hlen v
  refine seg_hit (by rw [List.getElem?_map, hi]; rfl) (by rw [List.getElem?_map, hj]; rfl) hij hdim
    (hlen a) (hlen b) (hlen x) hs0 hs1 fun k hk => ?_
  have := h W[k] (List.getElem_mem hk)
  rw [gdot_comb _ _ _ _ (by simp [hab]), gdot_castV, gdot_castV, gdot_eq_dot, gdot_eq_dot] at this
  rw [matVec_getD W a k hk, matVec_getD W b k hk, matVec_getD W x k hk]
  exact this

end Seg

/-! ## the specification of the routine -/

/-- some point of a segment between two members of `poly` is componentwise `≤ p` -/
def SegWit (poly : List Vec) (p : Vec) : Prop :=
  ∃ v1 ∈ poly, ∃ v2 ∈ poly, ∃ t : Rat, 0 ≤ t ∧ t ≤ 1 ∧ vle (comb t v1 v2) p = true

/-- **What `is_pt_in_extended_polytope` decides** in exact arithmetic, for points of one length. -/
theorem isPtIn_iff {p : Vec} {poly : List Vec} (hlen : ∀ v ∈ poly, v.length = p.length) :
    isPtIn exact false p poly = true ↔ SegWit poly p := by
  refine ⟨isPtIn_sound, ?_⟩
  rintro ⟨v1, h1, v2, h2, t, h0, h1t, hle⟩
  obtain ⟨i, hi, rfl⟩ := List.getElem_of_mem h1
  obtain ⟨j, hj, rfl⟩ := List.getElem_of_mem h2
  by_cases hij : i = j
  · subst hij
    rw [comb_self] at hle
    exact isPtIn_of_vertex h1 hle
  · have hdim : polyDim poly = p.length := by
      cases poly with
      | nil => simp at hi
      | cons v _ => exact hlen v (List.mem_cons_self ..)
    have hab : poly[i].length = poly[j].length := (hlen _ h1).trans (hlen _ h2).symm
    refine seg_hit (L := Rat) (List.getElem?_eq_getElem hi) (List.getElem?_eq_getElem hj) hij hdim
      (hlen _ h1) (hlen _ h2) rfl h0 h1t fun k hk => ?_
    have := getD_le_of_vle _ p hle k (by rw [comb_length _ _ _ hab, hlen _ h1]; exact hk) hk
    rw [comb, getD_zipWith _ _ _ _ (hlen _ h1 ▸ hk) (hlen _ h2 ▸ hk) 0 0 0] at this
    simpa using this

/-- **What `check_dominates` decides** in exact arithmetic, for all inputs. -/
theorem checkDominates_iff (W : Mat) (l1 u1 l2 u2 : Vec) :
    checkDominates W l1 u1 l2 u2 = true ↔
      ∀ x ∈ vertices l1 u1, SegWit ((vertices l2 u2).map (matVec W)) (matVec W x) := by
  simp only [checkDominates, checkDominatesR, List.all_map, List.all_eq_true, Function.comp]
  refine forall₂_congr fun x _ => isPtIn_iff fun v hv => ?_
  obtain ⟨a, -, rfl⟩ := List.mem_map.mp hv
  simp [matVec]

end VOPy.Pess
