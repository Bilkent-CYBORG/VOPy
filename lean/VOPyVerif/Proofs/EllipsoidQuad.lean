import VOPyVerif.Proofs.Ellipsoid
import Mathlib.LinearAlgebra.Matrix.NonsingularInverse
/-!
# Ellipsoids in quadratic-form presentation

`EllQ c Σ a = {z | 0 ≤ a ∧ (z − c)ᵀ Σ⁻¹ (z − c) ≤ a²}` is the feasible set of the code's constraint
`‖Σ^{-1/2}(z − c)‖ ≤ a` (empty for `a < 0`).  For `Σ = L Lᵀ` with `L` invertible and `a ≥ 0` it is
the image `Ell c L a = {c + a·L u | ‖u‖ ≤ 1}` used in `Proofs/Ellipsoid.lean`.
-/
namespace VOPy.Ellipsoid
open Matrix

variable {m N : ℕ}

/-- `{z | 0 ≤ a ∧ (z − c)ᵀ Σ⁻¹ (z − c) ≤ a²}` -/
def EllQ (c : Fin m → ℝ) (S : Matrix (Fin m) (Fin m) ℝ) (a : ℝ) : Set (Fin m → ℝ) :=
  {z | 0 ≤ a ∧ (z - c) ⬝ᵥ (S⁻¹ *ᵥ (z - c)) ≤ a ^ 2}

theorem quad_inv_eq (L : Matrix (Fin m) (Fin m) ℝ) (y : Fin m → ℝ) :
    y ⬝ᵥ ((L * Lᵀ)⁻¹ *ᵥ y) = ∑ j, (L⁻¹ *ᵥ y) j ^ 2 := by
  have e : (L * Lᵀ)⁻¹ = (L⁻¹)ᵀ * ((L⁻¹)ᵀ)ᵀ := by
    rw [Matrix.mul_inv_rev, transpose_transpose, transpose_nonsing_inv]
  rw [e, quad_eq_sum_sq, vecMul_transpose]

theorem sum_sq_smul (a : ℝ) (u : Fin m → ℝ) : ∑ j, (a • u) j ^ 2 = a ^ 2 * ∑ j, u j ^ 2 := by
  rw [Finset.mul_sum]
  exact Finset.sum_congr rfl fun j _ => mul_pow a (u j) 2

theorem ell_eq_ellQ (c : Fin m → ℝ) (L : Matrix (Fin m) (Fin m) ℝ) (a : ℝ) (hdet : L.det ≠ 0)
    (ha : 0 ≤ a) : Ell c L a = EllQ c (L * Lᵀ) a := by
  have hu : IsUnit L.det := isUnit_iff_ne_zero.mpr hdet
  ext z
  simp only [Ell, EllQ, Set.mem_ofPred_eq, quad_inv_eq]
  constructor
  · rintro ⟨u, hu1, rfl⟩
    rw [add_sub_cancel_left, mulVec_smul, mulVec_mulVec, nonsing_inv_mul _ hu, one_mulVec,
      sum_sq_smul]
    exact ⟨ha, mul_le_of_le_one_right (sq_nonneg a) hu1⟩
  · rintro ⟨_, hq⟩
    have hLv : L *ᵥ (L⁻¹ *ᵥ (z - c)) = z - c := by
      rw [mulVec_mulVec, mul_nonsing_inv _ hu, one_mulVec]
    generalize L⁻¹ *ᵥ (z - c) = v at hq hLv
    refine ⟨a⁻¹ • v, ?_, ?_⟩
    · rw [sum_sq_smul, inv_pow]
      exact inv_mul_le_one_of_le₀ hq (sq_nonneg a)
    · rw [mulVec_smul, smul_smul]
      rcases ha.eq_or_lt with rfl | hpos
      · -- radius `0`: `‖v‖² ≤ 0` forces `v = 0`, i.e. `z = c`
        have h0 : ∑ j, v j ^ 2 = 0 :=
          le_antisymm (hq.trans_eq (zero_pow two_ne_zero)) (Finset.sum_nonneg fun j _ => sq_nonneg _)
        have hv : v = 0 := funext fun j => pow_eq_zero_iff two_ne_zero |>.1
          ((Finset.sum_eq_zero_iff_of_nonneg fun j _ => sq_nonneg (v j)).1 h0 j (Finset.mem_univ j))
        rw [hv, mulVec_zero] at hLv
        rw [zero_mul, zero_smul, add_zero]
        exact sub_eq_zero.1 hLv.symm
      · rw [mul_inv_cancel₀ hpos.ne', one_smul, hLv, add_sub_cancel]

/-- **Semantic predicate (ellipsoids, quadratic-form regions)**:
`∀ z ∈ {(z−c₁)ᵀΣ₁⁻¹(z−c₁) ≤ a₁²}, ∀ z' ∈ {(z'−c₂)ᵀΣ₂⁻¹(z'−c₂) ≤ a₂²}, ∀ n, w_n·(z' − z) ≥ −s_n`
(regions with a negative radius are empty). -/
def DominatedQ (W : Fin N → Fin m → ℚ) (c1 : Fin m → ℚ) (S1 : Matrix (Fin m) (Fin m) ℝ) (a1 : ℚ)
    (c2 : Fin m → ℚ) (S2 : Matrix (Fin m) (Fin m) ℝ) (a2 : ℚ) (s : Fin N → ℚ) : Prop :=
  ∀ z ∈ EllQ (castVec c1) S1 a1, ∀ z' ∈ EllQ (castVec c2) S2 a2, ∀ n,
    -(s n : ℝ) ≤ castVec (W n) ⬝ᵥ (z' - z)

/-- the model against quadratic-form regions, any sign of the radii, `Σᵢ = Lᵢ Lᵢᵀ`, `Lᵢ` invertible -/
theorem isDominated_iff_quad (W : Fin N → Fin m → ℚ) (c1 c2 : Fin m → ℚ) (S1 S2 : Fin m → Fin m → ℚ)
    (a1 a2 : ℚ) (s : Fin N → ℚ) (L1 L2 : Matrix (Fin m) (Fin m) ℝ)
    (hL1 : (Matrix.of fun i j => (S1 i j : ℝ)) = L1 * L1ᵀ)
    (hL2 : (Matrix.of fun i j => (S2 i j : ℝ)) = L2 * L2ᵀ)
    (hd1 : L1.det ≠ 0) (hd2 : L2.det ≠ 0) :
    isDominated (toMat W) (toVec c1) (toMat S1) a1 (toVec c2) (toMat S2) a2 (toVec s) = true ↔
      DominatedQ W c1 (Matrix.of fun i j => (S1 i j : ℝ)) a1 c2 (Matrix.of fun i j => (S2 i j : ℝ)) a2 s := by
  by_cases hneg : a1 < 0 ∨ a2 < 0
  · -- a negative radius: the model answers `true`, and the region is empty
    have hm : isDominated (toMat W) (toVec c1) (toMat S1) a1 (toVec c2) (toMat S2) a2 (toVec s)
        = true := by
      simp only [isDominated, Bool.or_eq_true, decide_eq_true_eq, hneg, if_true]
    refine iff_of_true hm fun z hz z' hz' n => ?_
    rcases hneg with h | h
    · exact absurd hz.1 (not_le.2 (Rat.cast_lt_zero.2 h))
    · exact absurd hz'.1 (not_le.2 (Rat.cast_lt_zero.2 h))
  · rw [not_or, not_lt, not_lt] at hneg
    rw [isDominated_iff W c1 c2 S1 S2 a1 a2 s L1 L2 hL1 hL2 hneg.1 hneg.2]
    unfold Dominated DominatedQ
    rw [ell_eq_ellQ _ L1 _ hd1 (Rat.cast_nonneg.2 hneg.1), ell_eq_ellQ _ L2 _ hd2 (Rat.cast_nonneg.2 hneg.2), ← hL1, ← hL2]
end VOPy.Ellipsoid
