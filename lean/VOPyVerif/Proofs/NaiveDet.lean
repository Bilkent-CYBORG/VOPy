import VOPyVerif.Proofs.NaiveCone
import VOPyVerif.Proofs.Pareto
/-!
# C08 helper: the deterministic half of the PAC argument, over `ℝ × ℝ`

If every sample mean is within `ρ` of its true mean and `B2·(2ρ)² ≤ ε²` (`B2 = β²` from the planar
lemma) then the Pareto set of the sample means — computed by the shared `Pareto.fast` loop —
contains no design whose gap exceeds `ε` and `ε`-covers every design.
-/
namespace VOPy.Naive
open VOPy

/-- **gap of design `i` exceeds `ε`** (true means `mu 0 … mu (n-1)`): some design `j` dominates `i`
by more than `ε` in the sense of the paper's `m(i,j)`: there is `s > ε` such that
`μ_j − μ_i − s·u ∈ C` for every `u ∈ C` with `‖u‖ ≤ 1`.  (`m(i,j)` is the largest such `s`; VOPy's
`get_delta` computes `Δ_i = max_j m(i,j)`, so `Δ_i > ε` implies this predicate.) -/
def GapExceeds (W : Cone2) (mu : ℕ → ℝ × ℝ) (n i : ℕ) (ε : ℝ) : Prop :=
  ∃ j, j < n ∧ ∃ s, ε < s ∧ ∀ u, W.mem u → nsq u ≤ 1 → W.mem (mu j - mu i - s • u)

/-- **`x` is `ε`-covered by `y`**: `∃ z ∈ C, ‖z‖ ≤ ε, y + z − x ∈ C` — exactly the feasibility
problem of `vopy.utils.is_covered(vi = x, vj = y, eps, W)` (substitute `z = x' + (vi − vj)`). -/
def Covered (W : Cone2) (ε : ℝ) (x y : ℝ × ℝ) : Prop :=
  ∃ z, W.mem z ∧ nsq z ≤ ε ^ 2 ∧ W.mem (y + z - x)

open Classical in
/-- the cone order as a Boolean relation on `ℝ × ℝ` (`a` dominates `b`) -/
noncomputable def Cone2.domB (W : Cone2) (a b : ℝ × ℝ) : Bool := decide (W.mem (a - b))

theorem Cone2.domB_iff (W : Cone2) (a b : ℝ × ℝ) : W.domB a b = true ↔ W.mem (a - b) := by
  simp [Cone2.domB]

theorem Cone2.domB_refl (W : Cone2) (a : ℝ × ℝ) : W.domB a a = true := by
  rw [Cone2.domB_iff, sub_self]; exact W.mem_zero

theorem Cone2.domB_trans (W : Cone2) (a b c : ℝ × ℝ) (h1 : W.domB a b = true)
    (h2 : W.domB b c = true) : W.domB a c = true := by
  rw [Cone2.domB_iff] at *
  have := W.mem_add h1 h2
  rwa [sub_add_sub_cancel] at this

theorem nsq_sub_le (a b : ℝ × ℝ) : nsq (a - b) ≤ 2 * nsq a + 2 * nsq b := by
  simp only [nsq, Prod.fst_sub, Prod.snd_sub]
  linarith [sq_nonneg (a.1 + b.1), sq_nonneg (a.2 + b.2)]

/-- One facet of the strictness step, for a facet functional `f`.  `d = μ_j − μ_i` clears the margin
`s > ε` against an interior direction `u0` and against `z/ε`, and `f e ≤ f z`; then
`f e ≤ f z ≤ (ε/s)·f d < f d`. -/
theorem facet_strict (f : ℝ × ℝ → ℝ) (fsub : ∀ x y, f (x - y) = f x - f y)
    (fsmul : ∀ (t : ℝ) x, f (t • x) = t * f x) {ε s : ℝ} (hε : 0 < ε) (hs : ε < s)
    {d e z u0 : ℝ × ℝ} (hu0 : 0 < f u0) (h0 : 0 ≤ f (d - s • u0))
    (h1 : 0 ≤ f (d - s • (ε⁻¹ • z))) (hze : 0 ≤ f (z - e)) : 0 < f (d - e) := by
  rw [fsub, fsmul] at h0
  rw [fsub, fsmul, fsmul] at h1
  rw [fsub] at hze ⊢
  have hs0 : 0 < s := hε.trans hs
  have hd : 0 < f d := by have := mul_pos hs0 hu0; linarith
  have hfz : s * f z ≤ ε * f d := by
    have := mul_le_mul_of_nonneg_left (sub_nonneg.mp h1) hε.le
    rwa [mul_left_comm, mul_inv_cancel_left₀ hε.ne'] at this
  have hfe : s * f e ≤ s * f z := mul_le_mul_of_nonneg_left (sub_nonneg.mp hze) hs0.le
  have hlt : ε * f d < s * f d := mul_lt_mul_of_pos_right hs hd
  exact sub_pos.mpr (lt_of_mul_lt_mul_left (by linarith) hs0.le)

/-- If `d` clears the margin `s > ε` against every unit direction of the cone and the error `e` is
dominated by some `z ∈ C` with `‖z‖ ≤ ε`, then `d − e` is strictly inside the cone. -/
theorem strict_of_gap (W : Cone2) (hint : ∃ u0, nsq u0 ≤ 1 ∧ 0 < W.f1 u0 ∧ 0 < W.f2 u0)
    {ε s : ℝ} (hε : 0 < ε) (hs : ε < s) {d e z : ℝ × ℝ} (hz : W.mem z) (hzn : nsq z ≤ ε ^ 2)
    (hze : W.mem (z - e)) (hgap : ∀ u, W.mem u → nsq u ≤ 1 → W.mem (d - s • u)) :
    0 < W.f1 (d - e) ∧ 0 < W.f2 (d - e) := by
  obtain ⟨u0, hu0n, hu01, hu02⟩ := hint
  have hun : nsq (ε⁻¹ • z) ≤ 1 := by
    rw [nsq_smul, inv_pow, inv_mul_le_iff₀ (by positivity), mul_one]; exact hzn
  have hg1 := hgap _ (W.mem_smul (inv_nonneg.mpr hε.le) hz) hun
  have hg0 := hgap u0 ⟨hu01.le, hu02.le⟩ hu0n
  exact ⟨facet_strict W.f1 W.f1_sub W.f1_smul hε hs hu01 hg0.1 hg1.1 hze.1,
    facet_strict W.f2 W.f2_sub W.f2_smul hε hs hu02 hg0.2 hg1.2 hze.2⟩

/-- **Deterministic accuracy, real plane**, for any index list meeting the Pareto specification of
the sample means `xs`. -/
theorem det_real_of_spec (W : Cone2) (B2 : ℝ) (hB0 : 0 ≤ B2)
    (hPL : ∀ e, ∃ z, W.mem z ∧ W.mem (z - e) ∧ nsq z ≤ B2 * nsq e)
    (hint : ∃ u0, nsq u0 ≤ 1 ∧ 0 < W.f1 u0 ∧ 0 < W.f2 u0)
    (xs : List (ℝ × ℝ)) (mu : ℕ → ℝ × ℝ) (ε ρ : ℝ) (hε : 0 < ε)
    (hρ : B2 * (4 * ρ ^ 2) ≤ ε ^ 2)
    (hclose : ∀ i (h : i < xs.length), nsq (xs[i] - mu i) ≤ ρ ^ 2)
    (idx : List ℕ) (hP : Pareto.IsParetoIdx W.domB xs idx) :
    (∀ i ∈ idx, i < xs.length ∧ ¬ GapExceeds W mu xs.length i ε) ∧
    (∀ i, i < xs.length → ∃ k ∈ idx, k < xs.length ∧ Covered W ε (mu i) (mu k)) := by
  -- the planar lemma's `z` for the error difference of two designs has norm at most `ε`
  have herr : ∀ i j (hi : i < xs.length) (hj : j < xs.length),
      B2 * nsq ((xs[i] - mu i) - (xs[j] - mu j)) ≤ ε ^ 2 := by
    intro i j hi hj
    have h1 := nsq_sub_le (xs[i] - mu i) (xs[j] - mu j)
    have h2 := hclose i hi
    have h3 := hclose j hj
    exact (mul_le_mul_of_nonneg_left (by linarith) hB0).trans hρ
  constructor
  · intro i hi
    have hil := hP.valid i hi
    refine ⟨hil, ?_⟩
    rintro ⟨j, hj, s, hs, hgap⟩
    obtain ⟨z, hz, hze, hzn⟩ := hPL ((xs[i] - mu i) - (xs[j] - mu j))
    -- the sample mean of `j` strictly dominates that of `i`, which `i ∈ idx` forbids
    have hst := strict_of_gap W hint hε hs hz (hzn.trans (herr i j hil hj)) hze hgap
    have hde : mu j - mu i - ((xs[i] - mu i) - (xs[j] - mu j)) = xs[j] - xs[i] := by
      ext <;> simp only [Prod.fst_sub, Prod.snd_sub] <;> ring
    rw [hde] at hst
    have hback := hP.maximal i hi xs[i] (List.getElem?_eq_getElem hil) xs[j] (List.getElem_mem hj)
      ((W.domB_iff _ _).mpr ⟨hst.1.le, hst.2.le⟩)
    have hb1 := ((W.domB_iff _ _).mp hback).1
    have hs1 := hst.1
    rw [W.f1_sub] at hb1 hs1
    linarith
  · intro i hi
    obtain ⟨k, hk, a, hka, hdom⟩ := hP.cover xs[i] (List.getElem_mem hi)
    have hkl := hP.valid k hk
    obtain rfl : xs[k] = a := by
      rw [List.getElem?_eq_getElem hkl] at hka; exact Option.some.inj hka
    refine ⟨k, hk, hkl, ?_⟩
    obtain ⟨z, hz, hze, hzn⟩ := hPL ((xs[k] - mu k) - (xs[i] - mu i))
    refine ⟨z, hz, hzn.trans (herr k i hkl hi), ?_⟩
    have hsum : mu k + z - mu i = (xs[k] - xs[i]) + (z - ((xs[k] - mu k) - (xs[i] - mu i))) := by
      ext <;> simp only [Prod.fst_sub, Prod.snd_sub, Prod.fst_add, Prod.snd_add] <;> ring
    rw [hsum]
    exact W.mem_add ((W.domB_iff _ _).mp hdom) hze

/-- **Deterministic accuracy, real plane**, for the Pareto set computed by the shared loop. -/
theorem det_real (W : Cone2) (B2 : ℝ) (hB0 : 0 ≤ B2)
    (hPL : ∀ e, ∃ z, W.mem z ∧ W.mem (z - e) ∧ nsq z ≤ B2 * nsq e)
    (hint : ∃ u0, nsq u0 ≤ 1 ∧ 0 < W.f1 u0 ∧ 0 < W.f2 u0)
    (xs : List (ℝ × ℝ)) (mu : ℕ → ℝ × ℝ) (ε ρ : ℝ) (hε : 0 < ε)
    (hρ : B2 * (4 * ρ ^ 2) ≤ ε ^ 2)
    (hclose : ∀ i (h : i < xs.length), nsq (xs[i] - mu i) ≤ ρ ^ 2) :
    (∀ i ∈ Pareto.fast W.domB xs, i < xs.length ∧ ¬ GapExceeds W mu xs.length i ε) ∧
    (∀ i, i < xs.length →
      ∃ k ∈ Pareto.fast W.domB xs, k < xs.length ∧ Covered W ε (mu i) (mu k)) :=
  det_real_of_spec W B2 hB0 hPL hint xs mu ε ρ hε hρ hclose _
    (Pareto.fast_isParetoIdx_on W.domB xs (Pareto.PreorderOn.of_global W.domB_refl W.domB_trans xs))

end VOPy.Naive
