import VOPyVerif.Model.Acq
import VOPyVerif.Proofs.Pareto
import Mathlib.Data.List.Sort
import Mathlib.Data.List.Perm.Subperm
import Mathlib.Data.List.Count
import Mathlib.Algebra.Order.Ring.Rat
/-! For C07: what determines "the first `q` entries of the descending sort" of a value list,
`np.argmax`, and the pick loop of `optimize_acqf_discrete`, whose picks are those first `q`
entries. -/
namespace VOPy.Acq

/-- descending sort used in the statements -/
abbrev sortDesc (l : List Rat) : List Rat := l.insertionSort (· ≥ ·)

theorem sortDesc_perm (l : List Rat) : (sortDesc l).Perm l := List.perm_insertionSort _ l

theorem sortDesc_pairwise (l : List Rat) : (sortDesc l).Pairwise (· ≥ ·) :=
  List.pairwise_insertionSort _ l

theorem sortDesc_length (l : List Rat) : (sortDesc l).length = l.length :=
  (sortDesc_perm l).length_eq

theorem eq_of_perm_of_desc {l₁ l₂ : List Rat} (h₁ : l₁.Pairwise (· ≥ ·)) (h₂ : l₂.Pairwise (· ≥ ·))
    (hp : l₁.Perm l₂) : l₁ = l₂ :=
  hp.eq_of_pairwise (fun _ _ _ _ hab hba => le_antisymm hba hab) h₁ h₂

theorem sortDesc_congr {l₁ l₂ : List Rat} (hp : l₁.Perm l₂) : sortDesc l₁ = sortDesc l₂ :=
  eq_of_perm_of_desc (sortDesc_pairwise _) (sortDesc_pairwise _)
    ((sortDesc_perm l₁).trans (hp.trans (sortDesc_perm l₂).symm))

/-! ## the first `q` entries of the descending sort -/

/-- A descending list `T` that, together with some `rest` it dominates, makes up `L` is the
beginning of the descending sort of `L`. -/
theorem top_unique {T rest L : List Rat} (hperm : (T ++ rest).Perm L) (hT : T.Pairwise (· ≥ ·))
    (hdom : ∀ a ∈ T, ∀ b ∈ rest, b ≤ a) : T = (sortDesc L).take T.length := by
  have hdesc : (T ++ sortDesc rest).Pairwise (· ≥ ·) :=
    List.pairwise_append.mpr ⟨hT, sortDesc_pairwise _,
      fun a ha b hb => hdom a ha b ((sortDesc_perm _).mem_iff.mp hb)⟩
  have hp : (T ++ sortDesc rest).Perm (sortDesc L) :=
    ((List.Perm.append_left T (sortDesc_perm rest)).trans hperm).trans (sortDesc_perm L).symm
  rw [← eq_of_perm_of_desc hdesc (sortDesc_pairwise _) hp, List.take_left' rfl]

/-- the same for records carrying their value -/
theorem map_eq_take_sortDesc {α : Type} (val : α → Rat) {sel rest all : List α}
    (hperm : (sel ++ rest).Perm all) (hdesc : sel.Pairwise (fun a b => val b ≤ val a))
    (hdom : ∀ a ∈ sel, ∀ b ∈ rest, val b ≤ val a) :
    sel.map val = (sortDesc (all.map val)).take sel.length := by
  have h := top_unique (T := sel.map val) (rest := rest.map val) (L := all.map val)
    (by rw [← List.map_append]; exact hperm.map val) (List.pairwise_map.mpr hdesc)
    (by
      intro a ha b hb
      obtain ⟨a', ha', rfl⟩ := List.mem_map.mp ha
      obtain ⟨b', hb', rfl⟩ := List.mem_map.mp hb
      exact hdom a' ha' b' hb')
  rwa [List.length_map] at h

/-- conversely, the first `q` sorted entries dominate whatever completes them to `L` -/
theorem le_of_perm_take_sortDesc {rest L : List Rat} {q : Nat}
    (hperm : ((sortDesc L).take q ++ rest).Perm L) :
    ∀ a ∈ (sortDesc L).take q, ∀ b ∈ rest, b ≤ a := by
  have hsplit := List.take_append_drop q (sortDesc L)
  have hrest : rest.Perm ((sortDesc L).drop q) := by
    refine (List.perm_append_left_iff ((sortDesc L).take q)).mp ?_
    rw [hsplit]
    exact hperm.trans (sortDesc_perm L).symm
  have hpw := sortDesc_pairwise L
  rw [← hsplit] at hpw
  exact fun a ha b hb => (List.pairwise_append.mp hpw).2.2 a ha b (hrest.mem_iff.mp hb)

/-- the first `q` entries of a merge need only the first `q` entries of the left list -/
theorem take_merge_take (le : Rat → Rat → Bool) : ∀ (q : Nat) (X Y : List Rat),
    ((X.take q).merge Y le).take q = (X.merge Y le).take q
  | 0, _, _ => rfl
  | q + 1, [], Y => rfl
  | q + 1, x :: X, [] => by rw [List.merge_right, List.merge_right, List.take_take, Nat.min_self]
  | q + 1, x :: X, y :: Y => by
    rw [List.take_succ_cons, List.cons_merge_cons, List.cons_merge_cons]
    split
    · rw [List.take_succ_cons, List.take_succ_cons, take_merge_take le q X]
    · -- the head comes from the right: `q` more entries are needed, from the same left list
      rw [List.take_succ_cons, List.take_succ_cons, ← List.take_succ_cons (as := X),
        ← take_merge_take le q (x :: X) Y, ← take_merge_take le q ((x :: X).take (q + 1)) Y,
        List.take_take, Nat.min_eq_left (Nat.le_succ q)]

/-- the descending sort of a concatenation is the merge of the two descending sorts -/
theorem sortDesc_append (A B : List Rat) :
    sortDesc (A ++ B) = (sortDesc A).merge (sortDesc B) (fun a b => decide (a ≥ b)) :=
  eq_of_perm_of_desc (sortDesc_pairwise _) ((sortDesc_pairwise A).merge (sortDesc_pairwise B))
    ((sortDesc_perm _).trans (((sortDesc_perm A).append (sortDesc_perm B)).symm.trans
      (List.merge_perm_append _).symm))

/-- merging step: replacing a block by its own top-`q` does not change the overall top-`q` -/
theorem take_sortDesc_merge (q : Nat) (A B : List Rat) :
    (sortDesc ((sortDesc A).take q ++ B)).take q = (sortDesc (A ++ B)).take q := by
  rw [sortDesc_append, sortDesc_append,
    eq_of_perm_of_desc (sortDesc_pairwise _) ((sortDesc_pairwise A).sublist (List.take_sublist q _))
      (sortDesc_perm _), take_merge_take]

theorem take_sortDesc_merge_right (q : Nat) (A B : List Rat) :
    (sortDesc (A ++ (sortDesc B).take q)).take q = (sortDesc (A ++ B)).take q := by
  rw [sortDesc_congr List.perm_append_comm, take_sortDesc_merge,
    sortDesc_congr List.perm_append_comm]

/-- the top-`q` of the concatenated per-row top-`q` lists is the top-`q` of all rows -/
theorem take_sortDesc_flatten (q : Nat) : ∀ rows : List (List Rat),
    (sortDesc (rows.map (fun r => (sortDesc r).take q)).flatten).take q
      = (sortDesc rows.flatten).take q
  | [] => rfl
  | A :: rest => by
    rw [List.map_cons, List.flatten_cons, List.flatten_cons, take_sortDesc_merge,
      ← take_sortDesc_merge_right q A (List.flatten _), take_sortDesc_flatten q rest,
      take_sortDesc_merge_right]

/-! ## list facts -/

theorem subperm_map {α β : Type} (f : α → β) {l₁ l₂ : List α} (h : l₁.Subperm l₂) :
    (l₁.map f).Subperm (l₂.map f) := by
  obtain ⟨l, hp, hs⟩ := h
  exact ⟨l.map f, hp.map f, hs.map f⟩

theorem nodup_of_subperm {α : Type} {l₁ l₂ : List α} (h : l₁.Subperm l₂) (h₂ : l₂.Nodup) :
    l₁.Nodup := by
  obtain ⟨l, hp, hs⟩ := h
  exact hp.nodup_iff.mp (h₂.sublist hs)

theorem subperm_flatMap {α β : Type} {f g : α → List β} (h : ∀ a, (f a).Subperm (g a)) :
    ∀ l : List α, (l.flatMap f).Subperm (l.flatMap g)
  | [] => List.Subperm.refl _
  | a :: l => by
    rw [List.flatMap_cons, List.flatMap_cons]
    exact (h a).append (subperm_flatMap h l)

theorem nodup_iff_not_mem_take {α : Type} (l : List α) :
    l.Nodup ↔ ∀ k (hk : k < l.length), l[k] ∉ l.take k := by
  rw [List.Nodup, List.pairwise_iff_getElem]
  constructor
  · intro h k hk hm
    obtain ⟨i, hi, heq⟩ := List.mem_iff_getElem.mp hm
    rw [List.length_take] at hi
    rw [List.getElem_take] at heq
    exact h i k (by omega) hk (by omega) heq
  · intro h i j hi hj hij heq
    apply h j hj
    rw [← heq]
    exact List.mem_iff_getElem.mpr ⟨i, by rw [List.length_take]; omega, by rw [List.getElem_take]⟩

/-- Records selected from `all` with pairwise different keys, the keys of `all` being pairwise
different too: what is left of `all` has none of the selected keys. -/
theorem exists_perm_append_of_nodup_keys {α κ : Type} [DecidableEq α] (key : α → κ)
    {sel all : List α} (hsub : ∀ e ∈ sel, e ∈ all) (hsel : (sel.map key).Nodup)
    (hall : (all.map key).Nodup) :
    ∃ rest, (sel ++ rest).Perm all ∧ ∀ b ∈ rest, key b ∉ sel.map key := by
  have hperm : (sel ++ all.diff sel).Perm all :=
    List.subperm_append_diff_self_of_count_le
      (List.subperm_ext_iff.mp (List.subperm_of_subset (List.Nodup.of_map _ hsel) hsub))
  refine ⟨_, hperm, fun b hb hm => ?_⟩
  have hk := (hperm.map key).nodup_iff.mpr hall
  rw [List.map_append] at hk
  exact (List.nodup_append.mp hk).2.2 _ hm _ (List.mem_map_of_mem hb) rfl

/-- two lists drawn from a list on which `f` is injective and with equal `f`-images are equal -/
theorem eq_of_map_eq_of_inj {α β : Type} (f : α → β) {l : List α} (hl : (l.map f).Nodup)
    {P P' : List α} (h1 : ∀ p ∈ P, p ∈ l) (h2 : ∀ p ∈ P', p ∈ l) (h : P.map f = P'.map f) :
    P = P' := by
  have hlen : P.length = P'.length := by rw [← List.length_map f, h, List.length_map]
  refine List.ext_getElem hlen fun i hi hi' => ?_
  refine List.inj_on_of_nodup_map hl (h1 _ (List.getElem_mem hi)) (h2 _ (List.getElem_mem hi')) ?_
  have hf := List.getElem_of_eq h (by rw [List.length_map]; exact hi)
  rwa [List.getElem_map, List.getElem_map] at hf

/-! ## `np.argmax` -/

theorem argmax_cons (x : Rat) (xs : List Rat) : argmax (x :: xs) =
    match argmax xs with
    | none => some (0, x)
    | some (j, v) => if x < v then some (j + 1, v) else some (0, x) := rfl

theorem argmax_eq_none {l : List Rat} : argmax l = none ↔ l = [] := by
  cases l with
  | nil => exact ⟨fun _ => rfl, fun _ => rfl⟩
  | cons x xs =>
    refine ⟨fun h => ?_, fun h => nomatch h⟩
    rw [argmax_cons] at h
    split at h
    · cases h
    · split at h <;> cases h

/-- `argmax` returns a position holding the maximum, and every earlier position holds a strictly
smaller value (first maximal position). -/
theorem argmax_spec : ∀ {l : List Rat} {j : Nat} {v : Rat}, argmax l = some (j, v) →
    l[j]? = some v ∧ (∀ x ∈ l, x ≤ v) ∧ (∀ i, i < j → ∀ x, l[i]? = some x → x < v)
  | [], _, _, h => nomatch h
  | x :: xs, j, v, h => by
    rw [argmax_cons] at h
    split at h
    · rename_i hx
      cases h
      cases argmax_eq_none.mp hx
      exact ⟨rfl, fun y hy => (List.mem_singleton.mp hy).le, fun i hi => absurd hi (Nat.not_lt_zero i)⟩
    · rename_i j' v' hx
      obtain ⟨h1, h2, h3⟩ := argmax_spec hx
      split at h
      · rename_i hlt
        cases h
        refine ⟨h1, fun y hy => ?_, fun i hi y hy => ?_⟩
        · rcases List.mem_cons.mp hy with rfl | hy
          · exact hlt.le
          · exact h2 y hy
        · cases i with
          | zero => cases hy; exact hlt
          | succ i => exact h3 i (Nat.lt_of_succ_lt_succ hi) y hy
      · rename_i hlt
        cases h
        refine ⟨rfl, fun y hy => ?_, fun i hi => absurd hi (Nat.not_lt_zero i)⟩
        rcases List.mem_cons.mp hy with rfl | hy
        · exact le_refl _
        · exact le_trans (h2 y hy) (not_lt.mp hlt)

/-! ## the pick loop

`pickLoop q rem` lists the first `q` rows of `rem` in pick order (`pickLoop_eq`); what the loop
guarantees is read off the sort. -/

@[simp] theorem pickLoop_zero (rem : List (Nat × Rat)) : pickLoop 0 rem = [] := rfl

@[simp] theorem pickLoop_nil (q : Nat) : pickLoop q [] = [] := by
  cases q <;> rfl

/-- pick order: larger value first, among equal values the smaller position first -/
def pickLE (a b : Nat × Rat) : Prop := b.2 < a.2 ∨ (a.2 = b.2 ∧ a.1 ≤ b.1)

instance : DecidableRel pickLE := fun _ _ => inferInstanceAs (Decidable (_ ∨ _))

theorem pickLE.of_lt {a b : Nat × Rat} (h : b.2 < a.2) : pickLE a b := Or.inl h

theorem pickLE.of_eq {a b : Nat × Rat} (hv : a.2 = b.2) (h : a.1 ≤ b.1) : pickLE a b := Or.inr ⟨hv, h⟩

theorem pickLE.le {a b : Nat × Rat} (h : pickLE a b) : b.2 ≤ a.2 := h.elim le_of_lt fun h => h.1.ge

/-- among equal values the pick order is the order of the positions -/
theorem pickLE.fst_le {a b : Nat × Rat} (h : pickLE a b) (hv : b.2 = a.2) : a.1 ≤ b.1 :=
  h.elim (fun h' => absurd hv h'.ne) fun h' => h'.2

instance : Std.Total pickLE where
  total a b := by
    rcases lt_trichotomy a.2 b.2 with h | h | h
    · exact Or.inr (.of_lt h)
    · exact (Nat.le_total a.1 b.1).imp (.of_eq h) (.of_eq h.symm)
    · exact Or.inl (.of_lt h)

instance : IsTrans (Nat × Rat) pickLE where
  trans a b c := by
    rintro (h1 | ⟨h1, h1'⟩) (h2 | ⟨h2, h2'⟩)
    · exact .of_lt (h2.trans h1)
    · exact .of_lt (h2 ▸ h1)
    · exact .of_lt (h1 ▸ h2)
    · exact .of_eq (h1.trans h2) (h1'.trans h2')

instance : Std.Antisymm pickLE where
  antisymm _ _ h1 h2 :=
    have hv := le_antisymm h1.le h2.le
    Prod.ext (Nat.le_antisymm (h1.fst_le hv) (h2.fst_le hv.symm)) hv.symm

/-- With increasing position tags, the row at the first position of a maximal value comes first in
pick order: it heads the sort, and the rest of the sort is the sort of the other rows. -/
theorem insertionSort_of_argmax {rem : List (Nat × Rat)} {j : Nat} {v : Rat}
    (hinc : rem.Pairwise (fun a b => a.1 < b.1)) (h : argmax (rem.map (·.2)) = some (j, v)) :
    ∃ e, rem[j]? = some e ∧ e.2 = v ∧
      rem.insertionSort pickLE = e :: (rem.eraseIdx j).insertionSort pickLE := by
  obtain ⟨h1, h2, h3⟩ := argmax_spec h
  rw [List.getElem?_map, Option.map_eq_some_iff] at h1
  obtain ⟨e, he, rfl⟩ := h1
  obtain ⟨hj, rfl⟩ := List.getElem?_eq_some_iff.mp he
  refine ⟨_, he, rfl, ?_⟩
  rw [← List.insertionSort_cons_of_forall_rel (r := pickLE) fun b hb => ?_]
  · exact ((List.perm_insertionSort _ _).trans ((List.getElem_cons_eraseIdx_perm hj).symm.trans
      (List.perm_insertionSort _ _).symm)).eq_of_pairwise' (List.pairwise_insertionSort _ _)
      (List.pairwise_insertionSort _ _)
  · -- another row `b = rem[i]` is smaller, or as large and then behind position `j`
    obtain ⟨i, hi, hij, rfl⟩ := List.mem_eraseIdx_iff_getElem.mp hb
    rcases lt_or_eq_of_le (h2 _ (List.mem_map_of_mem (List.getElem_mem hi))) with hlt | heq
    · exact .of_lt hlt
    · have hji : j < i := lt_of_le_of_ne (Nat.le_of_not_lt fun hlt =>
        (h3 i hlt _ (by rw [List.getElem?_map, List.getElem?_eq_getElem hi]; rfl)).ne heq) (Ne.symm hij)
      exact .of_eq heq.symm (List.pairwise_iff_getElem.mp hinc j i hj hi hji).le

/-- **The pick loop lists the first `q` rows in pick order** (position tags increasing). -/
theorem pickLoop_eq : ∀ (q : Nat) {rem : List (Nat × Rat)}, rem.Pairwise (fun a b => a.1 < b.1) →
    pickLoop q rem = (rem.insertionSort pickLE).take q
  | 0, _, _ => rfl
  | q + 1, rem, hinc => by
    cases ha : argmax (rem.map (·.2)) with
    | none => cases List.map_eq_nil_iff.mp (argmax_eq_none.mp ha); rfl
    | some p =>
      obtain ⟨e, he, hv, hs⟩ := insertionSort_of_argmax (j := p.1) (v := p.2) hinc ha
      rw [hs, List.take_succ_cons, ← pickLoop_eq q (hinc.sublist (List.eraseIdx_sublist _ _))]
      simp only [pickLoop, ha, he, ← hv]

section
variable {rem : List (Nat × Rat)}

/-- Everything the loop guarantees about the picked rows as a multiset: together with some `rest`
they are exactly the remainder it started from, they come out in non-increasing order, every pick
is at least as large as everything left, and `min q n` rows are picked. -/
theorem pickLoop_split (q : Nat) (hinc : rem.Pairwise (fun a b => a.1 < b.1)) :
    ∃ rest, (pickLoop q rem ++ rest).Perm rem ∧
      (∀ a ∈ pickLoop q rem, ∀ b ∈ rest, b.2 ≤ a.2) ∧
      (pickLoop q rem).Pairwise (fun a b => b.2 ≤ a.2) ∧
      (pickLoop q rem).length = min q rem.length := by
  have hpw := List.pairwise_insertionSort pickLE rem
  rw [← List.take_append_drop q (rem.insertionSort pickLE), List.pairwise_append] at hpw
  rw [pickLoop_eq q hinc]
  exact ⟨_, (List.take_append_drop q _ ▸ List.perm_insertionSort pickLE rem),
    fun a ha b hb => (hpw.2.2 a ha b hb).le, hpw.1.imp pickLE.le,
    by rw [List.length_take, List.length_insertionSort]⟩

/-- The values picked by the loop, in pick order, are the first `q` entries of the descending sort
of the values it started from. -/
theorem pickLoop_values (q : Nat) (hinc : rem.Pairwise (fun a b => a.1 < b.1)) :
    (pickLoop q rem).map (·.2) = (sortDesc (rem.map (·.2))).take q := by
  obtain ⟨rest, hp, hdom, hpw, hlen⟩ := pickLoop_split q hinc
  have h := map_eq_take_sortDesc (fun p : Nat × Rat => p.2) hp hpw hdom
  rw [h, hlen, List.take_eq_take_min (i := q), sortDesc_length, List.length_map]

/-- `np.argmax` tie rule along the whole loop: the `k`-th pick is at least as large as every row not
picked before it, and among the rows of equal value it has the smallest position. -/
theorem pickLoop_first (q : Nat) (hinc : rem.Pairwise (fun a b => a.1 < b.1))
    (k : Nat) (hk : k < (pickLoop q rem).length) (x : Nat × Rat) (hx : x ∈ rem)
    (hnot : x.1 ∉ ((pickLoop q rem).take k).map (·.1)) :
    x.2 ≤ ((pickLoop q rem)[k]).2 ∧ (x.2 = ((pickLoop q rem)[k]).2 → ((pickLoop q rem)[k]).1 ≤ x.1) := by
  have hpw := List.pairwise_insertionSort pickLE rem
  simp only [pickLoop_eq q hinc] at hk hnot ⊢
  rw [List.length_take] at hk
  rw [List.take_take, Nat.min_eq_left (Nat.lt_min.mp hk).1.le] at hnot
  obtain ⟨i, hi, rfl⟩ := List.getElem_of_mem ((List.mem_insertionSort pickLE).mpr hx)
  rw [List.getElem_take]
  -- `x` sits at a place `i ≥ k` of the sorted list
  have hki : k ≤ i := Nat.le_of_not_lt fun h => hnot (List.mem_map_of_mem
    (List.mem_take_iff_getElem.mpr ⟨i, Nat.lt_min.mpr ⟨h, hi⟩, rfl⟩))
  rcases Nat.eq_or_lt_of_le hki with rfl | hlt
  · exact ⟨le_refl _, fun _ => le_refl _⟩
  · have h := List.pairwise_iff_getElem.mp hpw k i (Nat.lt_min.mp hk).2 hi hlt
    exact ⟨h.le, h.fst_le⟩

/-- a batch of size `q` is the beginning of every larger batch (the loop is greedy) -/
theorem pickLoop_take (q k : Nat) (hinc : rem.Pairwise (fun a b => a.1 < b.1)) :
    pickLoop q rem = (pickLoop (q + k) rem).take q := by
  rw [pickLoop_eq q hinc, pickLoop_eq _ hinc, List.take_take, Nat.min_eq_left (Nat.le_add_right q k)]

/-- The loop before fix commit 00d0f01 raises exactly when the batch is larger than the remainder,
and agrees with the fixed loop otherwise. -/
theorem pickLoopPreFix_eq : ∀ (q : Nat) {rem : List (Nat × Rat)}, rem.Pairwise (fun a b => a.1 < b.1) →
    pickLoopPreFix q rem = if q ≤ rem.length then some (pickLoop q rem) else none
  | 0, rem, _ => by rw [if_pos (Nat.zero_le _)]; rfl
  | q + 1, rem, hinc => by
    cases ha : argmax (rem.map (·.2)) with
    | none => cases List.map_eq_nil_iff.mp (argmax_eq_none.mp ha); rfl
    | some p =>
      obtain ⟨e, he, -, -⟩ := insertionSort_of_argmax (j := p.1) (v := p.2) hinc ha
      have hjl : p.1 < rem.length := (List.getElem?_eq_some_iff.mp he).1
      simp only [pickLoopPreFix, pickLoop, ha, he,
        pickLoopPreFix_eq q (hinc.sublist (List.eraseIdx_sublist _ _)), List.length_eraseIdx_of_lt hjl]
      by_cases hq : q + 1 ≤ rem.length
      · rw [if_pos hq, if_pos (Nat.le_sub_one_of_lt hq)]; rfl
      · rw [if_neg hq, if_neg (by omega)]; rfl

end

/-! ## `indexed` -/

theorem indexed_getElem? (vals : List Rat) (i : Nat) :
    (indexed vals)[i]? = vals[i]?.map (fun v => (i, v)) := by
  rw [indexed, List.getElem?_map, List.getElem?_zipIdx, Option.map_map, Nat.zero_add]
  rfl

/-- `indexed vals` unfolds to the same term as `Pareto.indexed vals` -/
theorem mem_indexed {vals : List Rat} {p : Nat × Rat} : p ∈ indexed vals ↔ vals[p.1]? = some p.2 :=
  Pareto.mem_indexed

theorem indexed_map_snd (vals : List Rat) : (indexed vals).map (·.2) = vals := by
  rw [indexed, List.map_map]
  exact List.zipIdx_map_fst 0 vals

theorem indexed_map_fst (vals : List Rat) : (indexed vals).map (·.1) = List.range vals.length :=
  Pareto.indexed_map_fst vals

theorem indexed_length (vals : List Rat) : (indexed vals).length = vals.length := by
  rw [indexed, List.length_map, List.length_zipIdx]

theorem indexed_pairwise (vals : List Rat) : (indexed vals).Pairwise (fun a b => a.1 < b.1) := by
  have h := List.pairwise_lt_range (n := vals.length)
  rwa [← indexed_map_fst, List.pairwise_map] at h

theorem indexed_pos_nodup (vals : List Rat) : ((indexed vals).map (·.1)).Nodup := by
  rw [indexed_map_fst]
  exact List.nodup_range

theorem indexed_nodup (vals : List Rat) : (indexed vals).Nodup :=
  List.Nodup.of_map _ (indexed_pos_nodup vals)

/-! ## `optimizeDiscrete` -/

theorem optimizeDiscrete_values (vals : List Rat) (q : Nat) :
    (optimizeDiscrete vals q).map (·.2) = (sortDesc vals).take q := by
  rw [optimizeDiscrete, pickLoop_values q (indexed_pairwise vals), indexed_map_snd]

/-- the picks are rows of the indexed value list, each at most once -/
theorem optimizeDiscrete_subperm (vals : List Rat) (q : Nat) :
    (optimizeDiscrete vals q).Subperm (indexed vals) := by
  obtain ⟨rest, hperm, _⟩ := pickLoop_split q (indexed_pairwise vals)
  exact (List.sublist_append_left _ rest).subperm.trans hperm.subperm

theorem optimizeDiscrete_mem {vals : List Rat} {q : Nat} {p : Nat × Rat}
    (hp : p ∈ optimizeDiscrete vals q) : vals[p.1]? = some p.2 :=
  mem_indexed.mp ((optimizeDiscrete_subperm vals q).subset hp)

theorem optimizeDiscrete_pos_nodup (vals : List Rat) (q : Nat) :
    ((optimizeDiscrete vals q).map (·.1)).Nodup :=
  nodup_of_subperm (subperm_map _ (optimizeDiscrete_subperm vals q)) (indexed_pos_nodup vals)

theorem optimizeDiscrete_length (vals : List Rat) (q : Nat) :
    (optimizeDiscrete vals q).length = min q vals.length := by
  obtain ⟨rest, _, _, _, hlen⟩ := pickLoop_split q (indexed_pairwise vals)
  rw [optimizeDiscrete, hlen, indexed_length]

theorem optimizeDiscrete_pairwise (vals : List Rat) (q : Nat) :
    (optimizeDiscrete vals q).Pairwise (fun a b => b.2 ≤ a.2) := by
  obtain ⟨rest, _, _, hpw, _⟩ := pickLoop_split q (indexed_pairwise vals)
  exact hpw

/-- a batch at least as large as the value list picks every row -/
theorem optimizeDiscrete_perm {vals : List Rat} {q : Nat} (hq : vals.length ≤ q) :
    (optimizeDiscrete vals q).Perm (indexed vals) :=
  (optimizeDiscrete_subperm vals q).perm_of_length_le
    (by rw [optimizeDiscrete_length, indexed_length]; exact Nat.le_min_of_le_of_le hq (Nat.le_refl _))

end VOPy.Acq
