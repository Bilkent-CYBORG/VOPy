import VOPyVerif.Proofs.RunInv
/-!
# VOGP_AD: `P` is monotone up to replacing a refined node by its children — over whole runs

`State.parent` records the tree (`parent[k]` = the node whose refinement created `k`).  `Covers s p`
says that node `p` is *represented* in `P`: it is a member, or it has been refined and every child is
represented.  `Covers` is preserved by every call, hence along every run.
-/
namespace VOPy.Run
open VOPy VOPy.Steps

/-- `k` is a child of `p` in the tree recorded in `s.parent` (children are created after their
parent, so they carry larger indices; the root is its own `parent` entry and nobody's child) -/
def IsChild (s : State) (k p : Nat) : Prop := p < k ∧ s.parent[k]? = some p

/-- node `p` is represented in `P`: a member, or refined with every child represented -/
inductive Covers (s : State) : Nat → Prop
  | here {p : Nat} : p ∈ s.P → Covers s p
  | split {p : Nat} : (∃ k, IsChild s k p) → (∀ k, IsChild s k p → Covers s k) → Covers s p

/-- tree invariant: one `parent` entry per node; a node that has children is in neither set -/
structure TreeInv (s : State) : Prop where
  len : s.parent.length = s.depths.length
  out : ∀ k p, IsChild s k p → p ∉ s.S ∧ p ∉ s.P

theorem treeInv_init (c : Cfg) (hc : c.alg = .vogpAD) : TreeInv (init c) := by
  refine ⟨by simp [init, hc], ?_⟩
  intro k p ⟨hlt, hp⟩
  simp only [init, hc] at hp
  cases k with
  | zero => omega
  | succ k => simp at hp

theorem getElem?_grow_eq_some (l : List Nat) (b d k p : Nat) :
    (l ++ List.replicate b d)[k]? = some p ↔
      l[k]? = some p ∨ ((l.length ≤ k ∧ k < l.length + b) ∧ p = d) := by
  rcases Nat.lt_or_ge k l.length with h | h
  · rw [List.getElem?_append_left h]
    exact ⟨Or.inl, fun h' => h'.elim id (fun h'' => absurd h (Nat.not_lt.mpr h''.1.1))⟩
  · rw [List.getElem?_append_right h, List.getElem?_replicate, List.getElem?_eq_none h]
    constructor
    · intro h'
      split at h'
      · rename_i hk
        exact Or.inr ⟨⟨h, (Nat.sub_lt_iff_lt_add' h).mp hk⟩, (Option.some.inj h').symm⟩
      · cases h'
    · rintro (h' | ⟨⟨_, h2⟩, rfl⟩)
      · cases h'
      · rw [if_pos ((Nat.sub_lt_iff_lt_add' h).mpr h2)]

/-- children after refining `d` (with `n` nodes before): the old ones, and the fresh nodes under `d` -/
theorem isChild_grow {s s' : State} {c : Cfg} {d : Nat}
    (hp : s'.parent = s.parent ++ List.replicate c.branch d) (k p : Nat) :
    IsChild s' k p ↔ IsChild s k p ∨ (p < k ∧ k ∈ childIds c s.parent.length ∧ p = d) := by
  unfold IsChild
  rw [hp, getElem?_grow_eq_some, mem_childIds, and_or_left]

/-- `Covers` carries over to a state in which every member of `P` is still covered and the nodes
that had children have the same children -/
theorem Covers.mono {s t : State} (hP : ∀ p ∈ s.P, Covers t p)
    (hch : ∀ p, (∃ k, IsChild s k p) → ∀ k, IsChild t k p ↔ IsChild s k p) {p : Nat}
    (h : Covers s p) : Covers t p := by
  induction h with
  | here hm => exact hP _ hm
  | split hex _ ih =>
    exact Covers.split (hex.imp fun k hk => (hch _ hex k).mpr hk)
      (fun k hk => ih k ((hch _ hex k).mp hk))

/-- one call preserves the tree invariant and every `Covers` fact -/
theorem cover_step (c : Cfg) (s : State) (e : Env) (hc : c.alg = .vogpAD) (hbr : 0 < c.branch)
    (hw : WF c s) (ht : TreeInv s) :
    TreeInv (step c s e).1 ∧ ∀ p, Covers s p → Covers (step c s e).1 p := by
  cases h : isDone c s
  · rw [step_of_not_done e h, active_ad hc]
    have F := adActive_facts c s e hw hc
    cases hr : (adActive c s e).refined with
    | none =>
      obtain ⟨T, hD⟩ := F.plain hr
      have hpar := F.parentPlain hr
      have hch : ∀ k p, IsChild (adActive c s e).st k p ↔ IsChild s k p := by
        intro k p; unfold IsChild; rw [hpar]
      refine ⟨⟨by rw [hpar, hD]; exact ht.len, fun k p hkp => ?_⟩,
        fun p => Covers.mono (fun p hm => Covers.here (T.keep p hm)) (fun p _ k => hch k p)⟩
      obtain ⟨h1, h2⟩ := ht.out k p ((hch k p).mp hkp)
      exact ⟨fun hs => h1 (T.sub.subset hs), fun hp => (T.from_ p hp).elim h2 h1⟩
    | some d =>
      obtain ⟨R, _⟩ := F.refine d hr
      have hpar := F.parentRefine d hr
      have hn : s.parent.length = s.depths.length := ht.len
      have hch := fun k p => isChild_grow (c := c) hpar k p
      -- a node with a child is an old node, the fresh ones are not
      have hfresh : ∀ k p, IsChild s k p → p ∉ childIds c s.depths.length := fun k p hkp hp => by
        have hk : k < s.parent.length := (List.getElem?_eq_some_iff.mp hkp.2).1
        have := ((mem_childIds c _ p).mp hp).1
        have := hkp.1
        omega
      refine ⟨⟨?_, fun k p hkp => ?_⟩, fun p => Covers.mono (fun p hm => ?_) (fun p hex k => ?_)⟩
      · rw [hpar, R.depths_eq, List.length_append, List.length_append, List.length_replicate,
          List.length_replicate, hn]
      · rcases (hch k p).mp hkp with hold | ⟨_, _, rfl⟩
        · obtain ⟨h1, h2⟩ := ht.out k p hold
          exact ⟨fun hs => (R.S_from p hs).elim h1 (hfresh k p hold),
            fun hp => (R.P_from p hp).elim h2 (fun h3 => h3.elim h1 (hfresh k p hold))⟩
        · exact ⟨R.notS, R.notP⟩
      · -- a member of `P` stays, or it is `d` and its children are exactly the fresh nodes, all in `P`
        rcases R.P_keep p hm with h1 | rfl
        · exact Covers.here h1
        · have hkid : s.depths.length ∈ childIds c s.parent.length :=
            (mem_childIds c _ _).mpr ⟨Nat.le_of_eq hn, hn ▸ Nat.lt_add_of_pos_right hbr⟩
          refine Covers.split
            ⟨s.depths.length, (hch _ _).mpr (Or.inr ⟨hw.bound hc p R.was, hkid, rfl⟩)⟩ (fun k hk => ?_)
          rcases (hch k p).mp hk with hold | ⟨_, hkk, _⟩
          · exact absurd hm (ht.out k p hold).2
          · exact Covers.here (R.kidsP hm k (hn ▸ hkk))
      · -- a node that had children is in neither set, so it is not the refined one
        obtain ⟨k0, hk0⟩ := hex
        have hpd : p ≠ d := fun hpd => R.was.elim (hpd ▸ (ht.out k0 p hk0).1) (hpd ▸ (ht.out k0 p hk0).2)
        exact (hch k p).trans (or_iff_left (fun h3 => hpd h3.2.2))
  · rw [step_of_done e h]
    exact ⟨ht, fun p hp => hp⟩

theorem cover_run (c : Cfg) (s : State) (es : List Env) (hc : c.alg = .vogpAD) (hbr : 0 < c.branch)
    (hw : WF c s) (ht : TreeInv s) :
    TreeInv (run c s es).1 ∧ ∀ p, Covers s p → Covers (run c s es).1 p := by
  induction es generalizing s with
  | nil => exact ⟨ht, fun p hp => hp⟩
  | cons e es ih =>
    obtain ⟨t1, c1⟩ := cover_step c s e hc hbr hw ht
    obtain ⟨t2, c2⟩ := ih _ (wf_step c s e hw (by rw [hc]; rfl)) t1
    exact ⟨t2, fun p hp => c2 p (c1 p hp)⟩

end VOPy.Run
