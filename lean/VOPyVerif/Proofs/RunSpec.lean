import VOPyVerif.Proofs.RunInv
/-!
# The decidable relation (R) `Run.specOk`: what its Boolean checks decide, and that the model's
`step` satisfies it
-/
namespace VOPy.Run
open VOPy VOPy.Steps

/-! ### what the Boolean checks decide -/

theorem subsetB_iff (a b : List Nat) : subsetB a b = true ↔ ∀ i ∈ a, i ∈ b := by
  simp [subsetB]

theorem disjointB_iff (a b : List Nat) : disjointB a b = true ↔ ∀ i ∈ a, i ∉ b := by
  simp [disjointB]

theorem sameSet_refl (a : List Nat) : sameSet a a = true := by
  simp [sameSet, subsetB]

theorem sameSet_iff (a b : List Nat) : sameSet a b = true ↔ ∀ i, i ∈ a ↔ i ∈ b := by
  simp only [sameSet, Bool.and_eq_true, subsetB_iff]
  constructor
  · rintro ⟨h1, h2⟩ i; exact ⟨h1 i, h2 i⟩
  · intro h; exact ⟨fun i hi => (h i).mp hi, fun i hi => (h i).mpr hi⟩

theorem sameState_refl (s : State) : sameState s s = true := by
  simp [sameState, sameSet_refl]

theorem setsOk_iff {s s' : State} : setsOk s s' = true ↔
    (∀ i ∈ s'.S, i ∈ s.S) ∧ (∀ i ∈ s.P, i ∈ s'.P) ∧ ∀ i ∈ s'.P, i ∈ s.P ∨ i ∈ s.S := by
  simp only [setsOk, Bool.and_eq_true, subsetB_iff, List.mem_append, and_assoc, Or.comm]

theorem setsOk_of_trans {s st : State} (T : Trans s.S s.P st.S st.P) : setsOk s st = true :=
  setsOk_iff.mpr ⟨fun _ hi => T.sub.subset hi, T.keep, T.from_⟩

/-- `adSetsOk` on a call that refined node `d` decides `ADRefine` -/
theorem adSetsOk_some {c : Cfg} {s s' : State} {o : Out} {d : Nat} (h : o.refined = some d) :
    adSetsOk c s s' o = true ↔ o.req = [] ∧ ADRefine c s s' d := by
  unfold adSetsOk
  rw [h]
  simp only [Bool.and_eq_true, decide_eq_true_eq, Bool.or_eq_true, List.all_eq_true,
    List.contains_eq_mem, decide_eq_false_iff_not, beq_iff_eq, List.isEmpty_iff,
    Bool.not_eq_eq_eq_not, Bool.not_true]
  constructor
  · rintro ⟨⟨⟨⟨⟨⟨⟨⟨⟨⟨⟨hq, hlt⟩, hdep⟩, hnS⟩, hnP⟩, hwas⟩, hSf⟩, hPk⟩, hPf⟩, hside⟩, hkP⟩, hkS⟩
    exact ⟨hq, hlt, hdep, hnS, hnP, hwas, hSf, hPk, fun p hp => or_assoc.mp (hPf p hp), hside,
      fun hP => hkP.resolve_left (fun h => h hP),
      fun hS hl => hkS.resolve_left
        (fun h => h.elim (fun h => h hS) (fun h => by rw [hl] at h; cases h))⟩
  · rintro ⟨hq, R⟩
    refine ⟨⟨⟨⟨⟨⟨⟨⟨⟨⟨⟨hq, R.depth_lt⟩, R.depths_eq⟩, R.notS⟩, R.notP⟩, R.was⟩, R.S_from⟩, R.P_keep⟩,
      fun p hp => or_assoc.mpr (R.P_from p hp)⟩, R.side⟩, Decidable.not_or_of_imp R.kidsP⟩, ?_⟩
    by_cases hS : d ∈ s.S
    · cases hl : s.latch
      · exact Or.inr (R.kidsS hS hl)
      · exact Or.inl (Or.inr rfl)
    · exact Or.inl (Or.inl hS)

theorem adSetsOk_none {c : Cfg} {s s' : State} {o : Out} (h : o.refined = none) :
    adSetsOk c s s' o = true ↔ s'.depths = s.depths ∧ setsOk s s' = true := by
  unfold adSetsOk
  rw [h]
  simp only [Bool.and_eq_true, beq_iff_eq]

/-- (R) on a call that found the run unfinished: the counters, the requests, and — elimination
algorithms — the set transition -/
theorem specOk_active_iff {c : Cfg} {s s' : State} {o : Out} (hd : isDone c s = false) :
    specOk c s s' o = true ↔
      (s'.round = s.round + 1 ∧ s'.sampleCount = s.sampleCount + o.req.length ∧
        s'.totalCost = s.totalCost + reqsCost c o.req ∧ o.done = isDone c s') ∧
      reqsOk c s s' o = true ∧
      (if c.alg.elim = true then
        ((∀ i ∈ s'.S, i ∉ s'.P) ∧ ∀ i ∈ s'.U, i ∈ s'.P) ∧
        (if c.alg = .vogpAD then adSetsOk c s s' o = true
         else o.refined = none ∧ setsOk s s' = true)
       else o.refined = none) := by
  unfold specOk
  rw [hd]
  by_cases hc : c.alg = .vogpAD
  · simp only [hc, Alg.elim, Bool.false_eq_true, if_false, if_true, Bool.and_eq_true, beq_iff_eq,
      decide_eq_true_eq, disjointB_iff, subsetB_iff, and_assoc]
  · simp only [hc, Bool.false_eq_true, if_false, Bool.and_eq_true, beq_iff_eq, decide_eq_true_eq,
      disjointB_iff, subsetB_iff, and_assoc, Option.isNone_iff_eq_none, Bool.ite_eq_true_distrib]

/-- (R) on a call that found the run finished -/
theorem specOk_done_iff {c : Cfg} {s s' : State} {o : Out} (hd : isDone c s = true) :
    specOk c s s' o = true ↔
      sameState s s' = true ∧ o.done = true ∧ o.req = [] ∧ o.refined = none := by
  unfold specOk
  rw [hd]
  simp only [if_true, Bool.and_eq_true, List.isEmpty_iff, Option.isNone_iff_eq_none, and_assoc]

/-! ### requests -/

theorem allOf_length (act : List Nat) : (allOf act).length = act.length := List.length_map _

theorem cappedC_length (c : Cfg) (act : List Nat) (picks : List (Nat × Nat)) :
    (cappedC c act picks).length =
      min (min c.batch act.length) (picks.filter (fun p => act.contains p.1)).length := by
  simp only [cappedC, List.length_map, List.length_take]

theorem cappedD_length (c : Cfg) (act : List Nat) (picks : List (Nat × Nat)) :
    (cappedD c act picks).length =
      min (min c.batch (c.m * act.length))
        (picks.filter (fun p => act.contains p.1 && decide (p.2 < c.m))).length := by
  simp only [cappedD, List.length_map, List.length_take]

theorem cappedC_length_le (c : Cfg) (act : List Nat) (picks : List (Nat × Nat)) :
    (cappedC c act picks).length ≤ min c.batch act.length := by
  rw [cappedC_length]; exact Nat.min_le_left _ _

theorem cappedD_length_le (c : Cfg) (act : List Nat) (picks : List (Nat × Nat)) :
    (cappedD c act picks).length ≤ min c.batch (c.m * act.length) := by
  rw [cappedD_length]; exact Nat.min_le_left _ _

theorem cappedC_mem (c : Cfg) (act : List Nat) (picks : List (Nat × Nat)) :
    ∀ r ∈ cappedC c act picks, r.1 ∈ act ∧ r.2 = none := by
  intro r hr
  obtain ⟨p, hp, rfl⟩ := List.mem_map.mp hr
  exact ⟨List.contains_iff_mem.mp (List.mem_filter.mp (List.mem_of_mem_take hp)).2, rfl⟩

theorem cappedD_mem (c : Cfg) (act : List Nat) (picks : List (Nat × Nat)) :
    ∀ r ∈ cappedD c act picks, r.1 ∈ act ∧ ∃ k, r.2 = some k ∧ k < c.m := by
  intro r hr
  obtain ⟨p, hp, rfl⟩ := List.mem_map.mp hr
  have h := Bool.and_eq_true_iff.mp (List.mem_filter.mp (List.mem_of_mem_take hp)).2
  exact ⟨List.contains_iff_mem.mp h.1, p.2, rfl, of_decide_eq_true h.2⟩

/-- an active call never requests more than the expected batch -/
theorem req_le_cap (c : Cfg) (s : State) (e : Env) :
    (active c s e).req.length ≤ (active c s e).cap := by
  rcases active_eq c s e with ⟨h, ha⟩ | ⟨_, ha⟩ | ⟨_, ha⟩ | ⟨_, ha⟩ | ⟨_, ha⟩ | ⟨_, ha⟩ <;> rw [ha]
  · unfold pavebaActive
    rcases h with h | h | h <;> simp only [h]
    · exact Nat.le_of_eq (allOf_length _)
    · exact cappedC_length_le c _ _
    · exact cappedD_length_le c _ _
  · exact Nat.le_of_eq (allOf_length _)
  · unfold vogpActive
    dsimp only
    split
    · exact Nat.le_refl 0
    · exact cappedC_length_le c _ _
  · rw [adActive_eq]
    split
    · exact Nat.le_refl 0
    · unfold evalRefine
      cases choose c (adMid c s e) e <;> exact Nat.le_refl _
  · exact Nat.le_of_eq ((allOf_length _).trans List.length_range)
  · exact cappedD_length_le c _ _

/-- PaVeBa / Auer / NaiveElimination: an active call requests exactly `cap = |active|` evaluations -/
theorem req_eq_cap_evalAll (c : Cfg) (s : State) (e : Env) (h : c.alg.evalAll = true) :
    (active c s e).req.length = (active c s e).cap := by
  unfold active
  cases hc : c.alg <;> simp [hc, Alg.evalAll] at h
  · simp [pavebaActive, hc, allOf]
  · simp [auerActive, allOf]
  · simp [naiveActive, allOf]

theorem reqsOk_allOf (act : List Nat) :
    ((allOf act).all (fun r => act.contains r.1) &&
     ((allOf act).length == act.length && act.all (fun d => (allOf act).any (fun r => r.1 == d)) &&
      (allOf act).all (fun r => r.2.isNone))) = true := by
  simp [allOf]

/-- PaVeBa, Auer, NaiveElimination: requesting every active design once passes `reqsOk` -/
theorem reqsOk_evalAll {c : Cfg} {s s' : State} {o : Out} (h : c.alg.evalAll = true)
    (ho : o.req = allOf (activeAt c s s')) : reqsOk c s s' o = true := by
  unfold reqsOk
  dsimp only
  rw [ho, if_pos h]
  exact reqsOk_allOf _

/-- the batched algorithms on coupled problems: requests without objective index, from the active
set, at most `min(batch, |active|)` of them -/
theorem reqsOk_coupled {c : Cfg} {s s' : State} {o : Out}
    (h : c.alg = .pavebaGP ∨ c.alg = .vogp ∨ c.alg = .epal ∨ c.alg = .vogpAD)
    (hin : ∀ r ∈ o.req, r.1 ∈ activeAt c s s' ∧ r.2 = none)
    (hlen : o.req.length ≤ min c.batch (activeAt c s s').length) : reqsOk c s s' o = true := by
  have h1 : o.req.all (fun r => (activeAt c s s').contains r.1) = true :=
    List.all_eq_true.mpr (fun r hr => List.contains_iff_mem.mpr (hin r hr).1)
  have h3 : o.req.all (fun r => r.2.isNone) = true :=
    List.all_eq_true.mpr (fun r hr => by rw [(hin r hr).2]; rfl)
  unfold reqsOk
  rcases h with h | h | h | h <;>
    simp only [h, Alg.evalAll, Bool.false_eq_true, if_false, Nat.one_mul, Bool.and_eq_true,
      decide_eq_true_eq] <;>
    exact ⟨h1, hlen, h3⟩

/-- the batched algorithms on decoupled problems: (design, objective) pairs with a design of the
active set and a valid objective index, at most `min(batch, m·|active|)` of them -/
theorem reqsOk_decoupled {c : Cfg} {s s' : State} {o : Out}
    (h : c.alg = .pavebaPartial ∨ c.alg = .decoupled)
    (hin : ∀ r ∈ o.req, r.1 ∈ activeAt c s s' ∧ ∃ k, r.2 = some k ∧ k < c.m)
    (hlen : o.req.length ≤ min c.batch (c.m * (activeAt c s s').length)) :
    reqsOk c s s' o = true := by
  have h1 : o.req.all (fun r => (activeAt c s s').contains r.1) = true :=
    List.all_eq_true.mpr (fun r hr => List.contains_iff_mem.mpr (hin r hr).1)
  have h3 : o.req.all (fun r => match r.2 with | some k => decide (k < c.m) | none => false) = true :=
    List.all_eq_true.mpr (fun r hr => by
      obtain ⟨k, hk, hlt⟩ := (hin r hr).2
      rw [hk]; exact decide_eq_true hlt)
  unfold reqsOk
  rcases h with h | h <;>
    simp only [h, Alg.evalAll, Bool.false_eq_true, if_false, Bool.and_eq_true, decide_eq_true_eq] <;>
    exact ⟨h1, hlen, h3⟩

/-- the requests of an active call of the model satisfy `reqsOk` -/
theorem reqsOk_active (c : Cfg) (s : State) (e : Env) (hw : WF c s)
    (hb : c.alg = .vogpAD → c.batch = 1) (o : Out) (ho : o.req = (active c s e).req) :
    reqsOk c s (active c s e).st o = true := by
  rcases active_eq c s e with ⟨h, ha⟩ | ⟨h, ha⟩ | ⟨h, ha⟩ | ⟨h, ha⟩ | ⟨h, ha⟩ | ⟨h, ha⟩ <;>
    rw [ha] at ho ⊢
  · -- PaVeBa family: the active set is `A = S ∪ U` of the state before the call
    have hA : activeAt c s (pavebaActive c s e).st = union s.S s.U := by
      rcases h with h | h | h <;> simp only [activeAt, h]
    rcases h with h | h | h
    · refine reqsOk_evalAll (by rw [h]; rfl) ?_
      rw [ho, hA]; simp only [pavebaActive, h]
    · have hr : o.req = cappedC c (union s.S s.U) e.picks := by rw [ho]; simp only [pavebaActive, h]
      refine reqsOk_coupled (Or.inl h) ?_ ?_ <;> rw [hr, hA]
      · exact cappedC_mem c _ _
      · exact cappedC_length_le c _ _
    · have hr : o.req = cappedD c (union s.S s.U) e.picks := by rw [ho]; simp only [pavebaActive, h]
      refine reqsOk_decoupled (Or.inl h) ?_ ?_ <;> rw [hr, hA]
      · exact cappedD_mem c _ _
      · exact cappedD_length_le c _ _
  · refine reqsOk_evalAll (by rw [h]; rfl) ?_
    rw [ho]; simp only [activeAt, h]; rfl
  · -- VOGP / ε-PAL: `W = S ∪ P` after the decision phases, nothing once `S` is empty
    have hA : activeAt c s (vogpActive c s e).st =
        if (vogpActive c s e).st.S.isEmpty then [] else
          union (vogpActive c s e).st.S (vogpActive c s e).st.P := by
      rcases h with h | h <;> simp only [activeAt, h]
    have hr : o.req = if (vogpActive c s e).st.S.isEmpty then [] else
        cappedC c (union (vogpActive c s e).st.S (vogpActive c s e).st.P) e.picks := by
      rw [ho]; unfold vogpActive; dsimp only [account_S, account_P]; rfl
    refine reqsOk_coupled (Or.inr (h.imp id Or.inl)) ?_ ?_ <;> rw [hr, hA] <;> split
    · exact fun _ hr => nomatch hr
    · exact cappedC_mem c _ _
    · exact Nat.zero_le _
    · exact cappedC_length_le c _ _
  · -- VOGP_AD: at most one request, from `W = S ∪ P` of the state before the call
    have F := adActive_facts c s e hw h
    have hA : activeAt c s (adActive c s e).st =
        if (adActive c s e).st.S.isEmpty then [] else union s.S s.P := by
      simp only [activeAt, h]
    refine reqsOk_coupled (Or.inr (Or.inr (Or.inr h))) ?_ ?_ <;> rw [ho, hA, ]
    · intro r hr
      rw [if_neg (fun hE => F.reqS (List.ne_nil_of_mem hr) (List.isEmpty_iff.mp hE))]
      exact ⟨mem_union.mpr (F.reqIn r hr).2, (F.reqIn r hr).1⟩
    · rw [hb h]
      cases hq : (adActive c s e).req with
      | nil => exact Nat.zero_le _
      | cons r rs =>
        have hr : r ∈ (adActive c s e).req := hq ▸ List.mem_cons_self
        rw [if_neg (fun hE => F.reqS (List.ne_nil_of_mem hr) (List.isEmpty_iff.mp hE))]
        have hpos := List.length_pos_of_mem (mem_union.mpr (F.reqIn r hr).2)
        have hl := F.reqLen
        rw [hq] at hl
        exact Nat.le_min.mpr ⟨hl, Nat.le_trans hl hpos⟩
  · refine reqsOk_evalAll (by rw [h]; rfl) ?_
    rw [ho]; simp only [activeAt, h]; rfl
  · have hA : activeAt c s (decoupledActive c s e).st = List.range c.K := by simp only [activeAt, h]
    refine reqsOk_decoupled (Or.inr h) ?_ ?_ <;> rw [ho, hA]
    · exact cappedD_mem c _ _
    · exact cappedD_length_le c _ _

theorem active_refined_nonelim (c : Cfg) (s : State) (e : Env) (h : c.alg.elim = false) :
    (active c s e).refined = none := by
  unfold active
  cases hc : c.alg <;> simp [hc, Alg.elim] at h <;> rfl

/-- **The model satisfies relation (R).**  On every well-formed state and for every environment the
state and output produced by `Run.step` pass `Run.specOk`. -/
theorem specOk_step (c : Cfg) (s : State) (e : Env) (hw : WF c s)
    (hb : c.alg = .vogpAD → c.batch = 1) :
    specOk c s (step c s e).1 (step c s e).2 = true := by
  cases h : isDone c s
  · rw [step_of_not_done e h, specOk_active_iff h]
    refine ⟨⟨(active_account c s e).1, (active_account c s e).2.1, (active_account c s e).2.2, rfl⟩,
      reqsOk_active c s e hw hb _ rfl, ?_⟩
    cases hel : c.alg.elim
    · exact active_refined_nonelim c s e hel
    · rw [if_pos rfl]
      by_cases hc : c.alg = .vogpAD
      · have F := adActive_facts c s e hw hc
        rw [if_pos hc, active_ad hc]
        refine ⟨⟨F.wf.disj, F.wf.useful⟩, ?_⟩
        cases hr : (adActive c s e).refined with
        | none => exact (adSetsOk_none rfl).mpr ⟨(F.plain hr).2, setsOk_of_trans (F.plain hr).1⟩
        | some d => exact (adSetsOk_some rfl).mpr ⟨(F.refine d hr).2, (F.refine d hr).1⟩
      · obtain ⟨T, hU, hR⟩ := active_trans c s e hw hel hc
        rw [if_neg hc]
        exact ⟨⟨T.disj, hU⟩, hR, setsOk_of_trans T⟩
  · rw [step_of_done e h, specOk_done_iff h]
    exact ⟨sameState_refl s, rfl, rfl, rfl⟩

end VOPy.Run
