import Mathlib.MeasureTheory.Integral.Bochner.Basic
import Mathlib.Data.Matrix.Mul
/-! Helper lemmas for C20: the covariance of `ω ↦ X ω ᵥ* M` for a random vector `X` with identity
second moment, on an arbitrary measure space. -/
namespace VOPy.Problem
open MeasureTheory Matrix

variable {Ω : Type} [MeasurableSpace Ω] {d m : Nat}

theorem vecMul_mul_vecMul (v : Fin d → ℝ) (M : Matrix (Fin d) (Fin m) ℝ) (a b : Fin m) :
    (v ᵥ* M) a * (v ᵥ* M) b = ∑ i, ∑ j, (v i * v j) * (M i a * M j b) := by
  simp only [vecMul, dotProduct, Finset.sum_mul_sum]
  apply Finset.sum_congr rfl; intro i _
  apply Finset.sum_congr rfl; intro j _
  ring

theorem integral_vecMul_mul_vecMul (μ : Measure Ω) (X : Ω → Fin d → ℝ)
    (M : Matrix (Fin d) (Fin m) ℝ)
    (hint : ∀ i j, Integrable (fun ω => X ω i * X ω j) μ)
    (h2 : ∀ i j, ∫ ω, X ω i * X ω j ∂μ = if i = j then 1 else 0) (a b : Fin m) :
    ∫ ω, (X ω ᵥ* M) a * (X ω ᵥ* M) b ∂μ = (Mᵀ * M) a b := by
  simp only [vecMul_mul_vecMul]
  rw [integral_finsetSum _ (fun i _ => integrable_finsetSum _ (fun j _ => (hint i j).mul_const _))]
  simp only [integral_finsetSum _ (fun j _ => (hint _ j).mul_const _), integral_mul_const, h2]
  simp only [ite_mul, one_mul, zero_mul, Finset.sum_ite_eq, Finset.mem_univ, if_true, Matrix.mul_apply,
    Matrix.transpose_apply]

theorem integrable_vecMul (μ : Measure Ω) (X : Ω → Fin d → ℝ) (M : Matrix (Fin d) (Fin m) ℝ)
    (hint : ∀ i, Integrable (fun ω => X ω i) μ) (a : Fin m) :
    Integrable (fun ω => (X ω ᵥ* M) a) μ := by
  simp only [vecMul, dotProduct]
  exact integrable_finsetSum _ (fun i _ => (hint i).mul_const _)

theorem integral_vecMul (μ : Measure Ω) (X : Ω → Fin d → ℝ) (M : Matrix (Fin d) (Fin m) ℝ)
    (hint : ∀ i, Integrable (fun ω => X ω i) μ) (h1 : ∀ i, ∫ ω, X ω i ∂μ = 0) (a : Fin m) :
    ∫ ω, (X ω ᵥ* M) a ∂μ = 0 := by
  simp only [vecMul, dotProduct]
  rw [integral_finsetSum _ (fun i _ => (hint i).mul_const _)]
  simp only [integral_mul_const, h1, zero_mul, Finset.sum_const_zero]

end VOPy.Problem
