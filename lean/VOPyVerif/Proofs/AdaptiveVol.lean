import VOPyVerif.Proofs.AdaptiveOps
import Mathlib.Algebra.BigOperators.Group.List.Basic
/-!
# The leaf volumes add up to 1

`Space.leafVolume s` = Σ over the leaves (`Space.leaves`, the list the driver prints) of the volume of
their cells.  This is the quantity the harness evaluates on the real arrays.
-/
namespace VOPy.Adaptive

/-- volume of node `i`'s cell (0 for an index out of range) -/
def Space.volAt (s : Space) (i : Nat) : Rat :=
  match s.cellAt i with
  | some c => vol c
  | none => 0

def Space.leafVolume (s : Space) : Rat := (s.leaves.map s.volAt).sum

theorem refine_leafVolume {d : Nat} {s s' : Space} {i : Nat} {ch : List Nat} (hwf : s.WF d)
    (hleaf : s.isLeaf i = true) (h : s.refine i = some (s', ch)) :
    s'.leafVolume = s.leafVolume := by
  obtain ⟨p, hp, hn, hr, _⟩ := Space.refine_eq h
  have hi := (List.getElem?_eq_some_iff.mp hp).1
  unfold Space.leafVolume
  rw [refine_leaves hwf.refinedLt hi hn hr, List.map_append, List.sum_append,
    ← List.sum_map_erase s.volAt (mem_leaves.mpr hleaf), (leaves_nodup s).erase_eq_filter]
  have hold : (s.leaves.filter (fun j => j != i)).map s'.volAt =
      (s.leaves.filter (fun j => j != i)).map s.volAt := by
    refine List.map_congr_left fun j hj => ?_
    have hj' : j < s.nodes.length := ((Space.isLeaf_iff s j).mp (mem_leaves.mp (List.mem_filter.mp hj).1)).1
    rw [Space.volAt, Space.volAt, refine_cellAt_old hn hj']
  have hnew : ((List.range (children p).length).map (fun k => s.nodes.length + k)).map s'.volAt =
      (childCells p.cell).map vol := by
    apply List.ext_getElem
    · rw [List.length_map, List.length_map, List.length_range, List.length_map, children, List.length_map]
    · intro k _ h2
      rw [List.length_map] at h2
      rw [List.getElem_map, List.getElem_map, List.getElem_range, List.getElem_map, Space.volAt,
        refine_cellAt_new hn (Nat.le_add_right _ _), Nat.add_sub_cancel_left, List.getElem?_eq_getElem h2]
  have hvi : s.volAt i = vol p.cell := by rw [Space.volAt, Space.cellAt_of_getElem? hp]
  rw [hold, hnew, childCells_vol_sum, hvi]
  ring

theorem setRegion_leafVolume {s s' : Space} {i : Nat} {lo up : List Rat}
    (h : s.setRegion i lo up = some s') : s'.leafVolume = s.leafVolume := by
  obtain ⟨_, _, _, hc, _, _, hl⟩ := setRegion_same h
  have hv : s'.volAt = s.volAt := funext fun j => by rw [Space.volAt, Space.volAt, hc]
  rw [Space.leafVolume, Space.leafVolume, hl, hv]

theorem vol_unitCell (d : Nat) : vol (unitCell d) = 1 := by
  induction d with
  | zero => rfl
  | succ k ih =>
    simp only [unitCell, List.replicate_succ, vol] at ih ⊢
    rw [ih]; norm_num

theorem root_leafVolume (d m md : Nat) : (Space.root d m md).leafVolume = 1 := by
  have hc : (Space.root d m md).cellAt 0 = some (unitCell d) := rfl
  rw [Space.leafVolume, root_leaves, List.map_cons, List.map_nil, List.sum_cons, List.sum_nil, add_zero,
    Space.volAt, hc]
  exact vol_unitCell d

theorem stable_leafVolume (d : Nat) (g : Prop) (v : Rat) :
    Space.Stable d g (fun s => s.leafVolume = v) :=
  ⟨fun hp hs => (setRegion_leafVolume hs).trans hp,
   fun hp hwf hl _ hr => (refine_leafVolume hwf hl hr).trans hp⟩

end VOPy.Adaptive
