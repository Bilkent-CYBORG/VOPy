import VOPyVerif.Model.Rect
import VOPyVerif.Model.Pessimistic
import VOPyVerif.Proofs.ConeOrderRat
import VOPyVerif.Proofs.ListBasic
import Mathlib.Algebra.Order.Field.Rat
import Mathlib.Algebra.Order.Field.Basic
import Mathlib.Tactic.Ring
/-!
# List-level algebra for the invariance theorems (C09, C10, C11, C14)

`vadd`/`vsub`/`smul`/`dot`/`matVec` on `Vec = List ℚ` under a common translation and a positive
scaling, the vertex enumeration under both, and the slack guard under scaling.  Everything is
about the executable definitions of `Model/Basic.lean` (truncating `zipWith` semantics), so every
statement carries exactly the length hypotheses it needs.
-/
namespace VOPy.Inv
open VOPy

/-! ## lengths -/

@[simp] theorem vsub_length (a b : Vec) : (vsub a b).length = min a.length b.length :=
  List.length_zipWith

/-! ## translation -/

/-- `((a + t) + s) − (b + t) = (a + s) − b` for any `s` -/
theorem vsub_vadd_slack (a b t s : Vec) (ha : a.length = t.length) (hb : b.length = t.length) :
    vsub (vadd (vadd a t) s) (vadd b t) = vsub (vadd a s) b := by
  apply List.ext_getElem
  · simp only [vsub_length, vadd_length, ha, hb, Nat.min_self]
  · intro i _ _
    simp only [vsub, vadd, List.getElem_zipWith]
    ring

/-- `(a + t) + (−t) = a` -/
theorem vadd_vneg_cancel (a t : Vec) (ha : a.length = t.length) : vadd (vadd a t) (vneg t) = a := by
  apply List.ext_getElem
  · simp [vneg, ha]
  · intro i _ _
    simp only [vneg, vadd, List.getElem_zipWith, List.getElem_map, add_neg_cancel_right]

theorem matVec_vadd (W : Mat) (a t : Vec) (h : a.length = t.length) :
    matVec W (vadd a t) = vadd (matVec W a) (matVec W t) := by
  induction W with
  | nil => simp [matVec, vadd]
  | cons w W ih =>
    simp only [matVec, List.map_cons, vadd, List.zipWith_cons_cons, List.cons.injEq] at ih ⊢
    exact ⟨dot_vadd_right w a t h, ih⟩

@[simp] theorem matVec_length (W : Mat) (a : Vec) : (matVec W a).length = W.length := by simp [matVec]

/-- a componentwise test that is blind to a common shift of its two arguments -/
theorem zipWith_rel_vadd {β : Type} (R : ℚ → ℚ → β) (hR : ∀ a b c, R (a + c) (b + c) = R a b)
    (t a b : Vec) (ha : a.length = t.length) (hb : b.length = t.length) :
    List.zipWith R (vadd a t) (vadd b t) = List.zipWith R a b := by
  apply List.ext_getElem
  · simp only [vadd, List.length_zipWith, ha, hb, Nat.min_self]
  · intro i _ _
    simp only [vadd, List.getElem_zipWith, hR]

/-- a componentwise operation that moves with a common shift of its two arguments (`max`, `min`,
`x + s·(y − x)`) -/
theorem zipWith_op_vadd (f : ℚ → ℚ → ℚ) (hf : ∀ a b c, f (a + c) (b + c) = f a b + c)
    (t a b : Vec) (ha : a.length = t.length) (hb : b.length = t.length) :
    List.zipWith f (vadd a t) (vadd b t) = vadd (List.zipWith f a b) t := by
  apply List.ext_getElem
  · simp only [vadd, List.length_zipWith, ha, hb, Nat.min_self]
  · intro i _ _
    simp only [vadd, List.getElem_zipWith, hf]

theorem vle_vadd (a b t : Vec) (ha : a.length = t.length) (hb : b.length = t.length) :
    vle (vadd a t) (vadd b t) = vle a b :=
  congrArg (List.all · id)
    (zipWith_rel_vadd _ (fun _ _ c => decide_eq_decide.2 (add_le_add_iff_right c)) t a b ha hb)

theorem getElem?_vadd (a t : Vec) (d : Nat) :
    (vadd a t)[d]? = match a[d]?, t[d]? with
      | some x, some y => some (x + y)
      | _, _ => none := by
  simp only [vadd, List.getElem?_zipWith]
  cases a[d]? <;> cases t[d]? <;> rfl

/-! ## positive scaling -/

theorem matVec_smul (W : Mat) (c : ℚ) (a : Vec) : matVec W (smul c a) = smul c (matVec W a) := by
  simp only [matVec, smul, List.map_map]
  apply List.map_congr_left
  intro w _
  exact dot_smul_right c w a

theorem vle_smul (c : ℚ) (hc : 0 < c) (a b : Vec) : vle (smul c a) (smul c b) = vle a b := by
  simp only [vle, smul, List.zipWith_map, mul_le_mul_iff_right₀ hc]

/-! ## the vertex enumeration -/

theorem rect_vertices_vadd (l u t : Vec) (hl : l.length = t.length) (hu : u.length = t.length) :
    Rect.vertices (vadd l t) (vadd u t) = (Rect.vertices l u).map (fun v => vadd v t) := by
  induction t generalizing l u with
  | nil =>
    cases List.eq_nil_of_length_eq_zero hl
    rfl
  | cons z t ih =>
    cases l with
    | nil => simp at hl
    | cons a l =>
      cases u with
      | nil => simp at hu
      | cons b u =>
        have := ih l u (Nat.succ.inj hl) (Nat.succ.inj hu)
        simp only [vadd, List.zipWith_cons_cons, Rect.vertices] at this ⊢
        rw [this, List.map_append, List.map_map, List.map_map, List.map_map, List.map_map]
        rfl

theorem rect_vertices_smul (c : ℚ) (l u : Vec) :
    Rect.vertices (smul c l) (smul c u) = (Rect.vertices l u).map (smul c) := by
  induction l generalizing u with
  | nil => rfl
  | cons a l ih =>
    cases u with
    | nil => rfl
    | cons b u =>
      have := ih u
      simp only [smul, List.map_cons, Rect.vertices] at this ⊢
      rw [this, List.map_append, List.map_map, List.map_map, List.map_map, List.map_map]
      rfl

theorem rect_vertex_length (l u : Vec) (h : l.length = u.length) :
    ∀ v ∈ Rect.vertices l u, v.length = l.length := by
  induction l generalizing u with
  | nil => intro v hv; rw [List.mem_singleton.1 hv]
  | cons a l ih =>
    cases u with
    | nil => simp at h
    | cons b u =>
      intro v hv
      simp only [Rect.vertices, List.mem_append, List.mem_map] at hv
      obtain ⟨v', hv', rfl⟩ | ⟨v', hv', rfl⟩ := hv <;>
        rw [List.length_cons, List.length_cons, ih u (Nat.succ.inj h) v' hv']

theorem pess_vertices_eq : ∀ l u : Vec, Pess.vertices l u = Rect.vertices l u
  | [], _ => rfl
  | _ :: _, [] => rfl
  | a :: l, b :: u => by rw [Pess.vertices, Rect.vertices, pess_vertices_eq l u]

end VOPy.Inv

/-- the slack guard commutes with scaling the slack (one statement for the three copies of the guard:
`Ellipsoid.expandSlack` and `Covered.expandSlack` unfold to this one) -/
theorem VOPy.Rect.expandSlack_smul (m : ℕ) (c : ℚ) (s : VOPy.Vec) :
    VOPy.Rect.expandSlack m (VOPy.smul c s) = (VOPy.Rect.expandSlack m s).map (VOPy.smul c) := by
  unfold VOPy.Rect.expandSlack VOPy.smul
  match s with
  | [] => simp
  | [x] => simp
  | x :: y :: r =>
    simp only [List.map_cons, List.length_cons, List.length_map]
    split <;> simp
