import VOPyVerif.Proofs.Schedules
/-!
# From a union-bound sum to "with probability ≥ 1 − δ"

Countable sub-additivity for real-valued measures and the resulting coverage statement: if the
(summable) sum of the probabilities of the "outside" events is at most `δ`, then with probability at
least `1 − δ` no such event ever happens.
-/
namespace VOPy.SchedR
open MeasureTheory ProbabilityTheory
open scoped NNReal ENNReal

variable {Ω : Type*} [MeasurableSpace Ω]

lemma measureReal_iUnion_nat_le (P : Measure Ω) [IsFiniteMeasure P] (A : ℕ → Set Ω)
    (hs : Summable (fun t => P.real (A t))) :
    P.real (⋃ t, A t) ≤ ∑' t, P.real (A t) := by
  have h := measure_iUnion_le (μ := P) A
  have e : ∑' t, P (A t) = ENNReal.ofReal (∑' t, P.real (A t)) := by
    rw [ENNReal.ofReal_tsum_of_nonneg (fun _ => measureReal_nonneg) hs]
    congr 1; funext t
    rw [measureReal_def, ENNReal.ofReal_toReal (measure_ne_top _ _)]
  rw [measureReal_def]
  exact ENNReal.toReal_le_of_le_ofReal (tsum_nonneg fun _ => measureReal_nonneg) (h.trans e.le)

/-- Coverage from a union bound, one finite family of events per round: if `∑_t ∑_a P(E t a)`
converges and is `≤ δ`, then with probability `≥ 1 − δ` none of the events ever happens. -/
lemma coverage_fintype (P : Measure Ω) [IsProbabilityMeasure P] {ι : Type*} [Fintype ι]
    (E : ℕ → ι → Set Ω) (hE : ∀ t a, MeasurableSet (E t a)) {δ : ℝ}
    (hs : Summable fun t => ∑ a, P.real (E t a))
    (hle : ∑' t, ∑ a, P.real (E t a) ≤ δ) :
    1 - δ ≤ P.real {ω | ∀ t a, ω ∉ E t a} := by
  have hAle : ∀ t, P.real (⋃ a, E t a) ≤ ∑ a, P.real (E t a) :=
    fun t => measureReal_iUnion_fintype_le _
  have hsA : Summable (fun t => P.real (⋃ a, E t a)) :=
    Summable.of_nonneg_of_le (fun _ => measureReal_nonneg) hAle hs
  have hU : P.real (⋃ t, ⋃ a, E t a) ≤ δ :=
    (measureReal_iUnion_nat_le P _ hsA).trans ((hsA.tsum_le_tsum hAle hs).trans hle)
  have hset : {ω | ∀ t a, ω ∉ E t a} = (⋃ t, ⋃ a, E t a)ᶜ := by
    ext ω; simp only [Set.mem_ofPred_eq, Set.mem_compl_iff, Set.mem_iUnion, not_exists]
  rw [hset, probReal_compl_eq_one_sub (.iUnion fun t => .iUnion fun a => hE t a)]
  linarith

/-- **Coverage from a union bound.**  `E t i j` = "in round `t` the value of design `i`, objective
`j` is outside its region".  If `∑_t ∑_i ∑_j P(E t i j)` converges and is `≤ δ`, then with
probability `≥ 1 − δ` every value is inside its region in every round. -/
lemma coverage_of_union_bound (P : Measure Ω) [IsProbabilityMeasure P] {K m : ℕ}
    (E : ℕ → Fin K → Fin m → Set Ω) (hE : ∀ t i j, MeasurableSet (E t i j)) {δ : ℝ}
    (hs : Summable fun t => ∑ i, ∑ j, P.real (E t i j))
    (hle : ∑' t, ∑ i, ∑ j, P.real (E t i j) ≤ δ) :
    1 - δ ≤ P.real {ω | ∀ t i j, ω ∉ E t i j} := by
  simpa only [Prod.forall] using
    coverage_fintype P (ι := Fin K × Fin m) (fun t a => E t a.1 a.2) (fun t a => hE t a.1 a.2)
      (by simpa only [Fintype.sum_prod_type] using hs)
      (by simpa only [Fintype.sum_prod_type] using hle)

/-- Coverage in terms of laws: random elements `X t a : Ω → S` with laws `L t a`, a real statistic
`g t a` of each and thresholds `r t a`; if `∑_t ∑_a (L t a){x | r t a < g t a x} ≤ δ` (summable) then
with probability `≥ 1 − δ` every `g t a (X t a)` stays within its threshold in every round.  The hypothesis
is one conjunction: the form in which the `*_union` theorems of `Props/C04.lean` deliver it. -/
lemma law_coverage (P : Measure Ω) [IsProbabilityMeasure P] {ι : Type*} [Fintype ι]
    {S : Type*} [MeasurableSpace S] (X : ℕ → ι → Ω → S) (hX : ∀ t a, Measurable (X t a))
    (L : ℕ → ι → Measure S) (hlaw : ∀ t a, P.map (X t a) = L t a)
    (g : ℕ → ι → S → ℝ) (hg : ∀ t a, Measurable (g t a)) (r : ℕ → ι → ℝ) {δ : ℝ}
    (h : (Summable fun t => ∑ a, (L t a).real {x | r t a < g t a x}) ∧
      ∑' t, ∑ a, (L t a).real {x | r t a < g t a x} ≤ δ) :
    1 - δ ≤ P.real {ω | ∀ t a, g t a (X t a ω) ≤ r t a} := by
  have hB : ∀ t a, MeasurableSet {x | r t a < g t a x} :=
    fun t a => measurableSet_lt measurable_const (hg t a)
  have hPE : ∀ t a, P.real (X t a ⁻¹' {x | r t a < g t a x})
      = (L t a).real {x | r t a < g t a x} := fun t a => by
    rw [← hlaw t a, map_measureReal_apply (hX t a) (hB t a)]
  exact (coverage_fintype P (fun t a => X t a ⁻¹' {x | r t a < g t a x})
    (fun t a => hX t a (hB t a)) (by simpa only [hPE] using h.1)
    (by simpa only [hPE] using h.2)).trans
    (measureReal_mono (fun _ h t a => not_lt.mp (h t a)) (measure_ne_top _ _))

/-- `law_coverage` for designs × objectives -/
lemma law_coverage₂ (P : Measure Ω) [IsProbabilityMeasure P] {K m : ℕ}
    {S : Type*} [MeasurableSpace S] (X : ℕ → Fin K → Fin m → Ω → S)
    (hX : ∀ t i j, Measurable (X t i j))
    (L : ℕ → Fin K → Fin m → Measure S) (hlaw : ∀ t i j, P.map (X t i j) = L t i j)
    (g : ℕ → Fin K → Fin m → S → ℝ) (hg : ∀ t i j, Measurable (g t i j))
    (r : ℕ → Fin K → Fin m → ℝ) {δ : ℝ}
    (h : (Summable fun t => ∑ i, ∑ j, (L t i j).real {x | r t i j < g t i j x}) ∧
      ∑' t, ∑ i, ∑ j, (L t i j).real {x | r t i j < g t i j x} ≤ δ) :
    1 - δ ≤ P.real {ω | ∀ t i j, g t i j (X t i j ω) ≤ r t i j} := by
  simpa only [Prod.forall] using
    law_coverage P (ι := Fin K × Fin m) (fun t a => X t a.1 a.2) (fun t a => hX t a.1 a.2)
      (fun t a => L t a.1 a.2) (fun t a => hlaw t a.1 a.2) (fun t a => g t a.1 a.2)
      (fun t a => hg t a.1 a.2) (fun t a => r t a.1 a.2)
      (by simpa only [Fintype.sum_prod_type] using h)

/-- Coverage for coordinatewise Gaussian regions: random values `X t i j` with laws
`N(μ t i j, v t i j)` on one probability space, half-widths `β t · √v`; if the union-bound sum of the
Gaussian tails is `≤ δ`, then with probability `≥ 1 − δ` all values are inside in all rounds. -/
lemma gauss_coverage (P : Measure Ω) [IsProbabilityMeasure P] {K m : ℕ} (β : ℕ → ℝ)
    (X : ℕ → Fin K → Fin m → Ω → ℝ) (hX : ∀ t i j, Measurable (X t i j))
    (μ : ℕ → Fin K → Fin m → ℝ) (v : ℕ → Fin K → Fin m → ℝ≥0)
    (hlaw : ∀ t i j, P.map (X t i j) = gaussianReal (μ t i j) (v t i j)) {δ : ℝ}
    (h : Summable (fun t => ∑ i, ∑ j, (gaussianReal (μ t i j) (v t i j)).real
        {x | β t * √(v t i j : ℝ) < |x - μ t i j|}) ∧
      ∑' t, (∑ i, ∑ j, (gaussianReal (μ t i j) (v t i j)).real
        {x | β t * √(v t i j : ℝ) < |x - μ t i j|}) ≤ δ) :
    1 - δ ≤ P.real {ω | ∀ t i j, |X t i j ω - μ t i j| ≤ β t * √(v t i j : ℝ)} :=
  law_coverage₂ P X hX _ hlaw (fun t i j x => |x - μ t i j|) (fun t i j => by fun_prop) _ h

end VOPy.SchedR
