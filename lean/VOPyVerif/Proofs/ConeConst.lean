import Mathlib.Analysis.InnerProductSpace.Projection.Minimal
import Mathlib.Tactic.Linarith
/-!
# Cone constants in a real inner product space (abstract layer of C17)

A polyhedral cone is given by a finite list `ws` of facet normals in a real inner product space `E`:
`C = {x | ∀ w ∈ ws, 0 ≤ ⟪w, x⟫}`.  For a functional `c` (in VOPy: the `n`-th normal `w_n`)

* `alpha ws c = sup {⟪c, x⟫ | x ∈ C, ‖x‖ ≤ 1}`              (`utils.get_alpha`),
* `d1 ws      = inf {‖z‖ | ∀ w ∈ ws, 1 ≤ ⟪w, z⟫}`            (`VOGP.compute_u_star`, second output),
* `IsMinNorm ws z*` : `z*` is feasible and of minimum norm; `u* = z*/‖z*‖`.

Proved here: weak duality for both problems (a non-negative multiplier list gives the opposite
bound through Cauchy–Schwarz), `alpha` / `d1` are the least upper / greatest lower bounds and lie in
every certified interval, strong duality for `alpha` under complementary slackness, strong-convexity
stability `‖z − z*‖² ≤ ‖z‖² − ‖z*‖²` (`z*` is the projection of the origin onto the convex feasible
set), uniqueness of the minimum-norm point, `u* ∈ C`, `‖u*‖ = 1`, and the bound on the distance of
unit directions used by the `u*` certificate.
-/
namespace VOPy.ConeConst
open scoped RealInnerProductSpace

variable {E : Type*} [NormedAddCommGroup E] [InnerProductSpace ℝ E]

/-- `Σ_i λ_i • w_i`, multipliers and normals paired positionally (`Wᵀλ`) -/
noncomputable def comb : List ℝ → List E → E
  | l :: ls, w :: ws => l • w + comb ls ws
  | _, _ => 0

@[simp] theorem comb_nil_left (ws : List E) : comb [] ws = 0 := by
  cases ws <;> rfl
@[simp] theorem comb_nil_right (ls : List ℝ) : comb ls ([] : List E) = 0 := by
  cases ls <;> rfl
@[simp] theorem comb_cons (l : ℝ) (ls : List ℝ) (w : E) (ws : List E) :
    comb (l :: ls) (w :: ws) = l • w + comb ls ws := rfl

/-- membership in the polyhedral cone with facet normals `ws` -/
def InCone (ws : List E) (x : E) : Prop := ∀ w ∈ ws, 0 ≤ ⟪w, x⟫

/-- feasibility for the `d₁` problem: every facet functional is at least one -/
def Feas1 (ws : List E) (z : E) : Prop := ∀ w ∈ ws, 1 ≤ ⟪w, z⟫

/-- all multipliers non-negative -/
def NonnegL (lam : List ℝ) : Prop := ∀ l ∈ lam, 0 ≤ l

/-- if every facet functional is at least `t` at `x`, a non-negative combination is at least
`t · Σλ` there (multipliers beyond the last facet do not enter `comb`) -/
theorem le_inner_comb {ws : List E} {x : E} {t : ℝ} (hx : ∀ w ∈ ws, t ≤ ⟪w, x⟫) :
    ∀ {lam : List ℝ}, NonnegL lam → t * (lam.take ws.length).sum ≤ ⟪comb lam ws, x⟫ := by
  induction ws with
  | nil => intro lam _; simp
  | cons w ws ih =>
    intro lam hl
    cases lam with
    | nil => simp
    | cons l ls =>
      obtain ⟨hw, hws⟩ := List.forall_mem_cons.mp hx
      obtain ⟨h0, hls⟩ := List.forall_mem_cons.mp hl
      rw [comb_cons, inner_add_left, real_inner_smul_left, List.length_cons, List.take_succ_cons,
        List.sum_cons, mul_add]
      linarith [mul_le_mul_of_nonneg_left hw h0, ih hws hls]

/-- **Weak duality for α.**  For `x` in the cone with `‖x‖ ≤ 1` and multipliers `λ ≥ 0`:
`⟪c, x⟫ ≤ ‖c + Σ λ_i w_i‖`. -/
theorem alpha_weak_duality (ws : List E) (c x : E) (lam : List ℝ) (hx : InCone ws x)
    (hn : ‖x‖ ≤ 1) (hl : NonnegL lam) : ⟪c, x⟫ ≤ ‖c + comb lam ws‖ := by
  have h0 : 0 * (lam.take ws.length).sum ≤ ⟪comb lam ws, x⟫ := le_inner_comb hx hl
  calc ⟪c, x⟫ ≤ ⟪c + comb lam ws, x⟫ := by rw [inner_add_left]; linarith
    _ ≤ ‖c + comb lam ws‖ * ‖x‖ := real_inner_le_norm _ _
    _ ≤ ‖c + comb lam ws‖ := mul_le_of_le_one_right (norm_nonneg _) hn

/-- **Weak duality for d₁.**  For feasible `z` (`⟪w, z⟫ ≥ 1` for every facet) and `λ ≥ 0`:
`Σλ ≤ ‖z‖ · ‖Σ λ_i w_i‖`. -/
theorem d1_weak_duality (ws : List E) (z : E) (lam : List ℝ) (hz : Feas1 ws z)
    (hl : NonnegL lam) (hlen : lam.length ≤ ws.length) : lam.sum ≤ ‖z‖ * ‖comb lam ws‖ := by
  have h1 : 1 * (lam.take ws.length).sum ≤ ⟪comb lam ws, z⟫ := le_inner_comb hz hl
  rw [one_mul, List.take_of_length_le hlen] at h1
  calc lam.sum ≤ ⟪comb lam ws, z⟫ := h1
    _ ≤ ‖comb lam ws‖ * ‖z‖ := real_inner_le_norm _ _
    _ = ‖z‖ * ‖comb lam ws‖ := mul_comm _ _

/-! ### α as a supremum -/

/-- values of the functional `c` on the unit-ball part of the cone -/
def alphaSet (ws : List E) (c : E) : Set ℝ := {v | ∃ x, InCone ws x ∧ ‖x‖ ≤ 1 ∧ ⟪c, x⟫ = v}

/-- `α = sup {⟪c, x⟫ | x ∈ C, ‖x‖ ≤ 1}` -/
noncomputable def alpha (ws : List E) (c : E) : ℝ := sSup (alphaSet ws c)

theorem zero_mem_alphaSet (ws : List E) (c : E) : (0 : ℝ) ∈ alphaSet ws c :=
  ⟨0, fun w _ => by simp, by simp, by simp⟩

theorem alphaSet_bddAbove (ws : List E) (c : E) : BddAbove (alphaSet ws c) := by
  refine ⟨‖c‖, ?_⟩
  rintro v ⟨x, hx, hn, rfl⟩
  have := alpha_weak_duality ws c x [] hx hn (fun _ h => by simp at h)
  simpa using this

/-- `alpha` is the least upper bound of the attainable values (the set is non-empty and bounded) -/
theorem isLUB_alpha (ws : List E) (c : E) : IsLUB (alphaSet ws c) (alpha ws c) :=
  isLUB_csSup ⟨0, zero_mem_alphaSet ws c⟩ (alphaSet_bddAbove ws c)

theorem alpha_nonneg (ws : List E) (c : E) : 0 ≤ alpha ws c :=
  (isLUB_alpha ws c).1 (zero_mem_alphaSet ws c)

/-- a primal witness bounds `α` from below -/
theorem le_alpha (ws : List E) (c x : E) (hx : InCone ws x) (hn : ‖x‖ ≤ 1) :
    ⟪c, x⟫ ≤ alpha ws c :=
  (isLUB_alpha ws c).1 ⟨x, hx, hn, rfl⟩

/-- a dual multiplier list bounds `α` from above -/
theorem alpha_le (ws : List E) (c : E) (lam : List ℝ) (hl : NonnegL lam) :
    alpha ws c ≤ ‖c + comb lam ws‖ := by
  refine (isLUB_alpha ws c).2 ?_
  rintro v ⟨x, hx, hn, rfl⟩
  exact alpha_weak_duality ws c x lam hx hn hl

/-- matching primal and dual certificates determine `α`, and the supremum is attained -/
theorem alpha_eq_of_certificates (ws : List E) (c x : E) (lam : List ℝ) (hx : InCone ws x)
    (hn : ‖x‖ ≤ 1) (hl : NonnegL lam) (heq : ⟪c, x⟫ = ‖c + comb lam ws‖) :
    alpha ws c = ⟪c, x⟫ ∧ IsGreatest (alphaSet ws c) ⟪c, x⟫ := by
  have h1 := le_alpha ws c x hx hn
  have h2 := alpha_le ws c lam hl
  refine ⟨le_antisymm (heq ▸ h2) h1, ⟨x, hx, hn, rfl⟩, ?_⟩
  rintro v ⟨y, hy, hyn, rfl⟩
  rw [heq]
  exact alpha_weak_duality ws c y lam hy hyn hl

/-- **Strong duality by complementary slackness.**  If the dual vector `v = c + Σ λ_i w_i` lies in
the cone and is orthogonal to `Σ λ_i w_i`, then `α = ‖v‖`, attained at `x = v/‖v‖` (at `x = 0` if
`v = 0`): `⟪c, v⟫ = ⟪v, v⟫ − ⟪Σ λ_i w_i, v⟫ = ‖v‖²`. -/
theorem alpha_eq_norm_of_slack (ws : List E) (c : E) (lam : List ℝ) (hl : NonnegL lam)
    (hv : InCone ws (c + comb lam ws)) (hs : ⟪comb lam ws, c + comb lam ws⟫ = 0) :
    alpha ws c = ‖c + comb lam ws‖ ∧ IsGreatest (alphaSet ws c) ‖c + comb lam ws‖ := by
  have hcv : ⟪c, c + comb lam ws⟫ = ‖c + comb lam ws‖ * ‖c + comb lam ws‖ := by
    rw [← real_inner_self_eq_norm_mul_norm, inner_add_left c, hs, add_zero]
  have hx : InCone ws ((1 / ‖c + comb lam ws‖) • (c + comb lam ws)) := fun w hw => by
    rw [real_inner_smul_right]
    exact mul_nonneg (one_div_nonneg.mpr (norm_nonneg _)) (hv w hw)
  have hn : ‖(1 / ‖c + comb lam ws‖) • (c + comb lam ws)‖ ≤ 1 := by
    rw [norm_smul, norm_div, norm_one, norm_norm, one_div_mul_eq_div]
    exact div_self_le_one _
  have heq : ⟪c, (1 / ‖c + comb lam ws‖) • (c + comb lam ws)⟫ = ‖c + comb lam ws‖ := by
    rw [real_inner_smul_right, hcv, one_div_mul_eq_div, mul_self_div_self]
  have := alpha_eq_of_certificates ws c _ lam hx hn hl heq
  rwa [heq] at this

/-! ### d₁ as an infimum, the minimum-norm point -/

/-- norms of the feasible points -/
def d1Set (ws : List E) : Set ℝ := {r | ∃ z, Feas1 ws z ∧ ‖z‖ = r}

/-- `d₁ = inf {‖z‖ | ⟪w, z⟫ ≥ 1 for every facet}` -/
noncomputable def d1 (ws : List E) : ℝ := sInf (d1Set ws)

theorem d1Set_bddBelow (ws : List E) : BddBelow (d1Set ws) :=
  ⟨0, by rintro r ⟨z, _, rfl⟩; exact norm_nonneg z⟩

/-- a feasible point bounds `d₁` from above -/
theorem d1_le (ws : List E) (z : E) (hz : Feas1 ws z) : d1 ws ≤ ‖z‖ :=
  csInf_le (d1Set_bddBelow ws) ⟨z, hz, rfl⟩

/-- a lower bound valid for every feasible point bounds `d₁` from below, provided the problem is
feasible -/
theorem le_d1 (ws : List E) (lo : ℝ) (hfeas : ∃ z, Feas1 ws z)
    (h : ∀ z, Feas1 ws z → lo ≤ ‖z‖) : lo ≤ d1 ws := by
  obtain ⟨z0, hz0⟩ := hfeas
  refine le_csInf ⟨‖z0‖, z0, hz0, rfl⟩ ?_
  rintro r ⟨z, hz, rfl⟩
  exact h z hz

/-- the dual value bounds the norm of every feasible point: `Σλ / ‖Σ λ_i w_i‖ ≤ ‖z‖` -/
theorem dual_le_norm (ws : List E) (z : E) (lam : List ℝ) (hz : Feas1 ws z) (hl : NonnegL lam)
    (hlen : lam.length ≤ ws.length) (hpos : 0 < ‖comb lam ws‖) :
    lam.sum / ‖comb lam ws‖ ≤ ‖z‖ :=
  (div_le_iff₀ hpos).mpr (d1_weak_duality ws z lam hz hl hlen)

/-- `z*` is a feasible point of minimum norm -/
def IsMinNorm (ws : List E) (zs : E) : Prop := Feas1 ws zs ∧ ∀ z, Feas1 ws z → ‖zs‖ ≤ ‖z‖

theorem d1_eq_of_isMinNorm (ws : List E) (zs : E) (h : IsMinNorm ws zs) : d1 ws = ‖zs‖ :=
  le_antisymm (d1_le ws zs h.1) (le_d1 ws _ ⟨zs, h.1⟩ h.2)

theorem convex_feas1 (ws : List E) : Convex ℝ {z : E | Feas1 ws z} := by
  intro a ha b hb s t hs ht hst w hw
  rw [inner_add_right, real_inner_smul_right, real_inner_smul_right]
  linarith [mul_le_mul_of_nonneg_left (ha w hw) hs, mul_le_mul_of_nonneg_left (hb w hw) ht]

omit [InnerProductSpace ℝ E] in
/-- a point of `K` has minimum norm in `K` iff it is the point of `K` nearest to the origin, in the
form in which Mathlib states the projection onto a convex set -/
theorem minNorm_iff_iInf {K : Set E} {zs : E} : (zs ∈ K ∧ ∀ z ∈ K, ‖zs‖ ≤ ‖z‖) ↔
    zs ∈ K ∧ ‖0 - zs‖ = ⨅ w : K, ‖0 - (w : E)‖ := by
  simp only [zero_sub, norm_neg]
  have hbdd : BddBelow (Set.range fun w : K => ‖(w : E)‖) :=
    ⟨0, Set.forall_mem_range.2 fun _ => norm_nonneg _⟩
  constructor
  · rintro ⟨hs, hmin⟩
    have : Nonempty K := ⟨⟨zs, hs⟩⟩
    exact ⟨hs, le_antisymm (le_ciInf fun w => hmin w w.2) (ciInf_le hbdd ⟨zs, hs⟩)⟩
  · rintro ⟨hs, heq⟩
    exact ⟨hs, fun z hz => heq.trans_le (ciInf_le hbdd ⟨z, hz⟩)⟩

/-- **Strong-convexity stability.**  If `z*` is the minimum-norm point of a convex set then every
`z` of the set satisfies `‖z − z*‖² ≤ ‖z‖² − ‖z*‖²`: a near-optimal point is near `z*`. -/
theorem minNorm_stability {K : Set E} {zs z : E} (hK : Convex ℝ K) (hs : zs ∈ K)
    (hmin : ∀ y ∈ K, ‖zs‖ ≤ ‖y‖) (hz : z ∈ K) : ‖z - zs‖ ^ 2 ≤ ‖z‖ ^ 2 - ‖zs‖ ^ 2 := by
  -- first-order optimality of the projection of the origin: `⟪0 − z*, z − z*⟫ ≤ 0`
  have h1 := (norm_eq_iInf_iff_real_inner_le_zero hK hs).mp (minNorm_iff_iInf.mp ⟨hs, hmin⟩).2 z hz
  rw [zero_sub, inner_neg_left, neg_nonpos, inner_sub_right, real_inner_self_eq_norm_sq,
    real_inner_comm] at h1
  rw [norm_sub_sq_real]
  linarith

/-- the minimum-norm feasible point is unique -/
theorem minNorm_unique (ws : List E) (z1 z2 : E) (h1 : IsMinNorm ws z1) (h2 : IsMinNorm ws z2) :
    z1 = z2 := by
  have h := minNorm_stability (convex_feas1 ws) h2.1 h2.2 h1.1
  rw [le_antisymm (h1.2 z2 h2.1) (h2.2 z1 h1.1), sub_self] at h
  exact sub_eq_zero.mp
    (norm_eq_zero.mp (pow_eq_zero_iff two_ne_zero |>.mp (le_antisymm h (sq_nonneg _))))

theorem minNorm_ne_zero (ws : List E) (zs : E) (h : IsMinNorm ws zs) (hne : ws ≠ []) :
    zs ≠ 0 := by
  intro h0
  obtain ⟨w, hw⟩ := List.exists_mem_of_ne_nil ws hne
  have := h.1 w hw
  rw [h0, inner_zero_right] at this
  linarith

theorem norm_unit_dir {a : E} (ha : a ≠ 0) : ‖(1 / ‖a‖) • a‖ = 1 := by
  rw [norm_smul, norm_div, norm_one, norm_norm, one_div_mul_eq_div,
    div_self (norm_ne_zero_iff.mpr ha)]

/-- a positive factor does not change the unit direction -/
theorem unit_dir_smul (u : E) (d : ℝ) (hd : 0 < d) :
    (1 / ‖d • u‖) • (d • u) = (1 / ‖u‖) • u := by
  rw [norm_smul, Real.norm_of_nonneg hd.le, smul_smul, one_div_mul_eq_div,
    div_mul_cancel_left₀ hd.ne', one_div]

/-- **`u* = z*/‖z*‖` is a unit vector of the cone** (it even has `⟪w, u*⟫ ≥ 1/‖z*‖ > 0` for every
facet), as soon as the cone has at least one facet. -/
theorem ustar_mem_cone (ws : List E) (zs : E) (h : IsMinNorm ws zs) (hne : ws ≠ []) :
    ‖(1 / ‖zs‖) • zs‖ = 1 ∧ InCone ws ((1 / ‖zs‖) • zs) ∧
      ∀ w ∈ ws, 1 / ‖zs‖ ≤ ⟪w, (1 / ‖zs‖) • zs⟫ := by
  have hz : zs ≠ 0 := minNorm_ne_zero ws zs h hne
  have hinv : 0 ≤ 1 / ‖zs‖ := one_div_nonneg.mpr (norm_nonneg zs)
  have hfac : ∀ w ∈ ws, 1 / ‖zs‖ ≤ ⟪w, (1 / ‖zs‖) • zs⟫ := fun w hw => by
    rw [real_inner_smul_right]
    exact le_mul_of_one_le_right hinv (h.1 w hw)
  exact ⟨norm_unit_dir hz, fun w hw => hinv.trans (hfac w hw), hfac⟩

/-- distance of unit directions: `‖a/‖a‖ − b/‖b‖‖ · ‖b‖ ≤ 2‖a − b‖` -/
theorem unit_dir_dist (a b : E) (ha : a ≠ 0) (hb : b ≠ 0) :
    ‖(1 / ‖a‖) • a - (1 / ‖b‖) • b‖ * ‖b‖ ≤ 2 * ‖a - b‖ := by
  have hna : ‖a‖ ≠ 0 := norm_ne_zero_iff.mpr ha
  have hnb : ‖b‖ ≠ 0 := norm_ne_zero_iff.mpr hb
  -- `‖b‖ • (a/‖a‖ − b/‖b‖) = (‖b‖ − ‖a‖) • a/‖a‖ + (a − b)`
  have e : ‖b‖ • ((1 / ‖a‖) • a - (1 / ‖b‖) • b) =
      (‖b‖ - ‖a‖) • ((1 / ‖a‖) • a) + (a - b) := by
    rw [one_div, one_div, smul_sub, sub_smul, smul_inv_smul₀ hnb, smul_inv_smul₀ hna,
      sub_add_sub_cancel]
  calc ‖(1 / ‖a‖) • a - (1 / ‖b‖) • b‖ * ‖b‖
      = ‖(‖b‖ - ‖a‖) • ((1 / ‖a‖) • a) + (a - b)‖ := by rw [← e, norm_smul, norm_norm, mul_comm]
    _ ≤ ‖(‖b‖ - ‖a‖) • ((1 / ‖a‖) • a)‖ + ‖a - b‖ := norm_add_le _ _
    _ = |‖b‖ - ‖a‖| + ‖a - b‖ := by rw [norm_smul, norm_unit_dir ha, mul_one, Real.norm_eq_abs]
    _ ≤ 2 * ‖a - b‖ := by
      rw [two_mul]
      exact add_le_add_left ((abs_norm_sub_norm_le b a).trans_eq (norm_sub_rev b a)) _

/-- **The `u*` certificate.**  Let `z` be feasible, `λ ≥ 0` with `Σ λ_i w_i ≠ 0`, `z*` the
minimum-norm feasible point, and `zc ≠ 0` any point (the implementation's `d₁·u*`).  If
`‖zc − z‖ ≤ e`, `‖z‖² − (Σλ)²/‖Σλ_i w_i‖² ≤ g²` and `0 < lo`, `lo² ≤ (Σλ)²/‖Σλ_i w_i‖²`, then the unit
directions of `zc` and `z*` differ by at most `2 (e + g)/lo`. -/
theorem ustar_certificate (ws : List E) (z zs zc : E) (lam : List ℝ) (e g lo : ℝ)
    (hz : Feas1 ws z) (hl : NonnegL lam) (hlen : lam.length ≤ ws.length)
    (hq : 0 < ‖comb lam ws‖) (hs : IsMinNorm ws zs) (hc : zc ≠ 0)
    (he : ‖zc - z‖ ≤ e) (hg0 : 0 ≤ g)
    (hg : ‖z‖ ^ 2 - lam.sum ^ 2 / ‖comb lam ws‖ ^ 2 ≤ g ^ 2)
    (hlo0 : 0 < lo) (hlo : lo ^ 2 ≤ lam.sum ^ 2 / ‖comb lam ws‖ ^ 2) :
    lo ≤ ‖zs‖ ∧ ‖z - zs‖ ≤ g ∧
      ‖(1 / ‖zc‖) • zc - (1 / ‖zs‖) • zs‖ ≤ 2 * (e + g) / lo := by
  -- the dual value `D = Σλ/‖Σλ_i w_i‖` is a lower bound of `‖z*‖`
  rw [← div_pow] at hg hlo
  have hD0 : 0 ≤ lam.sum / ‖comb lam ws‖ := div_nonneg (List.sum_nonneg hl) hq.le
  have hDzs : lam.sum / ‖comb lam ws‖ ≤ ‖zs‖ := dual_le_norm ws zs lam hs.1 hl hlen hq
  have hlozs : lo ≤ ‖zs‖ := ((pow_le_pow_iff_left₀ hlo0.le hD0 two_ne_zero).mp hlo).trans hDzs
  have hzg : ‖z - zs‖ ≤ g :=
    (pow_le_pow_iff_left₀ (norm_nonneg _) hg0 two_ne_zero).mp <|
      (minNorm_stability (convex_feas1 ws) hs.1 hs.2 hz).trans <|
        (sub_le_sub_left (pow_le_pow_left₀ hD0 hDzs 2) _).trans hg
  have hzs0 : zs ≠ 0 := norm_pos_iff.mp (hlo0.trans_le hlozs)
  refine ⟨hlozs, hzg, (le_div_iff₀ hlo0).mpr ?_⟩
  calc _ ≤ ‖(1 / ‖zc‖) • zc - (1 / ‖zs‖) • zs‖ * ‖zs‖ :=
        mul_le_mul_of_nonneg_left hlozs (norm_nonneg _)
    _ ≤ 2 * ‖zc - zs‖ := unit_dir_dist zc zs hc hzs0
    _ ≤ 2 * (‖zc - z‖ + ‖z - zs‖) :=
        mul_le_mul_of_nonneg_left (norm_sub_le_norm_sub_add_norm_sub zc z zs) zero_le_two
    _ ≤ 2 * (e + g) := mul_le_mul_of_nonneg_left (add_le_add he hzg) zero_le_two

end VOPy.ConeConst
