import VOPyVerif.Model.Eval
import VOPyVerif.Proofs.ListBasic
import VOPyVerif.Proofs.ConeOrder
import Mathlib.Algebra.Order.Field.Basic
import Mathlib.Algebra.Order.Ring.Rat
import Mathlib.Order.Bounds.Defs
/-!
# C19: the gap formula `smallM` / `delta` over an ordered field

Everything here is about the generic terms of `Model/Eval.lean` instantiated at an arbitrary
linearly ordered field `K` (ℚ for the driver, ℝ for the geometric statement).
-/
set_option linter.unusedSectionVars false
namespace VOPy.Eval

variable {K : Type} [Field K] [LinearOrder K] [IsStrictOrderedRing K]

/-! ## the cone, its unit ball, admissible shifts (specification side) -/

/-- `x ∈ C = {x | W x ≥ 0}` -/
def InCone (W : List (List K)) (x : List K) : Prop := ∀ w ∈ W, 0 ≤ gdot w x

/-- `x` lies in the interior side of every facet: `W x > 0` -/
def InInterior (W : List (List K)) (x : List K) : Prop := ∀ w ∈ W, 0 < gdot w x

/-- `s · u` -/
def gscale (s : K) (u : List K) : List K := u.map (s * ·)

/-- `a + b` -/
def gadd (a b : List K) : List K := List.zipWith (· + ·) a b

/-- `s` is an admissible uniform shift for the difference `d = μ_j − μ_i`:
`d − s·u ∈ C` for **every** `u ∈ C` with `‖u‖² ≤ 1` (vectors of dimension `D`). -/
def Shift (W : List (List K)) (D : Nat) (d : List K) (s : K) : Prop :=
  ∀ u : List K, u.length = D → InCone W u → gdot u u ≤ 1 → InCone W (gsub d (gscale s u))

/-- `a = max {w · u | u ∈ C, ‖u‖² ≤ 1}`, attained (what C17 certifies for `α_n`), and positive. -/
def IsAlpha (W : List (List K)) (D : Nat) (w : List K) (a : K) : Prop :=
  0 < a ∧
  (∀ u : List K, u.length = D → InCone W u → gdot u u ≤ 1 → gdot w u ≤ a) ∧
  (∃ u : List K, u.length = D ∧ InCone W u ∧ gdot u u ≤ 1 ∧ gdot w u = a)

/-! ## `gdot` algebra: read off `ConeOrd.gdot` through `gdot_eq_gdot` -/

@[simp] theorem gdot_nil_left (b : List K) : gdot ([] : List K) b = 0 := by
  unfold gdot; rfl

@[simp] theorem gdot_nil_right (a : List K) : gdot a ([] : List K) = 0 := by
  cases a <;> (unfold gdot; rfl)

@[simp] theorem gdot_cons (a : K) (as : List K) (b : K) (bs : List K) :
    gdot (a :: as) (b :: bs) = a * b + gdot as bs := by
  rw [gdot]

/-- this copy of the truncating product is `ConeOrd.gdot`, whose algebra it takes over -/
theorem gdot_eq_gdot (a b : List K) : gdot a b = ConeOrd.gdot a b := by
  induction a generalizing b with
  | nil => simp
  | cons x xs ih =>
    cases b with
    | nil => simp
    | cons y ys => rw [gdot_cons, ConeOrd.gdot_cons, ih]

theorem gdot_comm (a b : List K) : gdot a b = gdot b a := by
  rw [gdot_eq_gdot, gdot_eq_gdot, ConeOrd.gdot_comm]

theorem gdot_self_nonneg (a : List K) : 0 ≤ gdot a a := by
  rw [gdot_eq_gdot]
  exact ConeOrd.gdot_self_nonneg a

/-- `2 a·b ≤ a·a + b·b` (any lengths: missing coordinates only add squares on the right) -/
theorem two_gdot_le (a b : List K) : 2 * gdot a b ≤ gdot a a + gdot b b := by
  simp only [gdot_eq_gdot]
  exact ConeOrd.two_gdot_le a b

/-- `‖z‖² ≤ 0` only for the zero vector -/
theorem eq_zero_of_gdot_self_nonpos (z : List K) (h : gdot z z ≤ 0) :
    z = List.replicate z.length 0 :=
  ConeOrd.eq_zero_of_gdot_self_nonpos z (gdot_eq_gdot z z ▸ h)

theorem gdot_gadd (w a b : List K) (h : a.length = b.length) :
    gdot w (gadd a b) = gdot w a + gdot w b := by
  simp only [gdot_eq_gdot]
  exact ConeOrd.gdot_add w a b h

theorem gdot_gscale (w u : List K) (s : K) : gdot w (gscale s u) = s * gdot w u := by
  simp only [gdot_eq_gdot]
  exact ConeOrd.gdot_smul s w u

theorem gdot_gscale_left (c : K) (w x : List K) : gdot (gscale c w) x = c * gdot w x := by
  simp only [gdot_eq_gdot]
  exact ConeOrd.gdot_smul_left c w x

@[simp] theorem gscale_length (s : K) (u : List K) : (gscale s u).length = u.length :=
  List.length_map _

theorem gdot_gsub (w a b : List K) (h : a.length = b.length) :
    gdot w (gsub a b) = gdot w a - gdot w b := by
  simp only [gdot_eq_gdot]
  exact ConeOrd.gdot_sub w a b h

theorem gdot_replicate_zero (w : List K) (n : Nat) : gdot w (List.replicate n (0 : K)) = 0 := by
  rw [gdot_eq_gdot, ConeOrd.gdot_replicate_zero]

theorem gsub_replicate_zero (d : List K) : gsub d (List.replicate d.length (0 : K)) = d :=
  ConeOrd.zipWith_sub_zero d

theorem gadd_replicate_zero (a : List K) : gadd a (List.replicate a.length (0 : K)) = a :=
  ConeOrd.zipWith_add_zero a

/-! ## `relu`, `gmin`, `gmax`, `minL` -/

theorem relu_eq_max (x : K) : relu x = max 0 x := by
  unfold relu; split_ifs with h
  · exact (max_eq_left h.le).symm
  · exact (max_eq_right (not_lt.mp h)).symm

theorem relu_nonneg (x : K) : 0 ≤ relu x := by rw [relu_eq_max]; exact le_max_left _ _

theorem relu_of_nonneg {x : K} (h : 0 ≤ x) : relu x = x := by rw [relu_eq_max]; exact max_eq_right h

theorem relu_of_nonpos {x : K} (h : x ≤ 0) : relu x = 0 := by rw [relu_eq_max]; exact max_eq_left h

theorem le_relu (x : K) : x ≤ relu x := by rw [relu_eq_max]; exact le_max_right _ _

theorem relu_eq_zero_iff (x : K) : relu x = 0 ↔ x ≤ 0 := by
  rw [relu_eq_max]; exact max_eq_left_iff

theorem relu_div_pos_iff {x a : K} (ha : 0 < a) : 0 < relu x / a ↔ 0 < x := by
  rw [div_pos_iff_of_pos_right ha, relu_eq_max, lt_max_iff, lt_self_iff_false, false_or]

theorem gmin_eq_min (a b : K) : gmin a b = min a b := by
  unfold gmin; split_ifs with h
  · exact (min_eq_right h.le).symm
  · exact (min_eq_left (not_lt.mp h)).symm

theorem gmax_eq_max (a b : K) : gmax a b = max a b := by
  unfold gmax; split_ifs with h
  · exact (max_eq_right h.le).symm
  · exact (max_eq_left (not_lt.mp h)).symm

/-- the model's `ndarray.min()` is the library minimum of a list -/
theorem minL_eq_min? : ∀ l : List K, minL l = l.min?
  | [] => rfl
  | x :: xs => congrArg (fun f => some (xs.foldl f x)) (funext₂ gmin_eq_min)

theorem minL_spec {l : List K} {m : K} (h : minL l = some m) : m ∈ l ∧ ∀ y ∈ l, m ≤ y :=
  List.min?_eq_some_iff.mp (minL_eq_min? l ▸ h)

theorem minL_isSome_of_ne_nil {l : List K} (h : l ≠ []) : ∃ m, minL l = some m := by
  cases l with
  | nil => exact absurd rfl h
  | cons x xs => exact ⟨_, rfl⟩

/-! ## the quotient list of `smallM` -/

theorem mem_quot_iff (f : List K → K) (W : List (List K)) (α : List K) (q : K) :
    q ∈ List.zipWith (· / ·) (W.map f) α ↔ ∃ p ∈ W.zip α, q = f p.1 / p.2 := by
  rw [List.zipWith_map_left, ← List.map_uncurry_zip_eq_zipWith, List.mem_map]
  exact exists_congr fun p => and_congr_right fun _ => eq_comm

theorem exists_zip_of_mem {W : List (List K)} {α : List K} (hlen : α.length = W.length)
    {w : List K} (hw : w ∈ W) : ∃ a, (w, a) ∈ W.zip α := by
  obtain ⟨i, hi, rfl⟩ := List.getElem_of_mem hw
  have hi' : i < (W.zip α).length := by rw [List.length_zip, hlen, Nat.min_self]; exact hi
  exact ⟨α[i]'(hlen ▸ hi), List.getElem_zip (h := hi') ▸ List.getElem_mem hi'⟩

theorem smallM_isSome (vi vj : List K) (W : List (List K)) (α : List K)
    (hlen : α.length = W.length) (hW : W ≠ []) : ∃ M, smallM vi vj W α = some M := by
  have : List.zipWith (· / ·) (prods vi vj W) α ≠ [] := by
    cases W with
    | nil => exact absurd rfl hW
    | cons w W =>
      cases α with
      | nil => simp at hlen
      | cons a α => simp [prods]
  obtain ⟨m, hm⟩ := minL_isSome_of_ne_nil this
  exact ⟨m, by unfold smallM; rw [if_pos hlen]; exact hm⟩

theorem smallM_spec {vi vj : List K} {W : List (List K)} {α : List K} {M : K}
    (h : smallM vi vj W α = some M) :
    α.length = W.length ∧
    (∃ p ∈ W.zip α, M = relu (gdot p.1 (gsub vj vi)) / p.2) ∧
    ∀ p ∈ W.zip α, M ≤ relu (gdot p.1 (gsub vj vi)) / p.2 := by
  unfold smallM prods at h
  split_ifs at h with hlen
  obtain ⟨h1, h2⟩ := minL_spec h
  exact ⟨hlen, (mem_quot_iff _ W α M).mp h1,
    fun p hp => h2 _ ((mem_quot_iff _ W α _).mpr ⟨p, hp, rfl⟩)⟩

theorem smallM_nonneg {vi vj : List K} {W : List (List K)} {α : List K} {M : K}
    (h : smallM vi vj W α = some M) (hα : ∀ p ∈ W.zip α, 0 < p.2) : 0 ≤ M := by
  obtain ⟨_, ⟨p, hp, rfl⟩, _⟩ := smallM_spec h
  exact div_nonneg (relu_nonneg _) (hα p hp).le

theorem smallM_pos_iff {vi vj : List K} {W : List (List K)} {α : List K} {M : K}
    (h : smallM vi vj W α = some M) (hα : ∀ p ∈ W.zip α, 0 < p.2) :
    0 < M ↔ InInterior W (gsub vj vi) := by
  obtain ⟨hlen, ⟨p, hp, hM⟩, hle⟩ := smallM_spec h
  constructor
  · intro hpos w hw
    obtain ⟨a, ha⟩ := exists_zip_of_mem hlen hw
    exact (relu_div_pos_iff (hα _ ha)).mp (hpos.trans_le (hle _ ha))
  · intro hin
    rw [hM]
    exact (relu_div_pos_iff (hα p hp)).mpr (hin p.1 (List.of_mem_zip hp).1)

/-! ## `smallM` is the largest admissible uniform shift -/

section Gap
variable {vi vj : List K} {W : List (List K)} {α : List K} {D : Nat} {M : K}

theorem smallM_of_not_inCone (h : smallM vi vj W α = some M) (hα : ∀ p ∈ W.zip α, 0 < p.2)
    (hd : (gsub vj vi).length = D) (hnot : ¬ InCone W (gsub vj vi)) :
    M = 0 ∧ ∀ s, ¬ Shift W D (gsub vj vi) s := by
  refine ⟨?_, ?_⟩
  · unfold InCone at hnot
    push Not at hnot
    obtain ⟨w, hw, hneg⟩ := hnot
    obtain ⟨hlen, _, hle⟩ := smallM_spec h
    obtain ⟨a, ha⟩ := exists_zip_of_mem hlen hw
    have h1 := hle (w, a) ha
    simp only [relu_of_nonpos hneg.le, zero_div] at h1
    exact le_antisymm h1 (smallM_nonneg h hα)
  · -- the zero vector is a unit vector of the cone, and shifting along it changes nothing
    intro s hs
    apply hnot
    have := hs (List.replicate D 0) (by simp) (fun w _ => by rw [gdot_replicate_zero])
      (by rw [gdot_replicate_zero]; exact zero_le_one)
    have hz : gscale s (List.replicate D (0 : K)) = List.replicate D 0 := by
      simp [gscale]
    rw [hz, ← hd, gsub_replicate_zero] at this
    exact this

theorem shift_iff_le_smallM (h : smallM vi vj W α = some M)
    (hα : ∀ p ∈ W.zip α, IsAlpha W D p.1 p.2)
    (hd : (gsub vj vi).length = D) (hin : InCone W (gsub vj vi)) {s : K} (hs : 0 ≤ s) :
    Shift W D (gsub vj vi) s ↔ s ≤ M := by
  obtain ⟨hlen, ⟨p0, hp0, hM⟩, hle⟩ := smallM_spec h
  have hsub : ∀ w u : List K, u.length = D →
      gdot w (gsub (gsub vj vi) (gscale s u)) = gdot w (gsub vj vi) - s * gdot w u := by
    intro w u hu
    rw [gdot_gsub _ _ _ (by rw [gscale_length, hd, hu]), gdot_gscale]
  constructor
  · -- necessity: test the shift on the unit vector attaining α_n, for the facet realising the min
    intro hshift
    obtain ⟨hapos, _, u, hu, huC, hu1, hatt⟩ := hα p0 hp0
    have hp0W := (List.of_mem_zip hp0).1
    have := hshift u hu huC hu1 p0.1 hp0W
    rw [hsub _ u hu, hatt] at this
    rw [hM, relu_of_nonneg (hin p0.1 hp0W), le_div_iff₀ hapos]
    exact sub_nonneg.mp this
  · -- sufficiency: `w_n · u ≤ α_n` on the unit ball of the cone
    intro hsM u hu huC hu1 w hw
    obtain ⟨a, ha⟩ := exists_zip_of_mem hlen hw
    obtain ⟨hapos, hub, _⟩ := hα (w, a) ha
    have h1 : s ≤ relu (gdot w (gsub vj vi)) / a := hsM.trans (hle (w, a) ha)
    rw [relu_of_nonneg (hin w hw), le_div_iff₀ hapos] at h1
    rw [hsub w u hu]
    exact sub_nonneg.mpr ((mul_le_mul_of_nonneg_left (hub u hu huC hu1) hs).trans h1)

end Gap

/-! ## `delta` -/

/-- the accumulator loop returns `max acc (max_j m(i,j))` -/
theorem deltaRowWith_spec {sm : List K → List K → Option K} {vi : List K} {mu : List (List K)}
    {acc r : K} (h : deltaRowWith sm vi mu acc = some r) :
    acc ≤ r ∧ (r = acc ∨ ∃ vj ∈ mu, sm vi vj = some r) ∧
    ∀ vj ∈ mu, ∃ m, sm vi vj = some m ∧ m ≤ r := by
  induction mu generalizing acc with
  | nil =>
    simp only [deltaRowWith, Option.some.injEq] at h
    subst h
    simp
  | cons v rest ih =>
    simp only [deltaRowWith] at h
    cases hm : sm vi v with
    | none => simp [hm] at h
    | some m =>
      simp only [hm] at h
      obtain ⟨h1, h2, h3⟩ := ih h
      rw [gmax_eq_max] at h1 h2
      refine ⟨(le_max_left _ _).trans h1, ?_, ?_⟩
      · rcases h2 with h2 | ⟨vj, hvj, hr⟩
        · rcases max_choice acc m with hc | hc
          · left; rw [h2, hc]
          · right; exact ⟨v, List.mem_cons_self, by rw [hm, h2, hc]⟩
        · right; exact ⟨vj, List.mem_cons_of_mem _ hvj, hr⟩
      · intro vj hvj
        rcases List.mem_cons.mp hvj with rfl | hvj
        · exact ⟨m, hm, (le_max_right _ _).trans h1⟩
        · exact h3 vj hvj

/-- holds for any pairwise gap function that is positive exactly on interior domination
(`smallM_pos_iff`, `smallMB_pos_iff`) -/
theorem deltaRowWith_eq_zero_iff (sm : List K → List K → Option K) (W : List (List K))
    {vi : List K} {mu : List (List K)} {r : K}
    (hsm : ∀ vj m, sm vi vj = some m → (0 < m ↔ InInterior W (gsub vj vi)))
    (h : deltaRowWith sm vi mu 0 = some r) :
    r = 0 ↔ ∀ vj ∈ mu, ¬ InInterior W (gsub vj vi) := by
  obtain ⟨h1, h2, h3⟩ := deltaRowWith_spec h
  constructor
  · intro hr vj hvj hint
    obtain ⟨m, hm, hle⟩ := h3 vj hvj
    exact absurd ((hsm vj m hm).mpr hint) (not_lt.mpr (hr ▸ hle))
  · intro hall
    rcases h2 with h2 | ⟨vj, hvj, hr⟩
    · exact h2
    · exact le_antisymm (not_lt.mp fun hp => hall vj hvj ((hsm vj r hr).mp hp)) h1

theorem deltaWith_getElem? {sm : List K → List K → Option K} {mu : List (List K)} {ds : List K}
    (h : deltaWith sm mu = some ds) {i : Nat} {vi : List K} (hi : mu[i]? = some vi) :
    ∃ d, ds[i]? = some d ∧ deltaRowWith sm vi mu 0 = some d := by
  have hd : ds[i]? = deltaRowWith sm vi mu 0 := by
    rw [mapM_option_getElem? h i, hi, Option.bind_some]
  have hlt : i < ds.length := mapM_option_length h ▸ (List.getElem?_eq_some_iff.mp hi).1
  exact ⟨ds[i], List.getElem?_eq_getElem hlt, by rw [← hd, List.getElem?_eq_getElem hlt]⟩

theorem deltaWith_isSome (sm : List K → List K → Option K) (mu : List (List K))
    (hsm : ∀ vi vj, ∃ m, sm vi vj = some m) : ∃ ds, deltaWith sm mu = some ds := by
  have hrow : ∀ (vi : List K) (l : List (List K)) (acc : K),
      ∃ d, deltaRowWith sm vi l acc = some d := by
    intro vi l
    induction l with
    | nil => exact fun acc => ⟨acc, rfl⟩
    | cons v rest ih =>
      intro acc
      obtain ⟨m, hm⟩ := hsm vi v
      simpa only [deltaRowWith, hm] using ih (gmax acc m)
  exact mapM_option_isSome fun vi _ => Option.isSome_iff_exists.mpr (hrow vi mu 0)

/-! ## the broadcast variant `smallMB` (what `get_smallmij` computed with the `(N,1)` column
`alpha_vec` until it flattened it, /repo commit 2a99499) -/

theorem smallMB_isSome (vi vj : List K) (W : List (List K)) (α : List K)
    (hlen : α.length = W.length) (hW : W ≠ []) : ∃ B, smallMB vi vj W α = some B := by
  have : α.flatMap (fun a => (prods vi vj W).map (· / a)) ≠ [] := by
    cases W with
    | nil => exact absurd rfl hW
    | cons w W =>
      cases α with
      | nil => simp at hlen
      | cons a α => simp [prods]
  obtain ⟨m, hm⟩ := minL_isSome_of_ne_nil this
  exact ⟨m, by unfold smallMB; rw [if_pos hlen]; exact hm⟩

theorem smallMB_spec {vi vj : List K} {W : List (List K)} {α : List K} {B : K}
    (h : smallMB vi vj W α = some B) :
    α.length = W.length ∧
    (∃ a ∈ α, ∃ w ∈ W, B = relu (gdot w (gsub vj vi)) / a) ∧
    ∀ a ∈ α, ∀ w ∈ W, B ≤ relu (gdot w (gsub vj vi)) / a := by
  unfold smallMB prods at h
  split_ifs at h with hlen
  obtain ⟨h1, h2⟩ := minL_spec h
  simp only [List.mem_flatMap, List.mem_map, exists_exists_and_eq_and] at h1 h2
  obtain ⟨a, ha, w, hw, rfl⟩ := h1
  exact ⟨hlen, ⟨a, ha, w, hw, rfl⟩, fun a ha w hw => h2 _ ⟨a, ha, w, hw, rfl⟩⟩

theorem smallMB_le_smallM {vi vj : List K} {W : List (List K)} {α : List K} {B M : K}
    (hB : smallMB vi vj W α = some B) (hM : smallM vi vj W α = some M) : B ≤ M := by
  obtain ⟨_, ⟨p, hp, rfl⟩, _⟩ := smallM_spec hM
  exact (smallMB_spec hB).2.2 p.2 (List.of_mem_zip hp).2 p.1 (List.of_mem_zip hp).1

/-- all the `α_n` coincide for the orthant and the symmetric bundled cones -/
theorem smallMB_eq_smallM_of_const {vi vj : List K} {W : List (List K)} {α : List K} {B M a0 : K}
    (hB : smallMB vi vj W α = some B) (hM : smallM vi vj W α = some M)
    (hconst : ∀ a ∈ α, a = a0) : B = M := by
  apply le_antisymm (smallMB_le_smallM hB hM)
  obtain ⟨hlen, _, hle⟩ := smallM_spec hM
  obtain ⟨_, ⟨a, ha, w, hw, rfl⟩, _⟩ := smallMB_spec hB
  obtain ⟨a', ha'⟩ := exists_zip_of_mem hlen hw
  rw [hconst a ha, ← hconst a' (List.of_mem_zip ha').2]
  exact hle (w, a') ha'

theorem smallMB_nonneg {vi vj : List K} {W : List (List K)} {α : List K} {B : K}
    (h : smallMB vi vj W α = some B) (hα : ∀ a ∈ α, 0 < a) : 0 ≤ B := by
  obtain ⟨_, ⟨a, ha, w, _, rfl⟩, _⟩ := smallMB_spec h
  exact div_nonneg (relu_nonneg _) (hα a ha).le

theorem smallMB_pos_iff {vi vj : List K} {W : List (List K)} {α : List K} {B : K}
    (h : smallMB vi vj W α = some B) (hα : ∀ a ∈ α, 0 < a) :
    0 < B ↔ InInterior W (gsub vj vi) := by
  obtain ⟨_, ⟨a0, ha0, w0, hw0, hB⟩, hle⟩ := smallMB_spec h
  constructor
  · intro hpos w hw
    exact (relu_div_pos_iff (hα a0 ha0)).mp (hpos.trans_le (hle a0 ha0 w hw))
  · intro hin
    rw [hB]
    exact (relu_div_pos_iff (hα a0 ha0)).mpr (hin w0 hw0)

/-! ## monotone maps of the carrier commute with the formula

Used with `φ = id` (translation of the value vectors), `φ = (c * ·)` with `c > 0` (scaling) and
`φ = Rat.cast` (what the driver evaluates over `ℚ` is the formula over `K`). -/

section Monotone
variable {K' : Type} [Field K'] [LinearOrder K'] [IsStrictOrderedRing K'] {φ : K → K'}

theorem relu_map (hφ : Monotone φ) (h0 : φ 0 = 0) (x : K) : φ (relu x) = relu (φ x) := by
  rw [relu_eq_max, relu_eq_max, hφ.map_max, h0]

theorem minL_map (hφ : Monotone φ) : ∀ l : List K, minL (l.map φ) = (minL l).map φ
  | [] => rfl
  | x :: xs => by
    rw [List.map_cons, minL, minL, Option.map_some, List.foldl_map]
    exact congrArg some
      (List.foldl_hom φ fun a b => by rw [gmin_eq_min, gmin_eq_min, hφ.map_min])

/-- the row loop of `get_delta` under a change of carrier `φ` and of value vectors `T` that changes
every pairwise gap by `φ` -/
theorem deltaRowWith_map (hφ : Monotone φ) (T : List K → List K')
    {sm : List K → List K → Option K} {sm' : List K' → List K' → Option K'} (vi : List K) :
    ∀ (mu : List (List K)) (acc : K), (∀ vj ∈ mu, sm' (T vi) (T vj) = (sm vi vj).map φ) →
      deltaRowWith sm' (T vi) (mu.map T) (φ acc) = (deltaRowWith sm vi mu acc).map φ
  | [], _, _ => rfl
  | vj :: rest, acc, h => by
    rw [List.map_cons, deltaRowWith, deltaRowWith, h vj List.mem_cons_self]
    cases sm vi vj with
    | none => rfl
    | some m =>
      have hmax : gmax (φ acc) (φ m) = φ (gmax acc m) := by
        rw [gmax_eq_max, gmax_eq_max, hφ.map_max]
      simp only [Option.map_some, hmax]
      exact deltaRowWith_map hφ T vi rest _ fun v hv => h v (List.mem_cons_of_mem _ hv)

theorem deltaWith_map (hφ : Monotone φ) (h0 : φ 0 = 0) (T : List K → List K')
    {sm : List K → List K → Option K} {sm' : List K' → List K' → Option K'} (mu : List (List K))
    (h : ∀ vi ∈ mu, ∀ vj ∈ mu, sm' (T vi) (T vj) = (sm vi vj).map φ) :
    deltaWith sm' (mu.map T) = (deltaWith sm mu).map (List.map φ) := by
  unfold deltaWith
  refine mapM_option_map_comm T φ fun vi hvi => ?_
  rw [← h0]
  exact deltaRowWith_map hφ T vi mu 0 (h vi hvi)

end Monotone

/-! ## non-vacuity of `IsAlpha` -/

/-- a unit vector of the cone, taken as facet normal, has cone constant `1`, attained at itself
(`2 w·u ≤ ‖w‖² + ‖u‖² ≤ 2` on the unit ball) -/
theorem isAlpha_of_unit_mem {W : List (List K)} {D : Nat} {w : List K} (hl : w.length = D)
    (h1 : gdot w w = 1) (hC : InCone W w) : IsAlpha W D w 1 :=
  ⟨one_pos, fun u _ _ hu => by
      have h2 : 2 * gdot w u ≤ 2 * 1 := by
        rw [two_mul (1 : K)]
        exact (two_gdot_le w u).trans (add_le_add h1.le hu)
      exact le_of_mul_le_mul_left h2 two_pos,
    w, hl, hC, h1.le, h1⟩

/-- non-vacuity of `IsAlpha`: for the positive orthant of `ℚ²` both constants are `1` -/
theorem isAlpha_orthant2 : List.Forall₂ (IsAlpha (K := ℚ) [[1,0],[0,1]] 2) [[1,0],[0,1]] [1,1] :=
  .cons (isAlpha_of_unit_mem rfl (by decide +kernel) (by unfold InCone; decide +kernel))
    (.cons (isAlpha_of_unit_mem rfl (by decide +kernel) (by unfold InCone; decide +kernel)) .nil)

end VOPy.Eval
