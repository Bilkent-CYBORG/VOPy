import VOPyVerif.Proofs.NaiveModel
import VOPyVerif.Proofs.NaivePac
/-!
# C08 helper: putting the deterministic half, the θ-cone constants and the tail bound together
-/
open MeasureTheory ProbabilityTheory Real
open scoped NNReal ENNReal

namespace VOPy.Naive
open VOPy VOPy.RealLike

/-- the accuracy requirement of the property on a returned index set `P` (designs `0 … K-1`, true
means `mu`): valid indices, no member's gap exceeds `ε`, every design is `ε`-covered by a member. -/
def Accurate (W : Cone2) (mu : ℕ → ℝ × ℝ) (K : ℕ) (ε : ℝ) (P : List ℕ) : Prop :=
  (∀ i ∈ P, i < K ∧ ¬ GapExceeds W mu K i ε) ∧
  (∀ i, i < K → ∃ k ∈ P, k < K ∧ Covered W ε (mu i) (mu k))

/-- hypotheses "2-D cone with unit facet normals at angle `θ`": `‖w₁‖ = ‖w₂‖ = 1`,
`w₁·w₂ = −cos θ`, `θ ∈ (0°, 180°)` -/
structure ThetaCone (W : Cone2) (θdeg : ℝ) : Prop where
  pos : 0 < θdeg
  lt : θdeg < 180
  unit1 : W.a1 ^ 2 + W.a2 ^ 2 = 1
  unit2 : W.c1 ^ 2 + W.c2 ^ 2 = 1
  dot : W.a1 * W.c1 + W.a2 * W.c2 = -Real.cos (θdeg / 180 * π)

theorem ThetaCone.det_ne_zero {W : Cone2} {θdeg : ℝ} (h : ThetaCone W θdeg) : W.det ≠ 0 := by
  -- `det² = pq − g² = 1 − cos²θ = sin²θ > 0`
  have h2 : W.det ^ 2 = Real.sin (θdeg / 180 * π) ^ 2 := by
    rw [W.det_sq, Real.sin_sq, show W.p = 1 from h.unit1, show W.q = 1 from h.unit2,
      show W.g = -Real.cos (θdeg / 180 * π) from h.dot, mul_one, neg_sq]
  intro h0
  rw [h0, zero_pow two_ne_zero] at h2
  exact pow_ne_zero 2 (sin_theta_pos h.pos h.lt).ne' h2.symm

/-- **Deterministic accuracy for the θ-cone**, real plane: sample means within `ρ ≤ ε/(2β)` of the
true means, `β = coneBeta θ`. -/
theorem det_theta (W : Cone2) (θdeg : ℝ) (h : ThetaCone W θdeg)
    (xs : List (ℝ × ℝ)) (mu : ℕ → ℝ × ℝ) (ε ρ : ℝ) (hε : 0 < ε) (hρ0 : 0 ≤ ρ)
    (hρ : ρ ≤ ε / (2 * coneBeta θdeg))
    (hclose : ∀ i (hi : i < xs.length), nsq (xs[i] - mu i) ≤ ρ ^ 2) :
    Accurate W mu xs.length ε (Pareto.fast W.domB xs) := by
  have hβ1 := coneBeta_ge_one h.pos h.lt
  have hβ0 := coneBeta_pos h.pos h.lt
  have hdet := h.det_ne_zero
  -- unit normals with `w₁·w₂ = −cos θ`: `p = q = 1`, `g² = cos²θ`
  have hPL := planar W hdet ((coneBeta θdeg : ℝ) ^ 2) (one_le_pow₀ hβ1) (by
    rw [show W.p = 1 from h.unit1, show W.q = 1 from h.unit2,
      show W.g = -Real.cos (θdeg / 180 * π) from h.dot, mul_one, neg_sq]
    exact coneBeta_planar h.pos h.lt)
  have hρ' : (coneBeta θdeg : ℝ) ^ 2 * (4 * ρ ^ 2) ≤ ε ^ 2 := by
    have h2 : 2 * coneBeta θdeg * ρ ≤ ε := by
      rw [le_div_iff₀ (by positivity)] at hρ
      rw [mul_comm]; exact hρ
    calc (coneBeta θdeg : ℝ) ^ 2 * (4 * ρ ^ 2) = (2 * coneBeta θdeg * ρ) ^ 2 := by ring
      _ ≤ ε ^ 2 := pow_le_pow_left₀ (by positivity) h2 2
  exact det_real W _ (sq_nonneg _) hPL (exists_interior W hdet) xs mu ε ρ hε hρ' hclose

/-- Transport of a real-plane accuracy statement to the executable rational model: on rational
sample means of length 2, `naiveP` returns the indices `Pareto.fast` returns on their casts. -/
theorem accurate_naiveP (a1 a2 c1 c2 : ℚ) (samples : List (List Vec))
    (hlen : ∀ x ∈ rowMeans samples, x.length = 2) (mu : ℕ → ℝ × ℝ) (ε ρ : ℝ)
    (hclose : ∀ i (h : i < (rowMeans samples).length),
      nsq (toR2 (rowMeans samples)[i] - mu i) ≤ ρ ^ 2)
    (hacc : ∀ xs : List (ℝ × ℝ), (∀ i (h : i < xs.length), nsq (xs[i] - mu i) ≤ ρ ^ 2) →
      Accurate (coneOfRat a1 a2 c1 c2) mu xs.length ε
        (Pareto.fast (coneOfRat a1 a2 c1 c2).domB xs)) :
    Accurate (coneOfRat a1 a2 c1 c2) mu samples.length ε (naiveP [[a1, a2], [c1, c2]] samples) := by
  have hl : ((rowMeans samples).map toR2).length = samples.length := by
    simp only [rowMeans, List.length_map]
  have h := hacc ((rowMeans samples).map toR2) fun i hi => by
    rw [List.getElem_map]; exact hclose i (by rwa [List.length_map] at hi)
  rw [hl, ← fast_rat_eq_real a1 a2 c1 c2 _ hlen] at h
  exact h

/-! ### real-valued observations under Gaussian noise -/

/-- per-design means of the `L` observations `mu i + ξ (i, t, ·)`, `t < L` -/
noncomputable def sampleMeansR {K L : ℕ} (mu : ℕ → ℝ × ℝ) (ξ : NoiseIdx K L → ℝ) : List (ℝ × ℝ) :=
  List.ofFn (fun i : Fin K =>
    ((∑ t : Fin L, ((mu i).1 + ξ (i, t, 0))) / L, (∑ t : Fin L, ((mu i).2 + ξ (i, t, 1))) / L))

theorem sampleMeansR_length {K L : ℕ} (mu : ℕ → ℝ × ℝ) (ξ : NoiseIdx K L → ℝ) :
    (sampleMeansR mu ξ).length = K := List.length_ofFn

/-- the mean of `L ≥ 1` observations `a + x t` is `a` plus the mean of the noise -/
theorem mean_add_sub {L : ℕ} (hL : 0 < L) (a : ℝ) (x : Fin L → ℝ) :
    (∑ t, (a + x t)) / L - a = (∑ t, x t) / L := by
  have hL' : (L : ℝ) ≠ 0 := Nat.cast_ne_zero.mpr hL.ne'
  rw [Finset.sum_add_distrib, Finset.sum_const, Finset.card_univ, Fintype.card_fin, nsmul_eq_mul,
    add_div, mul_div_cancel_left₀ _ hL', add_sub_cancel_left]

theorem sampleMeansR_dev {K L : ℕ} (hL : 0 < L) (mu : ℕ → ℝ × ℝ) (ξ : NoiseIdx K L → ℝ) (i : ℕ)
    (hi : i < K) :
    nsq ((sampleMeansR mu ξ)[i]'((sampleMeansR_length mu ξ).symm ▸ hi) - mu i)
      = ∑ c : Fin 2, (dev ξ ⟨i, hi⟩ c) ^ 2 := by
  simp only [sampleMeansR, List.getElem_ofFn, nsq, Prod.fst_sub, Prod.snd_sub, Fin.sum_univ_two, dev,
    mean_add_sub hL]

/-- the deterministic half on real observations: if no design's noise mean deviates by more than
`ε/(2β)`, the Pareto set of the sample means is accurate -/
theorem accurate_sampleMeansR (W : Cone2) (θdeg : ℝ) (hW : ThetaCone W θdeg) {K L : ℕ} (hL : 0 < L)
    (mu : ℕ → ℝ × ℝ) (ε : ℝ) (hε : 0 < ε) (ξ : NoiseIdx K L → ℝ)
    (hdev : ∀ i : Fin K, ∑ c : Fin 2, (dev ξ i c) ^ 2 ≤ (ε / (2 * coneBeta θdeg)) ^ 2) :
    Accurate W mu K ε (Pareto.fast W.domB (sampleMeansR mu ξ)) := by
  have hacc := det_theta W θdeg hW (sampleMeansR mu ξ) mu ε (ε / (2 * coneBeta θdeg)) hε
    (div_pos hε (mul_pos two_pos (coneBeta_pos hW.pos hW.lt))).le le_rfl fun i hi =>
      (sampleMeansR_dev hL mu ξ i (sampleMeansR_length mu ξ ▸ hi)).trans_le (hdev _)
  rwa [sampleMeansR_length] at hacc

/-! ### the sample count -/

theorem naiveLreal_pos (K : ℕ) (hK : 2 ≤ K) (σ β ε δ : ℝ) (hσ : 0 < σ) (hβ : 0 < β) (hε : 0 < ε)
    (hδ : 0 < δ) (hδ1 : δ ≤ 1) : 0 < naiveLreal (naiveC : ℝ) σ β ε δ 2 K :=
  naiveLreal_pos_general _ σ β ε δ 2 K hK one_le_two (two_pos.trans_le two_le_naiveC) hσ hβ hε hδ hδ1

/-- running at least `naiveLprop` rounds is running at least the real number handed to `np.ceil` -/
theorem naiveLreal_le_of_naiveLprop_le {nv ε δ θdeg : ℝ} {m K L : ℕ}
    (hL : naiveLprop nv ε δ θdeg m K ≤ L) :
    naiveLreal (naiveC : ℝ) (√nv) (coneBeta θdeg) ε δ m K ≤ L :=
  (Nat.le_ceil _).trans (Nat.cast_le.mpr hL)

theorem pos_of_naiveLprop_le {nv ε δ θdeg : ℝ} {K L : ℕ} (hK : 2 ≤ K) (hnv : 0 < nv) (hε : 0 < ε)
    (hδ : 0 < δ) (hδ1 : δ ≤ 1) (hθ0 : 0 < θdeg) (hθ1 : θdeg < 180)
    (hL : naiveLprop nv ε δ θdeg 2 K ≤ L) : 0 < L :=
  Nat.cast_pos.mp ((naiveLreal_pos K hK _ _ ε δ (Real.sqrt_pos.mpr hnv) (coneBeta_pos hθ0 hθ1) hε hδ
    hδ1).trans_le (naiveLreal_le_of_naiveLprop_le hL))

end VOPy.Naive
