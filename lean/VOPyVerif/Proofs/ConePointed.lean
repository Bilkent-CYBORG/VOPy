import VOPyVerif.Proofs.ConeIce
/-!
# Helper lemmas for C12: the bundled cones are pointed (`ker W = 0`)
-/
namespace VOPy.ConeFormulas
open VOPy VOPy.ConeOrd Real

/-- kernel of the closed-form θ-cone matrix is trivial for `0 < θ < 180`: in the diagonal frame the two facet
values are `cos h · v ± sin h · u` -/
theorem theta2D_kernel (θdeg : ℝ) (h0 : 0 < θdeg) (h180 : θdeg < 180) (x : List ℝ) (hx : x.length = 2)
    (hk : ∀ w ∈ get2dWClosed θdeg, gdot w x = 0) : x = List.replicate 2 0 := by
  obtain ⟨x1, x2, rfl⟩ := List.length_eq_two.mp hx
  obtain ⟨hs, hc⟩ := half_angle_sin_cos_pos h0 h180
  have hq : √2 / 2 ≠ 0 := (div_pos sqrt2_pos two_pos).ne'
  rw [get2dWClosed_real] at hk
  have k1 := hk _ (List.mem_cons_self ..)
  have k2 := hk _ (List.mem_cons_of_mem _ (List.mem_cons_self ..))
  rw [facet1_vec] at k1
  rw [facet2_vec] at k2
  have hu : x1 + x2 = 0 :=
    (mul_eq_zero_iff_left hq).mp ((mul_eq_zero_iff_left hs.ne').mp (by linear_combination (k1 + k2) / 2))
  have hv : x2 - x1 = 0 :=
    (mul_eq_zero_iff_left hq).mp ((mul_eq_zero_iff_left hc.ne').mp (by linear_combination (k1 - k2) / 2))
  rw [show x1 = 0 by linear_combination (hu - hv) / 2, show x2 = 0 by linear_combination (hu + hv) / 2]
  rfl

/-- Cramer's rule in `ℝ³`: three rows with non-zero determinant have trivial kernel -/
theorem kernel3 {a1 a2 a3 b1 b2 b3 c1 c2 c3 : ℝ}
    (hdet : a1 * (b2 * c3 - b3 * c2) - a2 * (b1 * c3 - b3 * c1) + a3 * (b1 * c2 - b2 * c1) ≠ 0)
    {x : List ℝ} (hx : x.length = 3)
    (hk : ∀ w ∈ [[a1, a2, a3], [b1, b2, b3], [c1, c2, c3]], gdot w x = 0) : x = List.replicate 3 0 := by
  obtain ⟨x1, x2, x3, rfl⟩ := List.length_eq_three.mp hx
  simp only [List.forall_mem_cons, List.not_mem_nil, false_imp_iff, imp_true_iff, and_true, gdot_cons,
    gdot_nil_left, add_zero] at hk
  obtain ⟨ka, kb, kc⟩ := hk
  generalize hD : a1 * (b2 * c3 - b3 * c2) - a2 * (b1 * c3 - b3 * c1) + a3 * (b1 * c2 - b2 * c1) = D at hdet
  have h1 : x1 * D = 0 := by
    linear_combination ka * (b2 * c3 - b3 * c2) - kb * (a2 * c3 - a3 * c2) + kc * (a2 * b3 - a3 * b2) - x1 * hD
  have h2 : x2 * D = 0 := by
    linear_combination kb * (a1 * c3 - a3 * c1) - ka * (b1 * c3 - b3 * c1) - kc * (a1 * b3 - a3 * b1) - x2 * hD
  have h3 : x3 * D = 0 := by
    linear_combination ka * (b1 * c2 - b2 * c1) - kb * (a1 * c2 - a2 * c1) + kc * (a1 * b2 - a2 * b1) - x3 * hD
  rw [(mul_eq_zero_iff_right hdet).mp h1, (mul_eq_zero_iff_right hdet).mp h2, (mul_eq_zero_iff_right hdet).mp h3]
  rfl

/-- kernels of the 3-D cone matrices are trivial: dividing the rows by a norm does not change the kernel, and the
raw matrices have non-zero determinant (81, 1, 81/25) -/
theorem cone3D_kernel (k : Kind3D) (x : List ℝ) (hx : x.length = 3)
    (hk : ∀ w ∈ cone3D (α := ℝ) k, gdot w x = 0) : x = List.replicate 3 0 := by
  have hs : ∀ N : ℝ, 0 < N → (√N)⁻¹ ≠ 0 := fun N hN => inv_ne_zero (Real.sqrt_pos.mpr hN).ne'
  cases k
  · rw [cone3D_acute, kernel_map_rscale (hs _ (by norm_num))] at hk
    exact kernel3 (by norm_num [RealLike.ofNat_real]) hx hk
  · rw [cone3D_right] at hk
    exact kernel3 (by norm_num) hx hk
  · rw [cone3D_obtuse, kernel_map_rscale (hs _ (by norm_num))] at hk
    exact kernel3 (by norm_num [RealLike.ofNat_real, RealLike.ofFrac]) hx hk

/-- `2π/K ∈ (0, π)` for `K ≥ 3`, so `sin (2π/K) ≠ 0` and `cos (2π/K) ≠ 1` -/
theorem delta_sin_cos (K : Nat) (hK : 3 ≤ K) : sin (2 * π / (K : ℝ)) ≠ 0 ∧ cos (2 * π / (K : ℝ)) ≠ 1 := by
  have hπ := Real.pi_pos
  have hK' : (3 : ℝ) ≤ K := by exact_mod_cast hK
  have hKpos : (0 : ℝ) < K := by linarith
  have hs : sin (2 * π / (K : ℝ)) ≠ 0 := (Real.sin_pos_of_pos_of_lt_pi (by positivity)
    (by rw [div_lt_iff₀ hKpos]; linarith [mul_le_mul_of_nonneg_left hK' hπ.le])).ne'
  exact ⟨hs, fun h => hs (Real.sin_eq_zero_iff_cos_eq.mpr (Or.inl h))⟩

/-- the rotation `rotC` is injective on vectors: `R y = 0 → y = 0` (it preserves norms) -/
theorem rotC_apply_eq_zero (y1 y2 y3 : ℝ) (h : rmatVec rotC [y1, y2, y3] = [0, 0, 0]) :
    y1 = 0 ∧ y2 = 0 ∧ y3 = 0 := by
  have hn := rotC_dot y1 y2 y3 y1 y2 y3
  rw [h] at hn
  simp only [rdot_cons, rdot_nil_left, mul_zero, add_zero] at hn
  obtain ⟨h12, h3⟩ := (add_eq_zero_iff_of_nonneg (add_nonneg (mul_self_nonneg _) (mul_self_nonneg _))
    (mul_self_nonneg _)).mp hn.symm
  obtain ⟨h1, h2⟩ := mul_self_add_mul_self_eq_zero.mp h12
  exact ⟨h1, h2, mul_self_eq_zero.mp h3⟩

/-- `(R n) · x = (D n) · (R (D x))` with `D = diag(1, 1, −1)`: the transpose of a rotation about a horizontal
axis is its mirror image in the plane `x₃ = 0`, `Rᵀ = D R D` -/
theorem rotC_dot_transpose (a b c x1 x2 x3 : ℝ) :
    gdot (rmatVec rotC [a, b, c]) [x1, x2, x3] = gdot [a, b, -c] (rmatVec rotC [x1, x2, -x3]) := by
  rw [rotC_apply, rotC_apply]
  simp only [gdot_cons, gdot_nil_left]
  ring

/-- **kernel of the ice-cream matrix is trivial for `K ≥ 3`, `0 < θ < 90`** (rows 0, 1, 2 are already
linearly independent) -/
theorem iceCream_kernel (K : Nat) (hK : 3 ≤ K) (θdeg : ℝ) (h0 : 0 < θdeg) (h90 : θdeg < 90)
    (x : List ℝ) (hx : x.length = 3) (hk : ∀ w ∈ iceCreamW K θdeg, gdot w x = 0) :
    x = List.replicate 3 0 := by
  obtain ⟨x1, x2, x3, rfl⟩ := List.length_eq_three.mp hx
  have hs := (ice_sin_pos h0 (h90.trans (by norm_num))).ne'
  have hc := (ice_cos_pos h0 h90).ne'
  obtain ⟨hsd, hcd⟩ := delta_sin_cos K hK
  -- row `i` is `R nᵢ`, and `(R nᵢ) · x = (D nᵢ) · y` with `y = R (D x)`
  obtain ⟨y1, y2, y3, hy⟩ : ∃ y1 y2 y3, rmatVec rotC [x1, x2, -x3] = [y1, y2, y3] := ⟨_, _, _, rotC_apply _ _ _⟩
  have hrow : ∀ i : Nat, i < K →
      gdot [cos (θdeg * (π / 180)) * cos ((i : ℝ) * (2 * π / K)),
        cos (θdeg * (π / 180)) * sin ((i : ℝ) * (2 * π / K)), -sin (θdeg * (π / 180))] [y1, y2, y3] = 0 := by
    intro i hi
    rw [← hy, ← rotC_dot_transpose]
    exact hk _ (List.mem_map.mpr ⟨i, List.mem_range.mpr hi, iceRow_closed K i θdeg h0 (h90.trans (by norm_num))⟩)
  -- rows 0, 1, 2 have determinant `2 c² s · sin δ · (cos δ − 1) ≠ 0`
  have hy0 := kernel3 (x := [y1, y2, y3]) ?_ rfl (List.forall_mem_cons.mpr ⟨hrow 0 (by omega),
    List.forall_mem_cons.mpr ⟨hrow 1 (by omega), List.forall_mem_singleton.mpr (hrow 2 (by omega))⟩⟩)
  · simp only [List.replicate, List.cons.injEq, and_true] at hy0
    obtain ⟨rfl, rfl, rfl⟩ := hy0
    obtain ⟨e1, e2, e3⟩ := rotC_apply_eq_zero x1 x2 (-x3) hy
    rw [e1, e2, neg_eq_zero.mp e3]
    rfl
  · simp only [Nat.cast_zero, zero_mul, Real.cos_zero, Real.sin_zero, Nat.cast_one, one_mul, Nat.cast_ofNat,
      Real.cos_two_mul, Real.sin_two_mul]
    intro h
    exact mul_ne_zero (mul_ne_zero two_ne_zero (mul_ne_zero (pow_ne_zero 2 hc) hs))
      (mul_ne_zero hsd (sub_ne_zero.mpr hcd)) (by linear_combination h)

end VOPy.ConeFormulas
