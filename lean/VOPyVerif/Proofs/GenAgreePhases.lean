import VOPyVerif.Gen.Phases
import VOPyVerif.Proofs.Steps
/-!
# Source agreement, decision phases: generated set transitions = hand-written `Model/Steps.lean`

`Gen/Phases.lean` is regenerated by `harness/translate_phases.py` from the Python source text of
`discarding`, `pareto_updating`, `useful_updating`, `epsiloncovering`, `compute_pessimistic_set`,
`small_m`, `big_m` and `run_one_step` of the seven PAC algorithms on every `./check C02|C03|C05`
(each file separately).  Every generated definition takes **all** oracles (indexed by the symbolic
slack the source passes) and **all** state sets of its algorithm and returns the **whole** new state;
the theorems below say, for all oracles and all lists, that it is the hand-written definition of
`Model/Steps.lean` applied to the sets the model says are read, with the oracle at the slack the model
documents, the other sets unchanged:

| source slack                              | tag                | hand model's oracle              |
|-------------------------------------------|--------------------|----------------------------------|
| `0`                                       | `zeroSlack`        | `isDom` of the PaVeBa family     |
| `self.cone_alpha * self.epsilon`          | `alphaEps`         | `isCov` of the PaVeBa family     |
| `self.u_star * epsilon`                   | `uStarEps`         | `isDom`, `isCov` of VOGP/VOGP_AD |
| `self.epsilon`                            | `Slack.eps`        | `isDom`, `isCov` of ε-PAL        |

All by `rfl` (after unfolding, the generated and the hand-written term are the same tree) except
VOGP_AD's gated `epsiloncovering` (case split on the latch and the gate: the source's
`if not latch: for …: if depth != max: return` is a nested `if`, the model's a conjunction) and
Auer's phases (the model scans (design, width) pairs, the source looks widths up by design: the closed
forms `auerToDiscardCore_byDesign`, `auerNewParetoCore_byDesign` of `Proofs/Steps.lean`).  No Mathlib.
-/
namespace VOPy.GenAgree.Phases
open VOPy VOPy.Steps VOPy.Gen.Phases

/-- `0` -/
abbrev zeroSlack : Slack := .nat 0
/-- `self.cone_alpha * self.epsilon` (`self.cone_alpha_eps`) -/
abbrev alphaEps : Slack := .mul .coneAlpha .eps
/-- `self.u_star * epsilon` (`self.u_star_eps`) -/
abbrev uStarEps : Slack := .mul .eps .uStar

variable (isDom isCov : Slack → Rel) (pessDom : Rel)

/-! ## PaVeBa (`paveba.py`) -/

theorem gen_paveba_discarding_eq (S P U : List Nat) :
    gen_paveba_discarding isDom isCov pessDom S P U = (pavebaDiscard (isDom zeroSlack) S U, P, U) := rfl

theorem gen_paveba_pareto_updating_eq (S P U : List Nat) :
    gen_paveba_pareto_updating isDom isCov pessDom S P U
      = ((pavebaPareto (isCov alphaEps) S P U).1, (pavebaPareto (isCov alphaEps) S P U).2, U) := rfl

theorem gen_paveba_useful_updating_eq (S P U : List Nat) :
    gen_paveba_useful_updating isDom isCov pessDom S P U = (S, P, pavebaUseful (isCov alphaEps) S P) := rfl

theorem gen_paveba_round_eq (S P U : List Nat) :
    gen_paveba_round isDom isCov pessDom S P U = pavebaRound (isDom zeroSlack) (isCov alphaEps) S P U := rfl

theorem gen_paveba_stepOrder_eq :
    gen_paveba_stepOrder = ["stop if: len(self.S) == 0", "evaluating", "modeling", "discarding",
      "pareto_updating", "useful_updating", "done: len(self.S) == 0"] := rfl

/-! ## PaVeBaGP (`paveba_gp.py`) -/

theorem gen_pavebagp_discarding_eq (S P U : List Nat) :
    gen_pavebagp_discarding isDom isCov pessDom S P U = (pavebaDiscard (isDom zeroSlack) S U, P, U) := rfl

theorem gen_pavebagp_pareto_updating_eq (S P U : List Nat) :
    gen_pavebagp_pareto_updating isDom isCov pessDom S P U
      = ((pavebaPareto (isCov alphaEps) S P U).1, (pavebaPareto (isCov alphaEps) S P U).2, U) := rfl

theorem gen_pavebagp_useful_updating_eq (S P U : List Nat) :
    gen_pavebagp_useful_updating isDom isCov pessDom S P U = (S, P, pavebaUseful (isCov alphaEps) S P) := rfl

theorem gen_pavebagp_round_eq (S P U : List Nat) :
    gen_pavebagp_round isDom isCov pessDom S P U = pavebaRound (isDom zeroSlack) (isCov alphaEps) S P U := rfl

theorem gen_pavebagp_stepOrder_eq :
    gen_pavebagp_stepOrder = ["stop if: len(self.S) == 0", "evaluating", "modeling", "discarding",
      "pareto_updating", "useful_updating", "done: len(self.S) == 0"] := rfl

/-! ## PaVeBaPartialGP (`paveba_partial_gp.py`) -/

theorem gen_partialgp_discarding_eq (S P U : List Nat) :
    gen_partialgp_discarding isDom isCov pessDom S P U = (pavebaDiscard (isDom zeroSlack) S U, P, U) := rfl

theorem gen_partialgp_pareto_updating_eq (S P U : List Nat) :
    gen_partialgp_pareto_updating isDom isCov pessDom S P U
      = ((pavebaPareto (isCov alphaEps) S P U).1, (pavebaPareto (isCov alphaEps) S P U).2, U) := rfl

theorem gen_partialgp_useful_updating_eq (S P U : List Nat) :
    gen_partialgp_useful_updating isDom isCov pessDom S P U = (S, P, pavebaUseful (isCov alphaEps) S P) := rfl

theorem gen_partialgp_round_eq (S P U : List Nat) :
    gen_partialgp_round isDom isCov pessDom S P U = pavebaRound (isDom zeroSlack) (isCov alphaEps) S P U := rfl

theorem gen_partialgp_stepOrder_eq :
    gen_partialgp_stepOrder = ["stop if: len(self.S) == 0 or self.total_cost >= self.cost_budget", "evaluating",
      "modeling", "discarding", "pareto_updating", "useful_updating",
      "done: len(self.S) == 0 or self.total_cost >= self.cost_budget"] := rfl

/-! ## VOGP (`vogp.py`) -/

theorem gen_vogp_compute_pessimistic_set_eq (S P : List Nat) :
    gen_vogp_compute_pessimistic_set isDom isCov pessDom S P = pessimisticSet pessDom S P := rfl

theorem gen_vogp_discarding_eq (S P : List Nat) :
    gen_vogp_discarding isDom isCov pessDom S P = (vogpDiscard (isDom uStarEps) pessDom S P, P) := rfl

theorem gen_vogp_epsiloncovering_eq (S P : List Nat) :
    gen_vogp_epsiloncovering isDom isCov pessDom S P = epsilonCovering (isCov uStarEps) S P := rfl

theorem gen_vogp_round_eq (S P : List Nat) :
    gen_vogp_round isDom isCov pessDom S P = vogpRound (isDom uStarEps) (isCov uStarEps) pessDom S P := rfl

theorem gen_vogp_stepOrder_eq :
    gen_vogp_stepOrder = ["stop if: len(self.S) == 0", "modeling", "discarding", "epsiloncovering",
      "evaluating?", "done: len(self.S) == 0"] := rfl

/-! ## EpsilonPAL (`epal.py`) -/

theorem gen_epal_compute_pessimistic_set_eq (S P : List Nat) :
    gen_epal_compute_pessimistic_set isDom isCov pessDom S P = pessimisticSet pessDom S P := rfl

theorem gen_epal_discarding_eq (S P : List Nat) :
    gen_epal_discarding isDom isCov pessDom S P = (vogpDiscard (isDom Slack.eps) pessDom S P, P) := rfl

theorem gen_epal_epsiloncovering_eq (S P : List Nat) :
    gen_epal_epsiloncovering isDom isCov pessDom S P = epsilonCovering (isCov Slack.eps) S P := rfl

theorem gen_epal_round_eq (S P : List Nat) :
    gen_epal_round isDom isCov pessDom S P = vogpRound (isDom Slack.eps) (isCov Slack.eps) pessDom S P := rfl

theorem gen_epal_stepOrder_eq :
    gen_epal_stepOrder = ["stop if: len(self.S) == 0", "modeling", "discarding", "epsiloncovering",
      "evaluating?", "done: len(self.S) == 0"] := rfl

/-! ## VOGP_AD (`vogp_ad.py`) -/

section AD
variable (depth : Nat → Nat) (maxDepth : Nat) (enabled : Bool)

theorem gen_vogpad_compute_pessimistic_set_eq (S P : List Nat) :
    gen_vogpad_compute_pessimistic_set isDom isCov pessDom depth maxDepth enabled S P
      = pessimisticSet pessDom S P := rfl

theorem gen_vogpad_discarding_eq (S P : List Nat) :
    gen_vogpad_discarding isDom isCov pessDom depth maxDepth enabled S P
      = (vogpDiscard (isDom uStarEps) pessDom S P, P, enabled) := rfl

/-- the gate as the source writes it (`for d in self.S: if depth[d] != max: return`) is the model's
`!(S.all (depth · == max))` -/
theorem gate_any_ne (S : List Nat) :
    S.any (fun i => depth i != maxDepth) = !(S.all (fun i => depth i == maxDepth)) := by
  induction S with
  | nil => rfl
  | cons a l ih => rw [List.any_cons, List.all_cons, ih, Bool.not_and]; rfl

theorem gen_vogpad_epsiloncovering_eq (S P : List Nat) :
    gen_vogpad_epsiloncovering isDom isCov pessDom depth maxDepth enabled S P
      = epsilonCoveringAD (isCov uStarEps) depth maxDepth enabled S P := by
  unfold gen_vogpad_epsiloncovering epsilonCoveringAD
  rw [gate_any_ne]
  cases enabled <;> cases (S.all fun i => depth i == maxDepth) <;> rfl

theorem gen_vogpad_round_eq (S P : List Nat) :
    gen_vogpad_round isDom isCov pessDom depth maxDepth enabled S P
      = vogpADRound (isDom uStarEps) (isCov uStarEps) pessDom depth maxDepth enabled S P := by
  unfold gen_vogpad_round vogpADRound
  simp only [gen_vogpad_discarding_eq, gen_vogpad_epsiloncovering_eq]

theorem gen_vogpad_stepOrder_eq :
    gen_vogpad_stepOrder = ["stop if: len(self.S) == 0", "compute_beta", "modeling", "discarding",
      "epsiloncovering", "evaluate_refine?", "done: len(self.S) == 0"] := rfl

end AD

/-! ## Auer (`auer.py`) -/

section Auer
variable (eps : Rat) (centre width : Nat → Vec)

theorem gen_auer_small_m_eq (ci cj : Vec) : gen_auer_small_m ci cj = smallM ci cj := rfl

theorem gen_auer_big_m_eq (ci cj : Vec) : gen_auer_big_m eps ci cj = bigM eps ci cj := rfl

theorem gen_auer_discarding_eq (S P : List Nat) :
    gen_auer_discarding eps centre width S P = (auerDiscard centre width S, P) := by
  unfold gen_auer_discarding auerDiscard
  rw [auerToDiscardCore_byDesign]
  rfl

theorem gen_auer_pareto_updating_eq (S P : List Nat) :
    gen_auer_pareto_updating eps centre width S P = auerPareto eps centre width S P := by
  unfold gen_auer_pareto_updating auerPareto
  rw [auerNewParetoCore_byDesign]
  rfl

theorem gen_auer_round_eq (S P : List Nat) :
    gen_auer_round eps centre width S P = auerRound eps centre width S P := by
  unfold gen_auer_round auerRound
  simp only [gen_auer_discarding_eq, gen_auer_pareto_updating_eq]

theorem gen_auer_stepOrder_eq :
    gen_auer_stepOrder = ["stop if: len(self.S) == 0", "evaluating", "modeling", "discarding",
      "pareto_updating", "done: len(self.S) == 0"] := rfl

end Auer

end VOPy.GenAgree.Phases
