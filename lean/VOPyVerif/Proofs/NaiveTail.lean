import VOPyVerif.Proofs.Tails
import VOPyVerif.Proofs.SchedulesMean
/-!
# C08 helper: Gaussian tail of sample means under a product Gaussian measure

`ι` indexes the i.i.d. noise coordinates, the measure is `Measure.pi (fun _ : ι => gaussianReal 0 v)`.
The mean of `n` distinct coordinates has law `N(0, v/n)` (`SchedR.pi_mean_gaussian`), so its tail is the
sharp Gaussian tail of `Proofs/Tails.lean` that the schedules of C04 use:
`P(t < mean²) ≤ exp(−t·n/(2v))` (`mean_dev_tail`).
-/
open MeasureTheory ProbabilityTheory Real
open scoped NNReal

namespace VOPy.Naive

/-- the i.i.d. centred Gaussian noise measure with variance `v` on `ι → ℝ` -/
noncomputable abbrev noiseMeasure (ι : Type) [Fintype ι] (v : ℝ≥0) : Measure (ι → ℝ) :=
  Measure.pi (fun _ : ι => gaussianReal 0 v)

/-- The mean of the distinct coordinates `g k`, `k ∈ s`, is `N(0, v/|s|)`: sharp Gaussian tail for a
threshold `t` on its square. -/
theorem mean_dev_tail {ι κ : Type} [Fintype ι] (v : ℝ≥0) (hv : v ≠ 0) (g : κ → ι)
    (hg : g.Injective) (s : Finset κ) (hs : s.Nonempty) (t : ℝ) (ht : 0 ≤ t) :
    (noiseMeasure ι v).real {ξ | t < ((∑ k ∈ s, ξ (g k)) / s.card) ^ 2}
      ≤ rexp (-(t * s.card) / (2 * v)) := by
  have hv0 : (0 : ℝ) < v := NNReal.coe_pos.mpr (pos_iff_ne_zero.mpr hv)
  have hc0 : (0 : ℝ) < s.card := Nat.cast_pos.mpr hs.card_pos
  have h := Tails.gauss_abs_tail_of_var_le 0 (v / s.card) (div_pos hc0 hv0)
    (by push_cast; rw [one_div_div]) (Real.sqrt_nonneg t)
  rw [← SchedR.pi_mean_gaussian v g hg s hs,
    map_measureReal_apply (by fun_prop) (measurableSet_lt measurable_const (by fun_prop)),
    Real.sq_sqrt ht] at h
  refine (measureReal_mono (fun ξ hξ => ?_) (measure_ne_top _ _)).trans (h.trans_eq ?_)
  · rw [Set.mem_preimage, Set.mem_ofPred_eq, sub_zero, ← Real.sqrt_sq_eq_abs]
    exact Real.sqrt_lt_sqrt ht hξ
  · congr 1; field_simp

end VOPy.Naive
