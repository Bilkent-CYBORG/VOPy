import VOPyVerif.Proofs.Problem
import Mathlib.Data.Rat.Lemmas
import Mathlib.Data.Nat.Sqrt
import Mathlib.Algebra.Order.Field.Basic
import Mathlib.Algebra.BigOperators.Ring.List
import Mathlib.Algebra.Order.BigOperators.Group.List
import Mathlib.Tactic.Ring
/-! Helper lemmas for C20: min-max scaling, standardisation, normalize / unnormalize (over `ℚ`). -/
namespace VOPy.Problem

/-! ## column minimum / maximum -/

theorem rmin_eq_min (a b : Rat) : rmin a b = min a b := (min_def a b).symm

theorem rmax_eq_max (a b : Rat) : rmax a b = max a b := (max_def a b).symm

/-- the column minimum is the least entry -/
theorem colMin_spec (x : Rat) (xs : Vec) :
    colMin (x :: xs) ∈ x :: xs ∧ ∀ y ∈ x :: xs, colMin (x :: xs) ≤ y := by
  rw [colMin, show rmin = min from funext₂ rmin_eq_min]
  exact foldl_min_spec x xs

theorem colMax_spec (x : Rat) (xs : Vec) :
    colMax (x :: xs) ∈ x :: xs ∧ ∀ y ∈ x :: xs, y ≤ colMax (x :: xs) := by
  rw [colMax, show rmax = max from funext₂ rmax_eq_max]
  exact foldl_max_spec x xs

theorem colMin_le {col : Vec} {y : Rat} (hy : y ∈ col) : colMin col ≤ y := by
  cases col with
  | nil => nomatch hy
  | cons x xs => exact (colMin_spec x xs).2 y hy

theorem colMin_mem {col : Vec} (h : col ≠ []) : colMin col ∈ col := by
  cases col with
  | nil => exact absurd rfl h
  | cons x xs => exact (colMin_spec x xs).1

theorem le_colMax {col : Vec} {y : Rat} (hy : y ∈ col) : y ≤ colMax col := by
  cases col with
  | nil => nomatch hy
  | cons x xs => exact (colMax_spec x xs).2 y hy

theorem colMax_mem {col : Vec} (h : col ≠ []) : colMax col ∈ col := by
  cases col with
  | nil => exact absurd rfl h
  | cons x xs => exact (colMax_spec x xs).1

/-- the minimum is characterised by membership and being a lower bound -/
theorem colMin_eq_of {col : Vec} {m : Rat} (hm : m ∈ col) (hle : ∀ y ∈ col, m ≤ y) : colMin col = m :=
  le_antisymm (colMin_le hm) (hle _ (colMin_mem (List.ne_nil_of_mem hm)))

theorem colMax_eq_of {col : Vec} {m : Rat} (hm : m ∈ col) (hle : ∀ y ∈ col, y ≤ m) : colMax col = m :=
  le_antisymm (hle _ (colMax_mem (List.ne_nil_of_mem hm))) (le_colMax hm)

theorem colMin_lt_colMax {col : Vec} {a b : Rat} (ha : a ∈ col) (hb : b ∈ col) (hab : a ≠ b) :
    colMin col < colMax col := by
  rcases lt_or_gt_of_ne hab with h | h
  · exact lt_of_le_of_lt (colMin_le ha) (lt_of_lt_of_le h (le_colMax hb))
  · exact lt_of_le_of_lt (colMin_le hb) (lt_of_lt_of_le h (le_colMax ha))

/-! ## sums

The algebra of centring and rescaling a column is done once over any field; `ProblemStd.lean` uses it
at `ℝ`. -/

section Centred
variable {K : Type*} [Field K]

theorem sum_map_sub_div (m s : K) : ∀ l : List K,
    (l.map (fun x => (x - m) / s)).sum = (l.sum - l.length * m) / s
  | [] => by simp
  | x :: xs => by
    simp only [List.map_cons, List.sum_cons, List.length_cons, Nat.cast_succ, sum_map_sub_div m s xs]
    ring

/-- a column centred at its mean and divided by any `s` sums to 0 -/
theorem sum_centred_div (l : List K) (s : K) (hn : (l.length : K) ≠ 0) :
    (l.map (fun x => (x - l.sum / l.length) / s)).sum = 0 := by
  rw [sum_map_sub_div, mul_div_cancel₀ _ hn, sub_self, zero_div]

theorem sum_sq_div (m s : K) (l : List K) :
    (l.map (fun x => (x - m) / s * ((x - m) / s))).sum =
      (l.map (fun x => (x - m) * (x - m))).sum / (s * s) := by
  rw [div_eq_mul_inv, ← List.sum_map_mul_right]
  congr 2
  funext x
  ring

theorem sum_mul_self_nonneg [LinearOrder K] [IsStrictOrderedRing K] (f : K → K) (l : List K) :
    0 ≤ (l.map (fun x => f x * f x)).sum :=
  List.sum_nonneg (fun y hy => by
    obtain ⟨x, _, rfl⟩ := List.mem_map.mp hy
    exact mul_self_nonneg _)

theorem length_cast_ne_zero [CharZero K] {l : List K} (h : l ≠ []) : (l.length : K) ≠ 0 :=
  Nat.cast_ne_zero.mpr (mt List.length_eq_zero_iff.mp h)

end Centred

theorem vsum_cons (x : Rat) (xs : Vec) : vsum (x :: xs) = x + vsum xs := rfl

theorem vsum_eq_sum (l : Vec) : vsum l = l.sum := rfl

theorem mean_eq (col : Vec) : mean col = col.sum / col.length := rfl

theorem popVar_eq (col : Vec) :
    popVar col = (col.map (fun x => (x - mean col) * (x - mean col))).sum / col.length := rfl

theorem popVar_nonneg (col : Vec) : 0 ≤ popVar col :=
  div_nonneg (sum_mul_self_nonneg (fun x => x - mean col) col) (Nat.cast_nonneg _)

/-! ## exact rational square root -/

theorem natSqrt?_sound {n r : Nat} (h : natSqrt? n = some r) : r * r = n := by
  unfold natSqrt? at h
  simp only at h
  split at h
  · rename_i hr; cases h; exact hr
  · cases h

theorem natSqrt?_complete (r : Nat) : natSqrt? (r * r) = some r := by
  unfold natSqrt?
  simp [Nat.sqrt_eq]

theorem ratSqrt?_sound {q s : Rat} (h : ratSqrt? q = some s) : s * s = q ∧ 0 ≤ s := by
  unfold ratSqrt? at h
  split at h
  · cases h
  · next hq =>
    split at h
    · next a b ha hb =>
      split at h
      · cases h
      · cases h
        refine ⟨?_, div_nonneg (Nat.cast_nonneg _) (Nat.cast_nonneg _)⟩
        have hnum : ((q.num.toNat : ℕ) : ℤ) = q.num :=
          Int.toNat_of_nonneg (Rat.num_nonneg.mpr (not_lt.mp hq))
        rw [div_mul_div_comm, ← Nat.cast_mul, ← Nat.cast_mul, natSqrt?_sound ha, natSqrt?_sound hb]
        conv_rhs => rw [← Rat.num_div_den q, ← hnum]
        rw [Int.cast_natCast]
    · cases h

theorem ratSqrt?_complete (t : Rat) : ratSqrt? (t * t) = some |t| := by
  have hn : (t * t).num.toNat = t.num.natAbs * t.num.natAbs := by
    rw [Rat.mul_self_num, ← Int.natAbs_mul_self, Int.toNat_natCast]
  have hcast : ((t.num.natAbs : ℕ) : ℚ) / (t.den : ℚ) = |t| := by
    conv_rhs => rw [← Rat.num_div_den t]
    rw [abs_div, abs_of_pos (a := (t.den : ℚ)) (Nat.cast_pos.mpr t.den_pos), Nat.cast_natAbs, Int.cast_abs]
  rw [ratSqrt?, if_neg (not_lt.mpr (mul_self_nonneg t)), hn, Rat.mul_self_den, natSqrt?_complete,
    natSqrt?_complete]
  simp only [t.den_nz, ↓reduceIte, hcast]

/-! ## normalize / unnormalize -/

theorem unnormalizeCol_normalizeCol (lo hi x : Rat) (h : lo ≠ hi) :
    unnormalizeCol lo hi (normalizeCol lo hi x) = x := by
  unfold unnormalizeCol normalizeCol
  rw [div_mul_cancel₀ _ (sub_ne_zero.mpr h.symm), sub_add_cancel]

theorem normalizeCol_unnormalizeCol (lo hi x : Rat) (h : lo ≠ hi) :
    normalizeCol lo hi (unnormalizeCol lo hi x) = x := by
  unfold unnormalizeCol normalizeCol
  rw [add_sub_cancel_right, mul_div_cancel_right₀ _ (sub_ne_zero.mpr h.symm)]

theorem rowWise_length (f : Rat → Rat → Rat → Rat) (b : List (Rat × Rat)) (row : Vec)
    (h : row.length = b.length) : (rowWise f b row).length = b.length := by
  rw [rowWise, List.length_zipWith, h, Nat.min_self]

theorem rowWise_rowWise (f g : Rat → Rat → Rat → Rat) :
    ∀ (b : List (Rat × Rat)) (row : Vec),
      (∀ p ∈ b, ∀ x, g p.1 p.2 (f p.1 p.2 x) = x) → row.length = b.length →
      rowWise g b (rowWise f b row) = row
  | [], [], _, _ => rfl
  | [], _ :: _, _, h => nomatch h
  | _ :: _, [], _, h => nomatch h
  | p :: b, x :: row, hinv, h => by
    have ih := rowWise_rowWise f g b row (fun q hq => hinv q (List.mem_cons_of_mem _ hq))
      (Nat.succ.inj h)
    simp only [rowWise, List.zipWith_cons_cons] at ih ⊢
    rw [hinv p List.mem_cons_self x, ih]

theorem boundsOK_iff (b : List (Rat × Rat)) : boundsOK b = true ↔ ∀ p ∈ b, p.1 ≠ p.2 := by
  simp only [boundsOK, List.all_eq_true, bne_iff_ne]

theorem map_rowWise_inverse (f g : Rat → Rat → Rat → Rat) (b : List (Rat × Rat))
    (hinv : ∀ p ∈ b, ∀ x, g p.1 p.2 (f p.1 p.2 x) = x) (data : Mat)
    (h : ∀ r ∈ data, r.length = b.length) :
    (data.map (rowWise f b)).map (rowWise g b) = data := by
  rw [List.map_map]
  exact (List.map_congr_left fun r hr => rowWise_rowWise f g b r hinv (h r hr)).trans (List.map_id _)

/-- the common shape of `normalize` and `unnormalize`: the length guard, then a column map `f` on
every row -/
def mapRows (f : Rat → Rat → Rat → Rat) (data : Mat) (bounds : List (Rat × Rat)) : Option Mat :=
  if data.all (fun r => r.length == bounds.length) then some (data.map (rowWise f bounds)) else none

theorem normalize_eq_mapRows : normalize = mapRows normalizeCol := rfl

theorem unnormalize_eq_mapRows : unnormalize = mapRows unnormalizeCol := rfl

theorem mapRows_eq_some_iff (f : Rat → Rat → Rat → Rat) (data d' : Mat) (b : List (Rat × Rat)) :
    mapRows f data b = some d' ↔ (∀ r ∈ data, r.length = b.length) ∧ data.map (rowWise f b) = d' := by
  simp only [mapRows, Option.ite_none_right_eq_some, Option.some.injEq, List.all_eq_true, beq_iff_eq]

theorem mapRows_eq_none_iff (f : Rat → Rat → Rat → Rat) (data : Mat) (b : List (Rat × Rat)) :
    mapRows f data b = none ↔ ∃ r ∈ data, r.length ≠ b.length := by
  simp only [mapRows, ite_eq_right_iff, reduceCtorEq, imp_false, List.all_eq_true, beq_iff_eq,
    not_forall, exists_prop]

/-- if `g` undoes `f` column by column, `mapRows g` undoes `mapRows f` -/
theorem mapRows_inverse (f g : Rat → Rat → Rat → Rat) (b : List (Rat × Rat))
    (hinv : ∀ p ∈ b, ∀ x, g p.1 p.2 (f p.1 p.2 x) = x) (data d' : Mat)
    (h : mapRows f data b = some d') : mapRows g d' b = some data := by
  obtain ⟨hlen, rfl⟩ := (mapRows_eq_some_iff f data _ b).mp h
  refine (mapRows_eq_some_iff g _ data b).mpr ⟨fun r hr => ?_, map_rowWise_inverse f g b hinv data hlen⟩
  obtain ⟨r0, hr0, rfl⟩ := List.mem_map.mp hr
  exact rowWise_length f b r0 (hlen r0 hr0)

/-! ## min-max scaling -/

/-- the divisor `MinMaxScaler` uses: the range, or 1 for a constant column -/
theorem minMax_eq (col : Vec) :
    minMax col = col.map (fun x => (x - colMin col) /
      (if colMax col - colMin col = 0 then 1 else colMax col - colMin col)) := rfl

theorem minMax_divisor_pos (col : Vec) :
    0 < (if colMax col - colMin col = 0 then (1 : Rat) else colMax col - colMin col) := by
  split
  · exact one_pos
  · rename_i h
    cases col with
    | nil => simp [colMax, colMin] at h
    | cons x xs =>
      have h1 : colMin (x :: xs) ≤ colMax (x :: xs) :=
        le_trans (colMin_le (List.mem_cons_self)) (le_colMax (List.mem_cons_self))
      rcases lt_or_eq_of_le h1 with h2 | h2
      · exact sub_pos.mpr h2
      · exact absurd (by rw [h2, sub_self]) h

/-! ## standardisation -/

theorem standardiseWith_eq (s : Rat) (col : Vec) :
    standardiseWith s col = col.map (fun x => (x - mean col) / s) := rfl

theorem mean_standardiseWith (s : Rat) (col : Vec) (hcol : col ≠ []) :
    mean (standardiseWith s col) = 0 := by
  rw [standardiseWith_eq, mean_eq, mean_eq, sum_centred_div col s (length_cast_ne_zero hcol), zero_div]

theorem popVar_standardiseWith (s : Rat) (col : Vec) (hcol : col ≠ []) :
    popVar (standardiseWith s col) = popVar col / (s * s) := by
  rw [popVar_eq, mean_standardiseWith s col hcol, standardiseWith_eq, List.map_map, List.length_map]
  simp only [Function.comp_def, sub_zero]
  rw [sum_sq_div, div_right_comm, ← popVar_eq]

theorem standardiseWith_moments (s : Rat) (col : Vec) (hcol : col ≠ []) (hs : s * s = popVar col)
    (hv : popVar col ≠ 0) :
    mean (standardiseWith s col) = 0 ∧ popVar (standardiseWith s col) = 1 :=
  ⟨mean_standardiseWith s col hcol, by rw [popVar_standardiseWith s col hcol, hs, div_self hv]⟩

/-! ## tolerance comparison used by the driver -/

theorem rabs_le_iff (a t : Rat) : rabs a ≤ t ↔ -t ≤ a ∧ a ≤ t := by
  unfold rabs
  split
  · next h =>
    exact ⟨fun h1 => ⟨neg_le.mp h1, h.le.trans ((neg_pos.mpr h).le.trans h1)⟩,
      fun h1 => neg_le.mpr h1.1⟩
  · next h =>
    have h0 : 0 ≤ a := not_lt.mp h
    exact ⟨fun h1 => ⟨(neg_nonpos.mpr (h0.trans h1)).trans h0, h1⟩, fun h1 => h1.2⟩

/-- the shape-and-entries test of `matClose`, for any entry test `p`: equal lengths and `p` at every
common index -/
theorem zipWith_all_iff {α : Type} (p : α → α → Bool) : ∀ (a b : List α),
    (a.length == b.length && (List.zipWith p a b).all id) = true ↔
      a.length = b.length ∧ ∀ (j : Nat) (x y : α), a[j]? = some x → b[j]? = some y → p x y = true
  | [], [] => ⟨fun _ => ⟨rfl, fun _ _ _ h => (nomatch h)⟩, fun _ => rfl⟩
  | [], _ :: _ => ⟨fun h => (nomatch h), fun h => (nomatch h.1)⟩
  | _ :: _, [] => ⟨fun h => (nomatch h), fun h => (nomatch h.1)⟩
  | x :: a, y :: b => by
    have ih := zipWith_all_iff p a b
    simp only [Bool.and_eq_true, beq_iff_eq] at ih
    simp only [List.length_cons, Nat.add_right_cancel_iff, List.zipWith_cons_cons, List.all_cons, id,
      Bool.and_eq_true, beq_iff_eq]
    constructor
    · rintro ⟨hl, hxy, hall⟩
      refine ⟨hl, fun j u v hu hv => ?_⟩
      cases j with
      | zero => cases hu; cases hv; exact hxy
      | succ j => exact (ih.mp ⟨hl, hall⟩).2 j u v hu hv
    · rintro ⟨hl, h⟩
      exact ⟨hl, h 0 x y rfl rfl, (ih.mpr ⟨hl, fun j u v hu hv => h (j + 1) u v hu hv⟩).2⟩

theorem zipWith_all_eq_iff {α : Type} (p : α → α → Bool) (hp : ∀ x y, p x y = true ↔ x = y)
    (a b : List α) : (a.length == b.length && (List.zipWith p a b).all id) = true ↔ a = b := by
  rw [zipWith_all_iff]
  constructor
  · rintro ⟨hl, h⟩
    exact List.ext_getElem hl fun j h1 h2 =>
      (hp _ _).mp (h j _ _ (List.getElem?_eq_getElem h1) (List.getElem?_eq_getElem h2))
  · rintro rfl
    exact ⟨rfl, fun j x y hx hy => (hp x y).mpr (Option.some.inj (hx.symm.trans hy))⟩

theorem vecClose_iff (tol : Rat) (a b : Vec) :
    (a.length == b.length && (List.zipWith (fun x y => decide (rabs (x - y) ≤ tol)) a b).all id) = true ↔
      a.length = b.length ∧ ∀ (j : Nat) (x y : Rat), a[j]? = some x → b[j]? = some y → rabs (x - y) ≤ tol := by
  simp only [zipWith_all_iff, decide_eq_true_eq]

theorem vecClose_zero_iff (a b : Vec) :
    (a.length == b.length && (List.zipWith (fun x y => decide (rabs (x - y) ≤ 0)) a b).all id) = true ↔
      a = b :=
  zipWith_all_eq_iff _ (fun x y => by
    rw [decide_eq_true_eq, rabs_le_iff, neg_zero, sub_nonneg, sub_nonpos, and_comm, ← le_antisymm_iff]) a b

theorem matClose_zero_iff (A B : Mat) : matClose 0 A B = true ↔ A = B :=
  zipWith_all_eq_iff _ vecClose_zero_iff A B

end VOPy.Problem
