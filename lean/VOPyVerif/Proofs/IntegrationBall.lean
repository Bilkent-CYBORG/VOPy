import VOPyVerif.Proofs.IntegrationCore
import VOPyVerif.Props.C09
import VOPyVerif.Props.C10
/-!
# Integration, balls (PaVeBa): the computed oracles are sound — from C09 and C10

C09 and C10 are statements about the *real* points of the regions, so the facts
`Core.pavebaStep_inv` needs (`OracleSound`) are proved for real points first; rational points
are real points, and an inequality between rationals holds in `ℝ` iff it holds in `ℚ`.  The core runs
on the displayed regions (rational data: every float is a dyadic rational), but the true means of
the designs may therefore be arbitrary real vectors `μ i : Fin m → ℝ`.

* `RDom`, `RGood`, `RegDom` — the cone order and the covering tolerance at real points, and "every
  point of the second region dominates every point of the first"; `truth_real`: `RDom` / `RGood` on
  real means satisfy `Truth`; `real_conclusions`: what the invariant says at termination in the
  property's units; `regDom_trans`, `regDom_irrefl`: a strict order on regions that have a point
  resp. two points differing in one coordinate.
* `oracleSound_of_regDom` — `OracleSound` at real points for *any* shape of region: `dom` decides
  `RegDom` of the point sets, a well-formed region has two points differing in one coordinate, a failed
  covering test gives `RGood`.  With `Core.oracleSound_comap` along `CastOf` (a rational list vector
  stands for its cast) the same facts hold at rational points.
* `ballDom_iff` — `C09.ell_isDominated_iff_posDef` at `Σ = I`: `Core.ballDom` decides `RegDom` of the
  two real balls.
* `ballCov_sound_real` — `C10.ball_isCovered_iff`: `Core.ballCov … = false` ⇒ `RGood` for any two real
  points of the balls.
* `ball_oracleSound_real`, `ball_oracleSound` — the two instances for balls.
-/
namespace VOPy.Core
open VOPy Matrix

variable {m N : ℕ}

/-! ### `Fin`-indexed views of list data -/

/-- the rational identity matrix as a function -/
def idQ (m : ℕ) : Fin m → Fin m → ℚ := fun i j => if i = j then 1 else 0

theorem identMat_eq_toMat (m : ℕ) : identMat m = toMat (idQ m) := by
  apply List.ext_getElem
  · simp [identMat, toMat]
  · intro i h1 h2
    apply List.ext_getElem
    · simp [identMat, toMat]
    · intro j h3 h4
      simp [identMat, toMat, idQ, Fin.ext_iff]

theorem of_idQ (m : ℕ) :
    (Matrix.of fun i j => ((idQ m i j : ℚ) : ℝ)) = (1 : Matrix (Fin m) (Fin m) ℝ) := by
  ext i j
  simp only [Matrix.of_apply, idQ, Matrix.one_apply]
  split_ifs <;> simp

theorem sum_idQ_mul (x : Fin m → ℝ) (n : Fin m) : ∑ d, ((idQ m n d : ℚ) : ℝ) * x d = x n := by
  simp only [idQ, apply_ite (Rat.cast : ℚ → ℝ), Rat.cast_one, Rat.cast_zero, ite_mul, one_mul, zero_mul,
    Finset.sum_ite_eq, Finset.mem_univ, if_true]

theorem smul_toVec (c : ℚ) (a : Fin m → ℚ) : smul c (toVec a) = toVec fun d => c * a d := by
  simp [smul, toVec, List.map_ofFn, Function.comp_def]

theorem getElem_toVec (f : Fin m → ℚ) (n : ℕ) (h : n < (toVec f).length) :
    (toVec f)[n] = f ⟨n, by simpa using h⟩ := by
  simp [toVec]

theorem getElem_toMat (W : Fin N → Fin m → ℚ) (n : ℕ) (h : n < (toMat W).length) :
    (toMat W)[n] = toVec (W ⟨n, by simpa using h⟩) := by
  simp [toMat, toVec]

theorem toMat_rows (W : Fin N → Fin m → ℚ) : ∀ w ∈ toMat W, w.length = m := by
  intro w hw
  obtain ⟨n, rfl⟩ := mem_toMat.1 hw
  exact toVec_length _

theorem toMat_ne_nil (W : Fin N → Fin m → ℚ) (hN : 0 < N) : toMat W ≠ [] :=
  List.ne_nil_of_length_pos (by rw [toMat_length]; exact hN)

/-- a list matrix with rows of one length is `toMat` of a function -/
theorem exists_toMat (W : Mat) (hW : ∀ w ∈ W, w.length = m) :
    ∃ N, ∃ W' : Fin N → Fin m → ℚ, W = toMat W' :=
  ⟨W.length, VOPy.C09.mat_wellformed W rfl hW⟩

theorem exists_ne_zero_toMat (W : Fin N → Fin m → ℚ) :
    (∃ w ∈ toMat W, ∃ x ∈ w, x ≠ 0) ↔ ∃ n d, W n d ≠ 0 := by
  constructor
  · rintro ⟨w, hw, x, hx, hx0⟩
    obtain ⟨n, rfl⟩ := mem_toMat.1 hw
    obtain ⟨d, rfl⟩ := List.mem_ofFn.1 hx
    exact ⟨n, d, hx0⟩
  · rintro ⟨n, d, h⟩
    exact ⟨toVec (W n), mem_toMat.2 ⟨n, rfl⟩, W n d, List.mem_ofFn.2 ⟨d, rfl⟩, h⟩

/-- `dominates` on `Fin`-indexed data -/
theorem dominates_toVec_iff (W : Fin N → Fin m → ℚ) (y x : Fin m → ℚ) :
    dominates (toMat W) (toVec y) (toVec x) = true ↔ ∀ n, 0 ≤ ∑ i, W n i * (y i - x i) := by
  rw [dominates_iff]
  constructor
  · intro h n
    have := h (toVec (W n)) (mem_toMat.2 ⟨n, rfl⟩)
    rwa [vsub_toVec, dot_toVec] at this
  · intro h w hw
    obtain ⟨n, rfl⟩ := mem_toMat.1 hw
    rw [vsub_toVec, dot_toVec]
    exact h n

/-- `notCovers` on `Fin`-indexed data -/
theorem notCovers_toVec_iff (W : Fin N → Fin m → ℚ) (t : Fin N → ℚ) (x y : Fin m → ℚ) :
    Accuracy.notCovers (toMat W) (toVec t) (toVec x) (toVec y) = true ↔
      ∃ n, ∑ i, W n i * (y i - x i) < t n := by
  rw [Accuracy.notCovers_iff]
  constructor
  · rintro ⟨n, h1, h2, h⟩
    rw [getElem_toMat, getElem_toVec, vsub_toVec, dot_toVec] at h
    exact ⟨_, h⟩
  · rintro ⟨n, h⟩
    refine ⟨n, by simp, by simp, ?_⟩
    rw [getElem_toMat, getElem_toVec, vsub_toVec, dot_toVec]
    exact h

/-! ### real points: the cone order and domination between regions -/

/-- `y ≽ x` for real vectors in the order of the rational cone matrix `W` -/
def RDom (W : Fin N → Fin m → ℚ) (y x : Fin m → ℝ) : Prop :=
  ∀ n, 0 ≤ ∑ d, (W n d : ℝ) * (y d - x d)

/-- `y` does not cover `x` with facet thresholds `t`: `∃ n, w_n·(y − x) < t_n` -/
def RGood (W : Fin N → Fin m → ℚ) (t : Fin N → ℚ) (x y : Fin m → ℝ) : Prop :=
  ∃ n, ∑ d, (W n d : ℝ) * (y d - x d) < (t n : ℝ)

/-- every point of the region `R₂` dominates every point of `R₁`: the ∀∀ meaning of `is_dominated`
with zero slack -/
def RegDom (W : Fin N → Fin m → ℚ) (R1 R2 : (Fin m → ℝ) → Prop) : Prop :=
  ∀ x, R1 x → ∀ y, R2 y → RDom W y x

theorem rdom_trans {W : Fin N → Fin m → ℚ} {x y z : Fin m → ℝ} (h1 : RDom W z y) (h2 : RDom W y x) :
    RDom W z x := by
  intro n
  have e : ∑ d, (W n d : ℝ) * (z d - x d) =
      ∑ d, (W n d : ℝ) * (z d - y d) + ∑ d, (W n d : ℝ) * (y d - x d) := by
    rw [← Finset.sum_add_distrib]
    exact Finset.sum_congr rfl fun d _ => by ring
  rw [e]
  exact add_nonneg (h1 n) (h2 n)

/-- rational points are real points -/
theorem rdom_cast (W : Fin N → Fin m → ℚ) (y x : Fin m → ℚ) :
    RDom W (fun d => (y d : ℝ)) (fun d => (x d : ℝ)) ↔
      dominates (toMat W) (toVec y) (toVec x) = true := by
  rw [dominates_toVec_iff]
  refine forall_congr' fun n => ?_
  rw [← Rat.cast_le (K := ℝ)]
  push_cast
  rfl

theorem rgood_cast (W : Fin N → Fin m → ℚ) (t : Fin N → ℚ) (x y : Fin m → ℚ) :
    RGood W t (fun d => (x d : ℝ)) (fun d => (y d : ℝ)) ↔
      Accuracy.notCovers (toMat W) (toVec t) (toVec x) (toVec y) = true := by
  rw [notCovers_toVec_iff]
  refine exists_congr fun n => ?_
  rw [← Rat.cast_lt (K := ℝ)]
  push_cast
  rfl

theorem truth_real (W : Fin N → Fin m → ℚ) (t : Fin N → ℚ) (K : Nat) (mu : Nat → Fin m → ℝ)
    (hpos : ∃ n, 0 < t n) :
    Accuracy.Truth K (fun j i => RDom W (mu j) (mu i)) (fun i j => RGood W t (mu i) (mu j)) where
  dom_trans := fun _ _ _ _ _ _ h1 h2 => rdom_trans h1 h2
  good_refl := by
    intro i _
    obtain ⟨n, hn⟩ := hpos
    refine ⟨n, ?_⟩
    simp only [sub_self, mul_zero, Finset.sum_const_zero]
    exact Rat.cast_pos.2 hn
  good_mono := by
    rintro i k j _ _ _ ⟨n, hn⟩ h2
    refine ⟨n, ?_⟩
    have e : ∑ d, (W n d : ℝ) * (mu j d - mu i d) =
        ∑ d, (W n d : ℝ) * (mu k d - mu i d) - ∑ d, (W n d : ℝ) * (mu k d - mu j d) := by
      rw [← Finset.sum_sub_distrib]
      exact Finset.sum_congr rfl fun d _ => by ring
    rw [e]
    exact lt_of_le_of_lt (sub_le_self _ (h2 n)) hn

/-- **The conclusions over `ℝ`.**  With `S = ∅` and thresholds `t_n ≤ ε·α_n` (`α_n > 0`, `ε ≥ 0`) the
invariant gives (a) every design outside `P` is dominated by a member of `P` and (b) `m(i,j) ≤ ε` for
`i ∈ P`, witnessed by a facet. -/
theorem real_conclusions (W : Fin N → Fin m → ℚ) (t alpha : Fin N → ℚ) (eps : ℚ) (heps : 0 ≤ eps)
    (hal : ∀ n, 0 < alpha n) (ht : ∀ n, t n ≤ eps * alpha n) {K : ℕ} {mu : ℕ → Fin m → ℝ}
    {S P U : List ℕ}
    (h : Accuracy.PInv K (fun j i => RDom W (mu j) (mu i)) (fun i j => RGood W t (mu i) (mu j)) S P U)
    (hS : S = []) :
    (∀ i, i < K → i ∉ P → ∃ j ∈ P, ∀ n, 0 ≤ ∑ d, (W n d : ℝ) * (mu j d - mu i d)) ∧
    (∀ i ∈ P, ∀ j, j < K →
      ∃ n, max 0 (∑ d, (W n d : ℝ) * (mu j d - mu i d)) / (alpha n : ℝ) ≤ (eps : ℝ)) := by
  obtain ⟨ha, hb⟩ := Accuracy.pinv_final h hS
  refine ⟨ha, fun i hi j hj => ?_⟩
  obtain ⟨n, hn⟩ := hb i hi j hj
  refine ⟨n, ?_⟩
  have htn : (t n : ℝ) ≤ (eps : ℝ) * (alpha n : ℝ) := by
    rw [← Rat.cast_mul]
    exact Rat.cast_le.2 (ht n)
  have hapos : (0 : ℝ) < (alpha n : ℝ) := Rat.cast_pos.2 (hal n)
  have hepos : (0 : ℝ) ≤ (eps : ℝ) := Rat.cast_nonneg.2 heps
  exact (div_le_iff₀ hapos).2 (max_le (mul_nonneg hepos hapos.le) (hn.le.trans htn))

theorem regDom_trans {W : Fin N → Fin m → ℚ} {R1 R2 R3 : (Fin m → ℝ) → Prop} (hne : ∃ y, R2 y)
    (h12 : RegDom W R1 R2) (h23 : RegDom W R2 R3) : RegDom W R1 R3 := by
  obtain ⟨y, hy⟩ := hne
  exact fun x hx z hz => rdom_trans (h23 y hy z hz) (h12 x hx y hy)

/-- A region that contains two points differing in coordinate `i` only does not dominate itself if
some facet has a non-zero entry in column `i`: that facet functional takes the values `±w_i·δ` on
the two differences. -/
theorem regDom_irrefl {W : Fin N → Fin m → ℚ} {R : (Fin m → ℝ) → Prop} (n : Fin N) (i : Fin m)
    (hw : W n i ≠ 0) (z : Fin m → ℝ) (δ : ℝ) (hδ : δ ≠ 0) (hz : R z)
    (hz' : R (Function.update z i (z i + δ))) : ¬ RegDom W R R := by
  intro h
  have e1 : ∑ d, (W n d : ℝ) * (Function.update z i (z i + δ) d - z d) = (W n i : ℝ) * δ := by
    rw [Finset.sum_eq_single i]
    · rw [Function.update_self, add_sub_cancel_left]
    · intro d _ hd
      rw [Function.update_of_ne hd, sub_self, mul_zero]
    · intro hi
      exact absurd (Finset.mem_univ i) hi
  have e2 : ∑ d, (W n d : ℝ) * (z d - Function.update z i (z i + δ) d) = -((W n i : ℝ) * δ) := by
    rw [Finset.sum_eq_single i]
    · rw [Function.update_self, sub_add_cancel_left, mul_neg]
    · intro d _ hd
      rw [Function.update_of_ne hd, sub_self, mul_zero]
    · intro hi
      exact absurd (Finset.mem_univ i) hi
  have h1 := h z hz _ hz' n
  have h2 := h _ hz' z hz n
  rw [e1] at h1
  rw [e2] at h2
  exact mul_ne_zero (Rat.cast_ne_zero.2 hw) hδ (le_antisymm (neg_nonneg.1 h2) h1)

/-- **The four facts for any shape of region** with real point sets `pts a`: it is enough that `dom`
decides `RegDom` between well-formed regions, that a well-formed region contains two points differing in
one coordinate on which some facet is non-zero, and that a failed covering test gives `RGood`.  Region
domination is then a strict order (`regDom_trans` through a point of the middle region, `regDom_irrefl`). -/
theorem oracleSound_of_regDom {ρ : Type} {dom cov : ρ → ρ → Bool} {wf : ρ → Prop}
    {W : Fin N → Fin m → ℚ} {t : Fin N → ℚ} (pts : ρ → (Fin m → ℝ) → Prop)
    (hiff : ∀ a b, wf a → wf b → (dom a b = true ↔ RegDom W (pts a) (pts b)))
    (hnd : ∀ a, wf a → ∃ n i, W n i ≠ 0 ∧
      ∃ z δ, δ ≠ 0 ∧ pts a z ∧ pts a (Function.update z i (z i + δ)))
    (hcov : ∀ a b x y, wf a → wf b → pts a x → pts b y → cov a b = false → RGood W t x y) :
    OracleSound dom cov wf pts (RDom W) (RGood W t) where
  dom_sound a b x y wa wb mx my h := (hiff a b wa wb).1 h x mx y my
  dom_trans a b c y wa wb wc my h1 h2 :=
    (hiff a c wa wc).2 (regDom_trans ⟨y, my⟩ ((hiff a b wa wb).1 h1) ((hiff b c wb wc).1 h2))
  dom_irrefl a wa := by
    obtain ⟨n, i, hw, z, δ, hδ, hz, hz'⟩ := hnd a wa
    exact Bool.eq_false_iff.mpr fun h => regDom_irrefl n i hw z δ hδ hz hz' ((hiff a a wa wa).1 h)
  cov_sound := hcov

/-- a rational list vector `x'` of `m` entries and the real vector it stands for -/
def CastOf (x' : Vec) (x : Fin m → ℝ) : Prop := ∃ q : Fin m → ℚ, x' = toVec q ∧ x = fun d => (q d : ℝ)

/-! ### balls: domination (C09 at `Σ = I`) -/

/-- a real point of the ball with rational centre `c` and radius `a` -/
def RBallMem (c : Fin m → ℚ) (a : ℚ) (x : Fin m → ℝ) : Prop :=
  0 ≤ a ∧ ∑ d, (x d - (c d : ℝ)) ^ 2 ≤ (a : ℝ) ^ 2

theorem rballMem_iff (c : Fin m → ℚ) (a : ℚ) (x : Fin m → ℝ) :
    x ∈ Ellipsoid.EllQ (Ellipsoid.castVec c) 1 (a : ℝ) ↔ RBallMem c a x := by
  simp only [Ellipsoid.EllQ, Set.mem_ofPred_eq, inv_one, Matrix.one_mulVec, dotProduct, Pi.sub_apply,
    RBallMem, Rat.cast_nonneg, sq]

theorem rballMem_centre (c : Fin m → ℚ) (a : ℚ) (ha : 0 ≤ a) : RBallMem c a fun d => (c d : ℝ) := by
  refine ⟨ha, ?_⟩
  rw [Finset.sum_eq_zero fun d _ => by rw [sub_self, zero_pow two_ne_zero]]
  exact sq_nonneg _

theorem rballMem_shift (c : Fin m → ℚ) (a : ℚ) (ha : 0 ≤ a) (i : Fin m) :
    RBallMem c a (Function.update (fun d => (c d : ℝ)) i ((c i : ℝ) + (a : ℝ))) := by
  refine ⟨ha, le_of_eq ?_⟩
  rw [Finset.sum_eq_single i]
  · rw [Function.update_self, add_sub_cancel_left]
  · intro d _ hd
    rw [Function.update_of_ne hd, sub_self, zero_pow two_ne_zero]
  · intro hi
    exact absurd (Finset.mem_univ i) hi

/-- a rational point of a ball of dimension `m` is a real point of it (`Fin`-indexed forms) -/
theorem Ball.exists_point (b : Ball) (x : Vec) (hc : b.c.length = m) (hx : b.mem x = true) :
    ∃ (c : Fin m → ℚ) (a : ℚ) (x' : Fin m → ℚ), b = ⟨toVec c, a⟩ ∧ x = toVec x' ∧
      RBallMem c a fun d => (x' d : ℝ) := by
  simp only [Ball.mem, Bool.and_eq_true, decide_eq_true_eq] at hx
  obtain ⟨c, hc'⟩ := VOPy.C09.vec_wellformed b.c hc
  obtain ⟨x', rfl⟩ := VOPy.C09.vec_wellformed x (hx.1.2.trans hc)
  refine ⟨c, b.a, x', by rw [← hc'], rfl, hx.1.1, ?_⟩
  have := (Rat.cast_le (K := ℝ)).2 hx.2
  rw [hc', normSq, vsub_toVec, dot_toVec] at this
  push_cast at this
  simpa only [sq] using this

theorem ballDom_eq (W : Mat) (b1 b2 : Ball) :
    ballDom W b1 b2 = Ellipsoid.isDominated W b1.c (identMat b1.c.length) b1.a
      b2.c (identMat b2.c.length) b2.a (List.replicate W.length 0) := by
  simp [ballDom, Ellipsoid.isDominatedChecked, Ellipsoid.expandSlack]

/-- **C09 at `Σ = I`**: the executable ball domination test answers `true` exactly when every real
point of the second ball dominates every real point of the first. -/
theorem ballDom_iff (W : Fin N → Fin m → ℚ) (c1 c2 : Fin m → ℚ) (a1 a2 : ℚ) :
    ballDom (toMat W) ⟨toVec c1, a1⟩ ⟨toVec c2, a2⟩ = true ↔
      RegDom W (RBallMem c1 a1) (RBallMem c2 a2) := by
  have hpd : (Matrix.of fun i j => ((idQ m i j : ℚ) : ℝ)).PosDef := by
    rw [of_idQ]; exact Matrix.PosDef.one
  rw [ballDom_eq]
  simp only [toVec_length, toMat_length]
  rw [identMat_eq_toMat, ← toVec_const,
    VOPy.C09.ell_isDominated_iff_posDef W c1 c2 (idQ m) (idQ m) a1 a2 (fun _ => 0) hpd hpd, of_idQ]
  simp only [Ellipsoid.DominatedQ, rballMem_iff, Rat.cast_zero, neg_zero, dotProduct, Pi.sub_apply,
    RegDom, RDom]

/-! ### balls: covering (C10) — real `Fin`-vectors as the real lists of C10 -/

section lists
open VOPy.LinCert VOPy.Covered

theorem castV_toVec (c : Fin m → ℚ) : castV (toVec c) = List.ofFn fun d => (c d : ℝ) := by
  simp [castV, toVec, List.map_ofFn, Function.comp_def]

theorem rsub_ofFn (a b : Fin m → ℝ) : rsub (List.ofFn a) (List.ofFn b) = List.ofFn fun d => a d - b d :=
  zipWith_ofFn _ a b

theorem rdot_ofFn (a b : Fin m → ℝ) : rdot (List.ofFn a) (List.ofFn b) = ∑ d, a d * b d :=
  (rdot_eq_gdot _ _).trans (gdot_ofFn a b)

theorem facetGe_ofFn : ∀ {N : ℕ} (W : Fin N → Fin m → ℚ) (d : Fin m → ℝ) (t : Fin N → ℚ),
    FacetGe (toMat W) (List.ofFn d) (toVec t) ↔ ∀ n, (t n : ℝ) ≤ ∑ i, (W n i : ℝ) * d i
  | 0, _, _, _ => by
    simp only [toMat, toVec, List.ofFn_zero, FacetGe, true_iff]
    exact fun n => n.elim0
  | N + 1, W, d, t => by
    rw [Fin.forall_fin_succ, ← facetGe_ofFn (fun n => W n.succ) d (fun n => t n.succ)]
    simp only [toMat, toVec, List.ofFn_succ, FacetGe]
    rw [← toVec, castV_toVec, rdot_ofFn]

theorem expandSlack_self (k : ℕ) (s : Vec) (h : s.length = k) : expandSlack k s = some s := by
  unfold expandSlack
  split
  · obtain rfl : k = 1 := by simpa using h.symm
    rfl
  · simp [h]

/-- a real point of a rational ball, as a point of the real ball of C10 -/
theorem ofFn_mem_ball (c : Fin m → ℚ) (a : ℚ) (x : Fin m → ℝ) (h : RBallMem c a x) :
    List.ofFn x ∈ ball (toVec c) a := by
  refine ⟨h.1, by simp, ?_⟩
  rw [castV_toVec, rsub_ofFn, rnormSq, rdot_ofFn]
  simpa only [sq] using h.2

/-- **`ballCov` is sound at real points** (C10, `ball_isCovered_iff`): if the executable covering
test (per-facet slack `t`) does not answer `1`, then for any real points `x`, `y` of the two balls
some facet has `w_n·(y − x) < t_n`. -/
theorem ballCov_sound_real (W : Fin N → Fin m → ℚ) (t : Fin N → ℚ) (c1 c2 : Fin m → ℚ) (a1 a2 : ℚ)
    (x y : Fin m → ℝ) (hx : RBallMem c1 a1 x) (hy : RBallMem c2 a2 y)
    (h : ballCov (toMat W) (toVec t) ⟨toVec c1, a1⟩ ⟨toVec c2, a2⟩ = false) : RGood W t x y := by
  by_contra hng
  have hyes : ballIsCovered (toMat W) (toVec c1) a1 (toVec c2) a2 (toVec t) = some Verdict.yes := by
    apply (VOPy.C10.ball_isCovered_iff (toMat W) (toVec c1) (toVec c2) (toVec t) a1 a2 hx.1 hy.1
      (by simp) (by simpa using toMat_rows W)).1.2
    refine ⟨toVec t, expandSlack_self _ _ (by simp), List.ofFn x, ofFn_mem_ball c1 a1 x hx,
      List.ofFn y, ofFn_mem_ball c2 a2 y hy, ?_⟩
    rw [rsub_ofFn, facetGe_ofFn]
    exact fun n => not_lt.1 fun hlt => hng ⟨n, hlt⟩
  simp [ballCov, hyes] at h

end lists

/-! ### the four facts for balls of dimension `m` and positive radius -/

/-- … at real points: `ballDom_iff` (C09), the centre and the centre moved by the radius along a
coordinate, `ballCov_sound_real` (C10) -/
theorem ball_oracleSound_real (W : Fin N → Fin m → ℚ) (hWne : ∃ n d, W n d ≠ 0) (t : Fin N → ℚ) :
    OracleSound (ballDom (toMat W)) (ballCov (toMat W) (toVec t)) (fun b => b.c.length = m ∧ 0 < b.a)
      (fun b (x : Fin m → ℝ) => ∃ c : Fin m → ℚ, b.c = toVec c ∧ RBallMem c b.a x)
      (RDom W) (RGood W t) := by
  obtain ⟨n, i, hw⟩ := hWne
  -- a ball with centre `toVec c` has the points `RBallMem c`
  have e : ∀ (c : Fin m → ℚ) (r : ℚ) (x : Fin m → ℝ),
      (∃ c' : Fin m → ℚ, toVec c = toVec c' ∧ RBallMem c' r x) ↔ RBallMem c r x :=
    fun c r x => ⟨fun ⟨c', h, hx⟩ => by rwa [List.ofFn_injective h], fun hx => ⟨c, rfl, hx⟩⟩
  refine oracleSound_of_regDom _ ?_ ?_ ?_
  · rintro ⟨ca, ra⟩ ⟨cb, rb⟩ wa wb
    obtain ⟨ca, rfl⟩ := VOPy.C09.vec_wellformed ca wa.1
    obtain ⟨cb, rfl⟩ := VOPy.C09.vec_wellformed cb wb.1
    rw [ballDom_iff]
    exact ⟨fun h x hx y hy => h x ((e ..).1 hx) y ((e ..).1 hy),
      fun h x hx y hy => h x ((e ..).2 hx) y ((e ..).2 hy)⟩
  · rintro ⟨ca, ra⟩ wa
    obtain ⟨ca, rfl⟩ := VOPy.C09.vec_wellformed ca wa.1
    exact ⟨n, i, hw, _, (ra : ℝ), Rat.cast_ne_zero.2 wa.2.ne', ⟨ca, rfl, rballMem_centre ca ra wa.2.le⟩,
      ⟨ca, rfl, rballMem_shift ca ra wa.2.le i⟩⟩
  · rintro ⟨_, ra⟩ ⟨_, rb⟩ x y _ _ ⟨ca, rfl, mx⟩ ⟨cb, rfl, my⟩ h
    exact ballCov_sound_real W t ca cb ra rb x y mx my h

/-- … and at rational points (list level: cone rows of `m` entries with some non-zero entry, one slack
entry per facet): rational points are real points -/
theorem ball_oracleSound (W : Mat) (m : ℕ) (hW : ∀ w ∈ W, w.length = m)
    (hWne : ∃ w ∈ W, ∃ x ∈ w, x ≠ 0) (t : Vec) (ht : t.length = W.length) :
    OracleSound (ballDom W) (ballCov W t) (fun b => b.c.length = m ∧ 0 < b.a)
      (fun b x => b.mem x = true) (fun y x => dominates W y x = true)
      (fun x y => Accuracy.notCovers W t x y = true) := by
  obtain ⟨N, W, rfl⟩ := exists_toMat W hW
  obtain ⟨t, rfl⟩ := VOPy.C09.vec_wellformed t (ht.trans (toMat_length W))
  refine oracleSound_comap (ball_oracleSound_real W ((exists_ne_zero_toMat W).1 hWne) t) CastOf
    ?_ ?_ ?_
  · intro a x' wa mx
    obtain ⟨c, r, q, rfl, rfl, h⟩ := a.exists_point x' wa.1 mx
    exact ⟨_, ⟨q, rfl, rfl⟩, c, rfl, h⟩
  · rintro _ _ _ _ ⟨x, rfl, rfl⟩ ⟨y, rfl, rfl⟩ h
    exact (rdom_cast W y x).1 h
  · rintro _ _ _ _ ⟨x, rfl, rfl⟩ ⟨y, rfl, rfl⟩ h
    exact (rgood_cast W t x y).1 h

end VOPy.Core
