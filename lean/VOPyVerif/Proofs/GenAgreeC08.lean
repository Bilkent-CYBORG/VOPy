import VOPyVerif.Gen.C08
import VOPyVerif.Model.Naive
/-!
# Source agreement, C08: generated NaiveElimination sample count = hand-written `naiveLreal` / `naiveLprop`

`Gen/C08.lean` is regenerated by `harness/translate.py` from the source text of
`NaiveElimination.__init__` (`vopy/algorithms/naive_elimination.py`, branch `L is None`) and of the
property `ConeTheta2D.beta` (`vopy/ordering_cone.py`) on every `./check C08`.

* `gen_coneBeta_eq`: polymorphic, `rfl`.
* `gen_naiveLreal_eq`, `gen_naiveL_eq`: polymorphic (`∀ α [RealLike α]`), **under `2 ≤ K`**.  The
  source divides by `max(self.K * (self.K - 1), 1)`; Python integers do not truncate, so the
  translator reads `K - 1` as an `Int` and produces `Vh.ofInt (max (↑K * (↑K - 1)) 1)`, whereas the
  hand-written `naiveLreal` has `ofNat (K * (K - 1))` (the PAC theorems of `Props/C08.lean` assume
  `2 ≤ K`: with one design there is nothing to compare).  For `2 ≤ K` the two integers coincide
  (`pairCount_eq`, by `omega` after naming the product), hence the two *terms* coincide in every
  carrier; the rest of the equality is `rfl` (the source's `c = 1 + np.sqrt(2)` is `naiveC`, the
  position of σ holds `np.sqrt(noise_var)` — the repaired constructor, finding D1).
  For `K = 1` the source evaluates `log(4m / (2δ / 1))` and the hand term divides by `ofNat 0`; this
  case is outside the agreement and outside the property.

Import-free: no Mathlib.
-/
namespace VOPy.GenAgree.C08
open VOPy VOPy.Gen.C08 VOPy.RealLike

variable {α : Type} [RealLike α]

/-- `ConeTheta2D.beta` (source) = `Naive.coneBeta`; polymorphic, `rfl`. -/
theorem gen_coneBeta_eq [Naive.LtB α] (θdeg : α) : gen_coneBeta θdeg = Naive.coneBeta θdeg := rfl

/-- a natural number read as a Python `int` and injected into the carrier is `ofNat` of it -/
theorem ofInt_natCast (n : Nat) : (Vh.ofInt (n : Int) : α) = ofNat n := by
  have h : ¬ ((n : Int) < 0) := by omega
  simp only [Vh.ofInt, h, if_false, Int.natAbs_natCast]

/-- the integer the source computes, `max(K * (K - 1), 1)` over Python `int`s, is the natural
number `K * (K - 1)` of the hand-written term as soon as there are two designs -/
theorem pairCount_eq (K : Nat) (hK : 2 ≤ K) :
    max ((K : Int) * ((K : Int) - 1)) 1 = ((K * (K - 1) : Nat) : Int) := by
  have h1 : ((K - 1 : Nat) : Int) = (K : Int) - 1 := by omega
  have h2 : 1 ≤ K * (K - 1) := Nat.mul_pos (by omega) (by omega)
  rw [Int.natCast_mul, h1]
  have h3 : (1 : Int) ≤ (K : Int) * ((K : Int) - 1) := by
    rw [← h1, ← Int.natCast_mul]; omega
  omega

/-- the argument of `np.ceil` in `NaiveElimination.__init__` (source) =
`naiveLreal naiveC (sqrt noise_var) β ε δ m K`; polymorphic, for `2 ≤ K` (see the module comment). -/
theorem gen_naiveLreal_eq (nv β ε δ : α) (m K : Nat) (hK : 2 ≤ K) :
    gen_naiveLreal nv β ε δ m K = Naive.naiveLreal Naive.naiveC (sqrt nv) β ε δ m K := by
  unfold gen_naiveLreal
  rw [pairCount_eq K hK, ofInt_natCast]
  rfl

/-- `self.L = np.ceil(…).astype(int)` (source), with the cone's `beta` the ordering complexity =
`naiveLprop` (the sample count the PAC theorem `naive_pac_accuracy` is stated for); polymorphic, for
`2 ≤ K`. -/
theorem gen_naiveL_eq [Naive.LtB α] [Naive.CeilNat α] (nv ε δ θdeg : α) (m K : Nat) (hK : 2 ≤ K) :
    gen_naiveL nv (Naive.coneBeta θdeg) ε δ m K = Naive.naiveLprop nv ε δ θdeg m K := by
  unfold gen_naiveL
  rw [pairCount_eq K hK, ofInt_natCast]
  rfl

end VOPy.GenAgree.C08
