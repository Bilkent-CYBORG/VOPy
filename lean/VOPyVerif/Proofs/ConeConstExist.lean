import VOPyVerif.Proofs.ConeConst
import Mathlib.Analysis.InnerProductSpace.Continuous
import Mathlib.Analysis.Normed.Module.FiniteDimension
import Mathlib.Topology.Order.Compact
/-! Existence of the minimum-norm feasible point (`z*`, so that `u* = z*/‖z*‖` and `d₁ = ‖z*‖` are
well defined) in a complete real inner product space, e.g. `EuclideanSpace ℝ (Fin m)`: the feasible
set `{z | ⟪w, z⟫ ≥ 1 for every facet}` is closed and convex. -/
namespace VOPy.ConeConst
open scoped RealInnerProductSpace

variable {E : Type*} [NormedAddCommGroup E] [InnerProductSpace ℝ E]

/-- a set cut out by finitely many closed half-spaces `t ≤ ⟪w, ·⟫` is closed -/
theorem isClosed_forall_le_inner (ws : List E) (t : ℝ) :
    IsClosed {x : E | ∀ w ∈ ws, t ≤ ⟪w, x⟫} := by
  simp only [Set.ofPred_forall]
  exact isClosed_biInter fun w _ =>
    isClosed_le continuous_const (continuous_const.inner continuous_id)

theorem isClosed_feas1 (ws : List E) : IsClosed {z : E | Feas1 ws z} :=
  isClosed_forall_le_inner ws 1

theorem isClosed_inCone (ws : List E) : IsClosed {x : E | InCone ws x} :=
  isClosed_forall_le_inner ws 0

/-- a feasible `d₁` problem has a minimum-norm point (unique by `minNorm_unique`): the projection of
the origin onto the closed convex feasible set -/
theorem exists_isMinNorm [CompleteSpace E] (ws : List E) (hf : ∃ z, Feas1 ws z) :
    ∃ zs, IsMinNorm ws zs := by
  obtain ⟨v, hv, hmin⟩ := exists_norm_eq_iInf_of_complete_convex (K := {z : E | Feas1 ws z}) hf
    (isClosed_feas1 ws).isComplete (convex_feas1 ws) 0
  exact ⟨v, minNorm_iff_iInf.mpr ⟨hv, hmin⟩⟩

/-- in finite dimension the supremum defining `α` is attained: `α` is a maximum -/
theorem alpha_attained [FiniteDimensional ℝ E] (ws : List E) (c : E) :
    ∃ x, InCone ws x ∧ ‖x‖ ≤ 1 ∧ ⟪c, x⟫ = alpha ws c := by
  have : ProperSpace E := FiniteDimensional.proper_real E
  have hK : IsCompact ({x : E | InCone ws x} ∩ Metric.closedBall 0 1) :=
    (isCompact_closedBall 0 1).inter_left (isClosed_inCone ws)
  obtain ⟨x, ⟨hx, hxn⟩, hmax⟩ := hK.exists_isMaxOn (f := fun x => ⟪c, x⟫)
    ⟨0, fun w _ => (inner_zero_right w).ge, Metric.mem_closedBall_self zero_le_one⟩
    (continuous_const.inner continuous_id).continuousOn
  rw [mem_closedBall_zero_iff] at hxn
  have hg : IsGreatest (alphaSet ws c) ⟪c, x⟫ := by
    refine ⟨⟨x, hx, hxn, rfl⟩, ?_⟩
    rintro v ⟨y, hy, hyn, rfl⟩
    exact hmax ⟨hy, mem_closedBall_zero_iff.mpr hyn⟩
  exact ⟨x, hx, hxn, hg.csSup_eq.symm⟩

end VOPy.ConeConst
