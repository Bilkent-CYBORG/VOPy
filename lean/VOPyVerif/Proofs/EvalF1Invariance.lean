import VOPyVerif.Proofs.EvalF1
import VOPyVerif.Proofs.EvalCast
import VOPyVerif.Proofs.EvalInvariance
/-!
# C19: invariance of ε-coverage and of the ε-F1 score (over `ℚ`, as the driver runs)

* translation: `coverSolve`, `isCoveredPt`, `covIdx`, `f1`, `f1B` do not change when all value vectors
  are translated by a common vector (the whole computation only sees differences);
* scaling: with the values **and** `ε` multiplied by the same `c > 0` the certified search is
  equivariant — the linear solves scale, the KKT / Farkas checkers accept exactly the scaled
  certificates — so `isCoveredPt`, hence `f1`, `f1B`, are unchanged (including the `unknown` outcome).
-/
namespace VOPy.Eval
open VOPy

/-! ### translation -/

theorem coverSolve_translate (vi vj t : Vec) (W : Mat) (hi : vi.length = t.length)
    (hj : vj.length = t.length) : coverSolve (vadd vi t) (vadd vj t) W = coverSolve vi vj W := by
  have hg : gsub (vadd vi t) (vadd vj t) = gsub vi vj := gsub_translate (K := ℚ) vi vj t hi hj
  simp only [coverSolve, coverRhs, hg, length_vadd vi t hi, length_vadd vj t hj]

theorem isCoveredPt_translate (vi vj t : Vec) (ε : Rat) (W : Mat) (hi : vi.length = t.length)
    (hj : vj.length = t.length) :
    isCoveredPt (vadd vi t) (vadd vj t) ε W = isCoveredPt vi vj ε W := by
  simp only [isCoveredPt, coverSolve_translate vi vj t W hi hj]

/-- the coverage oracle on indices only sees the pairwise verdicts -/
theorem covIdx_map (T : Vec → Vec) (mu : Mat) (ε ε' : Rat) (W : Mat)
    (h : ∀ vi ∈ mu, ∀ vj ∈ mu, isCoveredPt (T vi) (T vj) ε' W = isCoveredPt vi vj ε W) :
    covIdx (mu.map T) ε' W = covIdx mu ε W := by
  funext i j
  simp only [covIdx, List.getElem?_map]
  cases hi : mu[i]? with
  | none => rfl
  | some vi =>
    cases hj : mu[j]? with
    | none => rfl
    | some vj =>
      simp only [Option.map_some]
      exact h vi (List.mem_of_getElem? hi) vj (List.mem_of_getElem? hj)

theorem f1_translate (mu W : Mat) (α t : Vec) (truth pred : List Nat) (ε : Rat)
    (h : ∀ v ∈ mu, v.length = t.length) :
    f1 (mu.map (fun v => vadd v t)) W α truth pred ε = f1 mu W α truth pred ε ∧
    f1B (mu.map (fun v => vadd v t)) W α truth pred ε = f1B mu W α truth pred ε := by
  have hc := covIdx_map (fun v => vadd v t) mu ε ε W
    (fun vi hi vj hj => isCoveredPt_translate vi vj t ε W (h vi hi) (h vj hj))
  obtain ⟨h1, h2⟩ : delta (mu.map (fun v => vadd v t)) W α = delta mu W α ∧
      deltaB (mu.map (fun v => vadd v t)) W α = deltaB mu W α := delta_translate (K := ℚ) mu W α t h
  constructor <;> simp only [f1, f1B, f1FromDelta, h1, h2, hc]

/-! ### scaling: the certified search is equivariant -/

theorem gdotQ_smul_right (k : Rat) (a b : Vec) : gdot a (smul k b) = k * gdot a b :=
  gdot_gscale (K := ℚ) a b k

theorem gdotQ_smul_left (k : Rat) (a b : Vec) : gdot (smul k a) b = k * gdot a b :=
  gdot_gscale_left (K := ℚ) k a b

/-- Gaussian elimination is linear in the right-hand sides -/
theorem solveLin_smul (k : Rat) : ∀ (n : Nat) (rows : List (Vec × Rat)),
    solveLin n (rows.map (fun r => (r.1, k * r.2))) = (solveLin n rows).map (smul k)
  | 0, _ => by simp [solveLin, smul]
  | n + 1, rows => by
    simp only [solveLin, List.partition_eq_filter_filter, List.filter_map]
    have e1 : ((fun r : Vec × Rat => decide (headD r.1 ≠ 0)) ∘ fun r : Vec × Rat => (r.1, k * r.2)) =
        fun r : Vec × Rat => decide (headD r.1 ≠ 0) := by funext r; rfl
    have e2 : ((not ∘ fun r : Vec × Rat => decide (headD r.1 ≠ 0)) ∘
          fun r : Vec × Rat => (r.1, k * r.2)) =
        (not ∘ fun r : Vec × Rat => decide (headD r.1 ≠ 0)) := by funext r; rfl
    rw [e1, e2]
    cases hp : rows.filter (fun r => decide (headD r.1 ≠ 0)) with
    | nil => simp
    | cons p ps =>
      simp only [List.map_cons, ← List.map_append, List.map_map]
      have e3 : ((fun r : Vec × Rat =>
            (vsub r.1.tail (smul (headD r.1 / headD p.1) p.1.tail),
              r.2 - headD r.1 / headD p.1 * (k * p.2))) ∘ fun r : Vec × Rat => (r.1, k * r.2)) =
          ((fun r : Vec × Rat => (r.1, k * r.2)) ∘ fun r : Vec × Rat =>
            (vsub r.1.tail (smul (headD r.1 / headD p.1) p.1.tail),
              r.2 - headD r.1 / headD p.1 * p.2)) := by
        funext r
        simp only [Function.comp_def, Prod.mk.injEq, true_and]
        ring
      rw [e3, ← List.map_map, solveLin_smul k n]
      cases solveLin n ((ps ++ rows.filter (not ∘ fun r => decide (headD r.1 ≠ 0))).map
          (fun r => (vsub r.1.tail (smul (headD r.1 / headD p.1) p.1.tail),
            r.2 - headD r.1 / headD p.1 * p.2))) with
      | none => rfl
      | some xs =>
        simp only [Option.map_some, smul, List.map_cons, Option.some.injEq, List.cons.injEq, and_true]
        have := gdotQ_smul_right k p.1.tail xs
        simp only [smul] at this
        rw [this]
        ring

theorem pick_smul (k : Rat) (b : Vec) (S : List Nat) : pick (smul k b) S = smul k (pick b S) := by
  simp only [pick, smul, List.getElem?_map, List.map_filterMap]

theorem gramSolve_smul (k : Rat) (A : Mat) (r : Vec) :
    gramSolve A (smul k r) = (gramSolve A r).map (smul k) := by
  simp only [gramSolve, smul, List.zip_map_right]
  exact solveLin_smul k _ _

theorem axpy_smul (k l : Rat) (w r : Vec) : axpy (k * l) w (smul k r) = smul k (axpy l w r) := by
  simp only [axpy, smul, List.zipWith_map_right, List.map_zipWith, mul_add, mul_assoc]

theorem smul_zeros (k : Rat) (D : Nat) : smul k (zeros D) = zeros D := by
  simp [smul, zeros]

theorem lincomb_smul (k : Rat) (D : Nat) : ∀ (W : Mat) (lam : Vec),
    lincomb D W (smul k lam) = smul k (lincomb D W lam)
  | [], _ => (smul_zeros k D).symm
  | _ :: _, [] => (smul_zeros k D).symm
  | w :: W, l :: ls => by
    rw [smul, List.map_cons, lincomb, lincomb, ← smul, lincomb_smul k D W ls, axpy_smul]

theorem scatter_smul (k : Rat) (N : Nat) (S : List Nat) (mu : Vec) :
    scatter N S (smul k mu) = smul k (scatter N S mu) := by
  simp only [scatter, smul, List.map_map]
  apply List.map_congr_left
  intro j _
  simp only [Function.comp_def]
  induction S generalizing mu with
  | nil => simp
  | cons s S ih =>
    cases mu with
    | nil => simp
    | cons m mu =>
      simp only [List.map_cons, List.zip_cons_cons, List.lookup_cons]
      split
      · simp
      · exact ih mu

theorem candidate_smul (k : Rat) (D : Nat) (W : Mat) (b : Vec) (S : List Nat) :
    candidate D W (smul k b) S = (candidate D W b S).map (fun p => (smul k p.1, smul k p.2)) := by
  simp only [candidate, pick_smul, gramSolve_smul]
  cases gramSolve (pick W S) (pick b S) with
  | none => rfl
  | some mu => simp only [Option.map_some, lincomb_smul, scatter_smul]

theorem feasible_smul (k : Rat) (hk : 0 < k) : ∀ (W : Mat) (b y : Vec),
    feasible W (smul k b) (smul k y) = feasible W b y
  | [], [], _ => rfl
  | [], _ :: _, _ => rfl
  | _ :: _, [], _ => rfl
  | w :: W, b :: bs, y => by
    rw [smul, List.map_cons, feasible, feasible, ← smul, feasible_smul k hk W bs y, gdotQ_smul_right]
    simp only [mul_le_mul_iff_right₀ hk]

theorem complSlack_smul (k : Rat) (hk : 0 < k) : ∀ (W : Mat) (b lam y : Vec),
    complSlack W (smul k b) (smul k lam) (smul k y) = complSlack W b lam y
  | [], [], [], _ => rfl
  | [], [], _ :: _, _ => rfl
  | [], _ :: _, _, _ => rfl
  | _ :: _, [], _, _ => rfl
  | _ :: _, _ :: _, [], _ => rfl
  | w :: W, b :: bs, l :: ls, y => by
    have e : k * l * (k * gdot w y - k * b) = k * k * (l * (gdot w y - b)) := by ring
    rw [smul, smul, List.map_cons, List.map_cons, complSlack, complSlack, ← smul, ← smul,
      complSlack_smul k hk W bs ls y, gdotQ_smul_right]
    simp only [e, mul_eq_zero_iff_left (mul_ne_zero hk.ne' hk.ne')]

theorem checkKKT_smul (k : Rat) (hk : 0 < k) (D : Nat) (W : Mat) (b y lam : Vec) :
    checkKKT D W (smul k b) (smul k y) (smul k lam) = checkKKT D W b y lam := by
  simp only [checkKKT, smul_length, feasible_smul k hk, allNonneg_smul k hk, lincomb_smul,
    complSlack_smul k hk]
  congr 2
  rw [decide_eq_decide]
  exact smul_left_cancel_iff k (ne_of_gt hk) _ _

theorem findSome?_map_result {α β : Type} (f g : α → Option β) (φ : β → β)
    (h : ∀ x, g x = (f x).map φ) : ∀ l : List α, l.findSome? g = (l.findSome? f).map φ := by
  intro l
  induction l with
  | nil => rfl
  | cons x l ih =>
    simp only [List.findSome?_cons, h x]
    cases f x with
    | none => simpa using ih
    | some b => rfl

theorem project_smul (k : Rat) (hk : 0 < k) (D : Nat) (W : Mat) (b : Vec) :
    project D W (smul k b) = (project D W b).map (fun p => (smul k p.1, smul k p.2)) := by
  simp only [project]
  apply findSome?_map_result
  intro S
  rw [candidate_smul]
  cases candidate D W b S with
  | none => rfl
  | some p =>
    obtain ⟨y, lam⟩ := p
    simp only [Option.map_some, checkKKT_smul k hk]
    split <;> rfl

theorem checkFarkas_smul (k : Rat) (hk : 0 < k) (D : Nat) (W : Mat) (b lam : Vec) :
    checkFarkas D W (smul k b) lam = checkFarkas D W b lam := by
  simp only [checkFarkas, smul_length, gdotQ_smul_right]
  congr 1
  rw [decide_eq_decide]
  exact mul_pos_iff_of_pos_left hk

theorem findFarkas_smul (k : Rat) (hk : 0 < k) (D : Nat) (W : Mat) (b : Vec) :
    findFarkas D W (smul k b) = findFarkas D W b := by
  simp only [findFarkas, checkFarkas_smul k hk]

theorem coverRhs_smul (k : Rat) (hk : 0 < k) (vi vj : Vec) (W : Mat) :
    coverRhs (smul k vi) (smul k vj) W = smul k (coverRhs vi vj W) := by
  have e : gsub (smul k vi) (smul k vj) = smul k (gsub vi vj) := gsub_gscale (K := ℚ) k vi vj
  simp only [coverRhs, e, gdotQ_smul_right, relu_mul (K := ℚ) k _ hk]
  simp only [smul, List.map_map, Function.comp_def]

theorem isCoveredPt_smul (k : Rat) (hk : 0 < k) (vi vj : Vec) (ε : Rat) (W : Mat) :
    isCoveredPt (smul k vi) (smul k vj) (k * ε) W = isCoveredPt vi vj ε W := by
  simp only [isCoveredPt, coverSolve, smul_length, coverRhs_smul k hk, project_smul k hk,
    findFarkas_smul k hk]
  by_cases hlen : vj.length ≠ vi.length
  · rw [if_pos hlen, if_pos hlen]
  · rw [if_neg hlen, if_neg hlen]
    cases project vi.length W (coverRhs vi vj W) with
    | none =>
      simp only [Option.map_none]
      cases findFarkas vi.length W (coverRhs vi vj W) <;> rfl
    | some p =>
      obtain ⟨y, lam⟩ := p
      have e : k * (k * gdot y y) ≤ k * ε * (k * ε) ↔ gdot y y ≤ ε * ε := by
        rw [mul_mul_mul_comm k ε k ε, ← mul_assoc, mul_le_mul_iff_right₀ (mul_pos hk hk)]
      simp only [Option.map_some, gdotQ_smul_right, gdotQ_smul_left,
        mul_nonneg_iff_of_pos_left hk, e]

theorem goodIdx_smul (k : Rat) (hk : 0 < k) (ds : Vec) (ε : Rat) :
    goodIdx (smul k ds) (k * ε) = goodIdx ds ε := by
  funext j
  simp only [goodIdx, smul, List.getElem?_map]
  cases ds[j]? with
  | none => rfl
  | some d => simp only [Option.map_some, mul_le_mul_iff_right₀ hk]

theorem f1_smul (k : Rat) (hk : 0 < k) (mu W : Mat) (α : Vec) (truth pred : List Nat) (ε : Rat) :
    f1 (mu.map (smul k)) W α truth pred (k * ε) = f1 mu W α truth pred ε ∧
    f1B (mu.map (smul k)) W α truth pred (k * ε) = f1B mu W α truth pred ε := by
  have hc := covIdx_map (smul k) mu ε (k * ε) W
    (fun vi _ vj _ => isCoveredPt_smul k hk vi vj ε W)
  obtain ⟨h1, h2⟩ : delta (mu.map (smul k)) W α = (delta mu W α).map (smul k) ∧
      deltaB (mu.map (smul k)) W α = (deltaB mu W α).map (smul k) := delta_gscale (K := ℚ) k hk mu W α
  simp only [f1, f1B, f1FromDelta, h1, h2, hc]
  constructor
  · cases delta mu W α with
    | none => rfl
    | some ds => simp only [Option.map_some, goodIdx_smul k hk]
  · cases deltaB mu W α with
    | none => rfl
    | some ds => simp only [Option.map_some, goodIdx_smul k hk]

end VOPy.Eval
