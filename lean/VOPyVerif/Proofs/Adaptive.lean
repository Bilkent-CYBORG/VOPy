import VOPyVerif.Model.Adaptive
import Mathlib.Algebra.Order.Field.Basic
import Mathlib.Data.Rat.Cast.Order
import Mathlib.Tactic.Ring
/-!
# Geometry of one refinement (`childCells`)

Points live in `List K` for an ordered field `K` (ℚ, ℝ, …); the rational cell ends of the model are
cast into `K`.  `InCell x c` : `x` has as many coordinates as `c` and `lo ≤ xₖ ≤ hi` in every
dimension; `InInt x c` : the same with strict inequalities (the open box).
-/
set_option linter.unusedSectionVars false
namespace VOPy.Adaptive

/-! ## `childCells` unfolded -/

theorem childCells_nil : childCells [] = [[]] := rfl

theorem childCells_cons (p : Rat × Rat) (c : Cell) :
    childCells (p :: c) =
      (childCells c).map (fun t => (p.1, mid p) :: t) ++ (childCells c).map (fun t => (mid p, p.2) :: t) := by
  simp [childCells, prodCells, halves]

theorem mem_childCells_cons {p : Rat × Rat} {c : Cell} {c' : Cell} (h : c' ∈ childCells (p :: c)) :
    ∃ t ∈ childCells c, c' = (p.1, mid p) :: t ∨ c' = (mid p, p.2) :: t := by
  rw [childCells_cons] at h
  simp only [List.mem_append, List.mem_map] at h
  rcases h with ⟨t, ht, rfl⟩ | ⟨t, ht, rfl⟩
  · exact ⟨t, ht, Or.inl rfl⟩
  · exact ⟨t, ht, Or.inr rfl⟩

theorem childCells_length (c : Cell) : (childCells c).length = 2 ^ c.length := by
  induction c with
  | nil => rfl
  | cons p c ih =>
    rw [childCells_cons]
    simp only [List.length_append, List.length_map, ih, List.length_cons]
    omega

theorem length_of_mem_childCells : ∀ {c c' : Cell}, c' ∈ childCells c → c'.length = c.length
  | [], c', h => by
      rw [childCells_nil] at h
      simp only [List.mem_singleton] at h
      simp [h]
  | p :: c, c', h => by
      obtain ⟨t, ht, h' | h'⟩ := mem_childCells_cons h <;>
        simp [h', length_of_mem_childCells ht]

theorem sides_of_mem_childCells : ∀ {c c' : Cell}, c' ∈ childCells c →
    c'.map (fun q => q.2 - q.1) = c.map (fun p => (p.2 - p.1) / 2)
  | [], c', h => by
      rw [childCells_nil] at h
      simp only [List.mem_singleton] at h
      simp [h]
  | p :: c, c', h => by
      obtain ⟨t, ht, h' | h'⟩ := mem_childCells_cons h
      · subst h'
        simp only [List.map_cons, sides_of_mem_childCells ht, List.cons.injEq, and_true]
        unfold mid; ring
      · subst h'
        simp only [List.map_cons, sides_of_mem_childCells ht, List.cons.injEq, and_true]
        unfold mid; ring

theorem childCells_vol_sum (c : Cell) : ((childCells c).map vol).sum = vol c := by
  induction c with
  | nil => simp [childCells_nil, vol]
  | cons p c ih =>
    have h1 : ∀ (q : Rat × Rat) (l : List Cell),
        ((l.map (fun t => q :: t)).map vol).sum = (q.2 - q.1) * (l.map vol).sum := by
      intro q l
      induction l with
      | nil => simp
      | cons t l ihl =>
        simp only [List.map_cons, List.sum_cons, ihl, vol]
        ring
    rw [childCells_cons, List.map_append, List.sum_append, h1, h1, ih]
    simp only [vol]
    unfold mid
    ring

/-! ## boxes in `K^d` -/

variable {K : Type*} [Field K] [LinearOrder K] [IsStrictOrderedRing K]

/-- `x` lies in the closed box `c` (and has the same number of coordinates) -/
def InCell : List K → Cell → Prop
  | [], [] => True
  | xi :: x, p :: c => (((p.1 : Rat) : K) ≤ xi ∧ xi ≤ ((p.2 : Rat) : K)) ∧ InCell x c
  | _, _ => False

/-- `x` lies in the open box `c` (and has the same number of coordinates) -/
def InInt : List K → Cell → Prop
  | [], [] => True
  | xi :: x, p :: c => (((p.1 : Rat) : K) < xi ∧ xi < ((p.2 : Rat) : K)) ∧ InInt x c
  | _, _ => False

@[simp] theorem inCell_nil : InCell ([] : List K) [] = True := rfl
@[simp] theorem inCell_cons (xi : K) (x : List K) (p : Rat × Rat) (c : Cell) :
    InCell (xi :: x) (p :: c) = ((((p.1 : Rat) : K) ≤ xi ∧ xi ≤ ((p.2 : Rat) : K)) ∧ InCell x c) := rfl
@[simp] theorem inCell_nil_cons (p : Rat × Rat) (c : Cell) : InCell ([] : List K) (p :: c) = False := rfl
@[simp] theorem inCell_cons_nil (xi : K) (x : List K) : InCell (xi :: x) [] = False := rfl
@[simp] theorem inInt_nil : InInt ([] : List K) [] = True := rfl
@[simp] theorem inInt_cons (xi : K) (x : List K) (p : Rat × Rat) (c : Cell) :
    InInt (xi :: x) (p :: c) = ((((p.1 : Rat) : K) < xi ∧ xi < ((p.2 : Rat) : K)) ∧ InInt x c) := rfl
@[simp] theorem inInt_nil_cons (p : Rat × Rat) (c : Cell) : InInt ([] : List K) (p :: c) = False := rfl
@[simp] theorem inInt_cons_nil (xi : K) (x : List K) : InInt (xi :: x) [] = False := rfl

theorem InCell.length_eq : ∀ {x : List K} {c : Cell}, InCell x c → x.length = c.length
  | [], [], _ => rfl
  | _ :: _, _ :: _, h => congrArg Nat.succ (InCell.length_eq h.2)
  | [], _ :: _, h => h.elim
  | _ :: _, [], h => h.elim

theorem InInt.inCell : ∀ {x : List K} {c : Cell}, InInt x c → InCell x c
  | [], [], _ => trivial
  | _ :: _, _ :: _, h => ⟨⟨le_of_lt h.1.1, le_of_lt h.1.2⟩, InInt.inCell h.2⟩
  | [], _ :: _, h => h.elim
  | _ :: _, [], h => h.elim

theorem mid_sub_lo_cast (p : Rat × Rat) :
    ((mid p : Rat) : K) - ((p.1 : Rat) : K) = ((p.2 : Rat) : K) - ((mid p : Rat) : K) := by
  unfold mid
  push_cast
  ring

theorem lo_le_mid_iff (p : Rat × Rat) :
    ((p.1 : Rat) : K) ≤ ((mid p : Rat) : K) ↔ ((mid p : Rat) : K) ≤ ((p.2 : Rat) : K) := by
  rw [← sub_nonneg, mid_sub_lo_cast, sub_nonneg]

theorem lo_lt_mid_iff (p : Rat × Rat) :
    ((p.1 : Rat) : K) < ((mid p : Rat) : K) ↔ ((mid p : Rat) : K) < ((p.2 : Rat) : K) := by
  rw [← sub_pos, mid_sub_lo_cast, sub_pos]

theorem exists_child_of_inCell : ∀ {c : Cell} {x : List K}, InCell x c →
    ∃ c' ∈ childCells c, InCell x c'
  | [], [], _ => ⟨[], List.mem_singleton_self _, trivial⟩
  | [], _ :: _, h => h.elim
  | _ :: _, [], h => h.elim
  | p :: c, xi :: x, h => by
      obtain ⟨t, ht, hxt⟩ := exists_child_of_inCell h.2
      rw [childCells_cons]
      rcases le_total xi ((mid p : Rat) : K) with hle | hle
      · exact ⟨(p.1, mid p) :: t, List.mem_append_left _ (List.mem_map_of_mem ht), ⟨h.1.1, hle⟩, hxt⟩
      · exact ⟨(mid p, p.2) :: t, List.mem_append_right _ (List.mem_map_of_mem ht), ⟨hle, h.1.2⟩, hxt⟩

/-- every child cell is contained in the parent cell: a point of the half `[lo, mid]` witnesses
`lo ≤ mid`, hence `mid ≤ hi`, and symmetrically -/
theorem inCell_of_child : ∀ {c c' : Cell} {x : List K}, c' ∈ childCells c → InCell x c' → InCell x c
  | [], _, _, h, hx => by
      rw [childCells_nil, List.mem_singleton] at h
      exact h ▸ hx
  | p :: c, _, x, h, hx => by
      obtain ⟨t, ht, rfl | rfl⟩ := mem_childCells_cons h
      · rcases x with _ | ⟨xi, x⟩
        · exact hx.elim
        · exact ⟨⟨hx.1.1, hx.1.2.trans ((lo_le_mid_iff p).mp (hx.1.1.trans hx.1.2))⟩,
            inCell_of_child ht hx.2⟩
      · rcases x with _ | ⟨xi, x⟩
        · exact hx.elim
        · exact ⟨⟨((lo_le_mid_iff p).mpr (hx.1.1.trans hx.1.2)).trans hx.1.1, hx.1.2⟩,
            inCell_of_child ht hx.2⟩

theorem inInt_of_child : ∀ {c c' : Cell} {x : List K}, c' ∈ childCells c → InInt x c' → InInt x c
  | [], _, _, h, hx => by
      rw [childCells_nil, List.mem_singleton] at h
      exact h ▸ hx
  | p :: c, _, x, h, hx => by
      obtain ⟨t, ht, rfl | rfl⟩ := mem_childCells_cons h
      · rcases x with _ | ⟨xi, x⟩
        · exact hx.elim
        · exact ⟨⟨hx.1.1, hx.1.2.trans ((lo_lt_mid_iff p).mp (hx.1.1.trans hx.1.2))⟩,
            inInt_of_child ht hx.2⟩
      · rcases x with _ | ⟨xi, x⟩
        · exact hx.elim
        · exact ⟨⟨((lo_lt_mid_iff p).mpr (hx.1.1.trans hx.1.2)).trans hx.1.1, hx.1.2⟩,
            inInt_of_child ht hx.2⟩

/-- two boxes share no interior point -/
def IntDisjoint (K : Type*) [Field K] [LinearOrder K] [IsStrictOrderedRing K] (a b : Cell) : Prop :=
  ∀ x : List K, ¬ (InInt x a ∧ InInt x b)

theorem IntDisjoint.symm {a b : Cell} (h : IntDisjoint K a b) : IntDisjoint K b a :=
  fun x hx => h x ⟨hx.2, hx.1⟩

theorem IntDisjoint.cons {a b : Cell} (h : IntDisjoint K a b) (q : Rat × Rat) :
    IntDisjoint K (q :: a) (q :: b) := by
  intro x hx
  rcases x with _ | ⟨xi, x⟩
  · exact hx.1.elim
  · exact h x ⟨hx.1.2, hx.2.2⟩

theorem childCells_pairwise (K : Type*) [Field K] [LinearOrder K] [IsStrictOrderedRing K] (c : Cell) :
    (childCells c).Pairwise (IntDisjoint K) := by
  induction c with
  | nil => simp [childCells_nil]
  | cons p c ih =>
    rw [childCells_cons, List.pairwise_append]
    refine ⟨?_, ?_, ?_⟩
    · rw [List.pairwise_map]
      exact ih.imp (fun h => h.cons _)
    · rw [List.pairwise_map]
      exact ih.imp (fun h => h.cons _)
    · -- a cell of the lower half and one of the upper half: `xi < mid` and `mid < xi`
      intro a ha b hb x hx
      obtain ⟨t, _, rfl⟩ := List.mem_map.mp ha
      obtain ⟨t', _, rfl⟩ := List.mem_map.mp hb
      rcases x with _ | ⟨xi, x⟩
      · exact hx.1.elim
      · exact lt_asymm hx.1.1.2 hx.2.1.1

theorem childCells_disjoint_of_ne {c ca cb : Cell} {a b : Nat} (ha : (childCells c)[a]? = some ca)
    (hb : (childCells c)[b]? = some cb) (hab : a ≠ b) : IntDisjoint K ca cb := by
  have hpw := List.pairwise_iff_getElem.mp (childCells_pairwise K c)
  obtain ⟨ha', rfl⟩ := List.getElem?_eq_some_iff.mp ha
  obtain ⟨hb', rfl⟩ := List.getElem?_eq_some_iff.mp hb
  rcases Nat.lt_or_gt_of_ne hab with hlt | hlt
  · exact hpw a b ha' hb' hlt
  · exact (hpw b a hb' ha' hlt).symm

end VOPy.Adaptive
