import VOPyVerif.Proofs.AdaptiveAlgo
/-!
# Operation sequences: `Algo.run`, `Space.runOps`, and `Algo.steps` as a special case of `Algo.run`
-/
namespace VOPy.Adaptive

/-! ## `Algo.run` -/

theorem run_inv {d : Nat} {P : Space → Prop} (hP : Space.Stable d True P) :
    ∀ (ops : List Op) {a a' : Algo}, a.Inv d → P a.space → a.run ops = some a' →
      a'.Inv d ∧ P a'.space
  | [], a, a', hi, hp, h => Option.some.inj h ▸ ⟨hi, hp⟩
  | op :: ops, a, a', hi, hp, h => by
      rw [Algo.run] at h
      split at h
      · exact nomatch h
      · rename_i a1 ha
        exact run_inv hP ops (apply_inv hi ha) (apply_space hi hP hp ha) h

/-! ## `Space.runOps` -/

/-- what one design-space operation of a `leafOnly` sequence does: nothing, a region update, or the
refinement of a leaf (below the maximum depth if the operation is guarded) -/
theorem applyOp_cases {s s' : Space} {op : SOp} {ans : Option Bool} (hleaf : s.leafOnly [op] = true)
    (h : s.applyOp op = some (s', ans)) :
    s' = s ∨ (∃ i lo up, s.setRegion i lo up = some s') ∨
      ∃ i ch, s.isLeaf i = true ∧ s.refine i = some (s', ch) ∧
        (op.isGuarded = true → ∃ p, s.nodes[i]? = some p ∧ p.depth < s.maxDepth) := by
  cases op with
  | refine i =>
    obtain ⟨⟨s1, ch⟩, hr, heq⟩ := Option.map_eq_some_iff.mp h
    obtain rfl := (Prod.mk.inj heq).1
    rw [Space.leafOnly, Bool.and_eq_true] at hleaf
    exact Or.inr (Or.inr ⟨i, ch, hleaf.1, hr, fun hg => nomatch hg⟩)
  | guarded i vh =>
    rw [Space.applyOp] at h
    split at h
    · exact nomatch h
    · rename_i hsr
      obtain ⟨⟨s1, ch⟩, hr, heq⟩ := Option.map_eq_some_iff.mp h
      obtain rfl := (Prod.mk.inj heq).1
      rw [Space.leafOnly, Bool.and_eq_true, hsr, beq_self_eq_true, Bool.not_true, Bool.false_or] at hleaf
      obtain ⟨p, hp, hlt, _⟩ := shouldRefine_true hsr
      exact Or.inr (Or.inr ⟨i, ch, hleaf.1, hr, fun _ => ⟨p, hp, hlt⟩⟩)
    · exact Or.inl (Prod.mk.inj (Option.some.inj h)).1.symm
  | setRegion i lo up =>
    obtain ⟨s1, hr, heq⟩ := Option.map_eq_some_iff.mp h
    obtain rfl := (Prod.mk.inj heq).1
    exact Or.inr (Or.inl ⟨i, lo, up, hr⟩)

theorem leafOnly_cons {s s' : Space} {op : SOp} {ops : List SOp} {ans : Option Bool}
    (h : s.leafOnly (op :: ops) = true) (ha : s.applyOp op = some (s', ans)) :
    s.leafOnly [op] = true ∧ s'.leafOnly ops = true := by
  simp only [Space.leafOnly, ha, Bool.and_eq_true] at h ⊢
  exact ⟨⟨h.1, trivial⟩, h.2⟩

/-- every `leafOnly` operation sequence preserves well-formedness and every stable predicate; if no
operation bypasses `should_refine_design`, stability under refinements below the maximum depth suffices -/
theorem runOps_inv {d : Nat} {P : Space → Prop} : ∀ (ops : List SOp),
    Space.Stable d (ops.all SOp.isGuarded = true) P → ∀ {s s' : Space} {ans : List Bool},
    s.WF d → P s → s.leafOnly ops = true → s.runOps ops = some (s', ans) → s'.WF d ∧ P s'
  | [], _, s, s', ans, hwf, hp, _, h => by
      obtain rfl := (Prod.mk.inj (Option.some.inj h)).1
      exact ⟨hwf, hp⟩
  | op :: ops, hP, s, s', ans, hwf, hp, hl, h => by
      rw [Space.runOps] at h
      split at h
      · exact nomatch h
      · rename_i s1 a1 ha
        split at h
        · exact nomatch h
        · rename_i s2 l2 hr
          obtain rfl := (Prod.mk.inj (Option.some.inj h)).1
          obtain ⟨hl1, hl2⟩ := leafOnly_cons hl ha
          have hall : (op :: ops).all SOp.isGuarded = true →
              op.isGuarded = true ∧ ops.all SOp.isGuarded = true :=
            fun hg => by rwa [List.all_cons, Bool.and_eq_true] at hg
          have h1 : s1.WF d ∧ P s1 := by
            rcases applyOp_cases hl1 ha with rfl | ⟨i, lo, up, hs⟩ | ⟨i, ch, hleaf, hr', hgf⟩
            · exact ⟨hwf, hp⟩
            · exact ⟨setRegion_wf hwf hs, hP.setRegion hp hs⟩
            · exact ⟨refine_wf hwf hr', hP.refine hp hwf hleaf (fun hg => hgf (hall hg).1) hr'⟩
          exact runOps_inv ops (hP.mono fun hg => (hall hg).2) h1.1 h1.2 hl2 hr

/-! ## `Algo.steps` is a special case of `Algo.run` -/

theorem run_append : ∀ (ops1 ops2 : List Op) (a : Algo),
    a.run (ops1 ++ ops2) = (a.run ops1).bind (fun a' => a'.run ops2)
  | [], ops2, a => by simp [Algo.run]
  | op :: ops1, ops2, a => by
      simp only [List.cons_append, Algo.run]
      cases a.apply op with
      | none => simp
      | some a1 => simp [run_append ops1 ops2 a1]

theorem step_is_run {a a' : Algo} {i : StepIn} (h : a.step i = some a') :
    ∃ ops, a.run ops = some a' := by
  unfold Algo.step at h
  split at h
  · simp only [Option.some.injEq] at h
    exact ⟨[], by simp [Algo.run, h]⟩
  · cases h3 : a.run [.update i.regs, .discard i.D, .cover i.N] with
    | none => simp [h3] at h
    | some a3 =>
      simp only [h3] at h
      split at h
      · refine ⟨[.update i.regs, .discard i.D, .cover i.N] ++ [.endRound], ?_⟩
        rw [run_append, h3]
        simp only [Option.bind_some, Algo.run, h]
      · refine ⟨[.update i.regs, .discard i.D, .cover i.N] ++ [.evalRefine i.cand i.vh, .endRound], ?_⟩
        rw [run_append, h3]
        simpa using h

theorem steps_is_run : ∀ (ins : List StepIn) {a a' : Algo}, a.steps ins = some a' →
    ∃ ops, a.run ops = some a'
  | [], a, a', h => by
      simp only [Algo.steps, Option.some.injEq] at h
      exact ⟨[], by simp [Algo.run, h]⟩
  | i :: ins, a, a', h => by
      simp only [Algo.steps] at h
      cases h1 : a.step i with
      | none => simp [h1] at h
      | some a1 =>
        simp only [h1] at h
        obtain ⟨ops1, ho1⟩ := step_is_run h1
        obtain ⟨ops2, ho2⟩ := steps_is_run ins h
        exact ⟨ops1 ++ ops2, by rw [run_append, ho1]; simpa using ho2⟩

end VOPy.Adaptive
