import VOPyVerif.Proofs.PessimisticSpec
/-!
# C11: the certificate checkers of the exact reference are sound

`checkWitness = true` ⇒ the witness proves feasibility; `checkFarkas = true` ⇒ *no* point of the box
(with coordinates in any ordered field `L ⊇ ℚ`, e.g. real) is feasible.  Nothing is claimed about
the Fourier–Motzkin search itself (`fmSolve`): its answers are only ever used through the checkers.
-/
namespace VOPy.Pess
set_option linter.unusedSectionVars false
set_option linter.unusedSimpArgs false

section Generic
variable {K : Type} [Field K] [LinearOrder K] [IsStrictOrderedRing K]

theorem gdot_add_left (a b y : List K) (h : a.length = b.length) :
    gdot (List.zipWith (· + ·) a b) y = gdot a y + gdot b y := by
  rw [gdot_eq_gdot, gdot_eq_gdot, gdot_eq_gdot]
  exact ConeOrd.gdot_add_left a b y h

theorem gdot_sub_left (a b y : List K) (h : a.length = b.length) :
    gdot (List.zipWith (· - ·) a b) y = gdot a y - gdot b y := by
  rw [gdot_eq_gdot, gdot_eq_gdot, gdot_eq_gdot]
  exact ConeOrd.gdot_sub_left a b y h

theorem gdot_smul_left (c : K) (a y : List K) : gdot (a.map (c * ·)) y = c * gdot a y := by
  rw [gdot_eq_gdot, gdot_eq_gdot]
  exact ConeOrd.gdot_smul_left c a y

theorem gdot_all_zero : ∀ (v y : List K), (∀ c ∈ v, c = 0) → gdot v y = 0
  | [], y, _ => by simp [gdot]
  | a :: v, [], _ => by simp [gdot]
  | a :: v, y :: ys, h => by
    have ha : a = 0 := h a (List.mem_cons_self ..)
    have := gdot_all_zero v ys (fun c hc => h c (List.mem_cons_of_mem _ hc))
    simp [gdot, ha, this]

/-- non-negative weights: the dot product is monotone in the second argument -/
theorem gdot_mono : ∀ (mu a b : List K), (∀ c ∈ mu, 0 ≤ c) → List.Forall₂ (· ≤ ·) a b →
    gdot mu a ≤ gdot mu b
  | [], a, b, _, _ => by simp [gdot]
  | c :: mu, [], [], _, _ => by simp [gdot]
  | c :: mu, a :: as, b :: bs, h, hab => by
    cases hab with
    | cons hab hrest =>
      have ih := gdot_mono mu as bs (fun c hc => h c (List.mem_cons_of_mem _ hc)) hrest
      exact add_le_add (mul_le_mul_of_nonneg_left hab (h c (List.mem_cons_self ..))) ih

end Generic

/-! ## casts of the model's vector operations -/
section Cast
variable {L : Type} [Field L] [LinearOrder L] [IsStrictOrderedRing L]

theorem castV_vadd (a b : Vec) : (castV (vadd a b) : List L) = List.zipWith (· + ·) (castV a) (castV b) := by
  simp [castV, vadd, List.map_zipWith, List.zipWith_map]

theorem castV_vsub (a b : Vec) : (castV (vsub a b) : List L) = List.zipWith (· - ·) (castV a) (castV b) := by
  simp [castV, vsub, List.map_zipWith, List.zipWith_map]

theorem castV_smul (c : Rat) (a : Vec) : (castV (smul c a) : List L) = (castV a).map ((c : L) * ·) := by
  simp [castV, smul]

theorem gdot_castV_zero {v : Vec} (h : ∀ c ∈ v, c = 0) (y : List L) :
    gdot (castV v : List L) y = 0 :=
  gdot_all_zero _ y fun c hc => by
    obtain ⟨q, hq, rfl⟩ := List.mem_map.mp hc
    rw [h q hq, Rat.cast_zero]

theorem combRows_length (m : Nat) : ∀ (lam : Vec) (rows : List Vec),
    (∀ r ∈ rows, r.length = m) → (combRows m lam rows).length = m
  | [], _, _ => by simp [combRows]
  | _ :: _, [], _ => by simp [combRows]
  | c :: lam, r :: rows, h => by
    have ih := combRows_length m lam rows (fun r hr => h r (List.mem_cons_of_mem _ hr))
    simp [combRows, vadd, smul, ih, h r (List.mem_cons_self ..)]

/-- `(Σ λ_k r_k) · y = Σ λ_k (r_k · y)` -/
theorem gdot_castV_combRows (m : Nat) (y : List L) : ∀ (lam : Vec) (rows : List Vec),
    (∀ r ∈ rows, r.length = m) →
    gdot (castV (combRows m lam rows) : List L) y =
      gdot (castV lam) (rows.map fun r => gdot (castV r) y)
  | [], _, _ => gdot_castV_zero (fun _ hc => (List.mem_replicate.mp hc).2) y
  | _ :: _, [], _ => gdot_castV_zero (fun _ hc => (List.mem_replicate.mp hc).2) y
  | c :: lam, r :: rows, h => by
    have hrows : ∀ r ∈ rows, r.length = m := fun r hr => h r (List.mem_cons_of_mem _ hr)
    have hl : (castV (smul c r) : List L).length = (castV (combRows m lam rows) : List L).length := by
      rw [castV_length, castV_length, combRows_length m lam rows hrows, ← h r (List.mem_cons_self ..)]
      exact List.length_map _
    rw [combRows, castV_vadd, gdot_add_left _ _ _ hl, castV_smul, gdot_smul_left,
      gdot_castV_combRows m y lam rows hrows]
    rfl

theorem castV_nonneg {v : Vec} (h : ∀ c ∈ v, 0 ≤ c) : ∀ c ∈ (castV v : List L), 0 ≤ c := by
  intro c hc
  obtain ⟨q, hq, rfl⟩ := List.mem_map.mp hc
  exact Rat.cast_nonneg.mpr (h q hq)

theorem forall₂_castV {a b : Vec} (h : List.Forall₂ (· ≤ ·) a b) :
    List.Forall₂ (· ≤ ·) (castV a : List L) (castV b) := by
  induction h with
  | nil => simp [castV]
  | cons hab _ ih => exact List.Forall₂.cons (Rat.cast_le.mpr hab) ih

end Cast

/-! ## the checkers -/

theorem GInBox_of_vle {l u y : Vec} (h1 : y.length = l.length) (h2 : u.length = l.length)
    (h3 : vle l y = true) (h4 : vle y u = true) : GInBox l u y :=
  .of_forall₂ ((vle_iff_forall₂ l y h1.symm).mp h3) ((vle_iff_forall₂ y u (h1.trans h2.symm)).mp h4)

/-- list of (facet row, allowance) pairs of the reference problem -/
abbrev facetList (W : Mat) (s : Vec) : List (Vec × Rat) := W.zip s

theorem zipWith_all_iff (W : Mat) (s : Vec) (f : Vec → Rat → Bool) :
    (List.zipWith f W s).all id = true ↔ ∀ p ∈ W.zip s, f p.1 p.2 = true := by
  induction W generalizing s with
  | nil => simp
  | cons w W ih =>
    cases s with
    | nil => simp
    | cons si s => simp [ih s]

/-- **checked witness ⇒ feasible** -/
theorem checkWitness_sound {W : Mat} {x l u s y : Vec} (h : checkWitness W x l u s y = true) :
    GInBox l u y ∧ ∀ p ∈ facetList W s, p.2 ≤ dot p.1 x - dot p.1 y := by
  simp only [checkWitness, Bool.and_eq_true, beq_iff_eq] at h
  obtain ⟨⟨⟨⟨h1, h2⟩, h3⟩, h4⟩, h5⟩ := h
  refine ⟨GInBox_of_vle h1 h2 h3 h4, ?_⟩
  rw [zipWith_all_iff] at h5
  intro p hp
  simpa using h5 p hp

theorem castV_cons {L : Type} [Field L] [LinearOrder L] [IsStrictOrderedRing L] (a : Rat) (v : Vec) :
    (castV (a :: v) : List L) = (a : L) :: castV v := rfl

/-- facet values at a feasible `y` are below the right-hand sides, row by row -/
theorem rows_le {L : Type} [Field L] [LinearOrder L] [IsStrictOrderedRing L] (x : Vec) (y : List L) :
    ∀ (W : Mat) (s : Vec), W.length = s.length →
      (∀ p ∈ W.zip s, (p.2 : L) ≤ gdot (castV p.1) (castV x) - gdot (castV p.1) y) →
      List.Forall₂ (· ≤ ·) (W.map fun w => gdot (castV w) y)
        (castV (List.zipWith (fun w si => dot w x - si) W s))
  | [], [], _, _ => by simp [castV]
  | w :: W, si :: s, hs, hd => by
    have ih := rows_le x y W s (by simpa using hs) (fun p hp => hd p (by simp [hp]))
    have h0 := hd (w, si) (by simp)
    simp only [gdot_castV, gdot_eq_dot] at h0
    simp only [List.map_cons, List.zipWith_cons_cons, castV_cons]
    refine List.Forall₂.cons ?_ ih
    rw [Rat.cast_sub]
    exact le_sub_comm.mp h0
  | [], _ :: _, hs, _ => by simp at hs
  | _ :: _, [], hs, _ => by simp at hs

/-- **checked Farkas certificate ⇒ infeasible**, for witnesses with coordinates in any ordered
field `L ⊇ ℚ` -/
theorem checkFarkas_sound {L : Type} [Field L] [LinearOrder L] [IsStrictOrderedRing L]
    {W : Mat} {x l u s lam : Vec} (h : checkFarkas W x l u s lam = true) :
    ¬ ∃ y : List L, GInBox (castV l) (castV u) y ∧
      ∀ p ∈ facetList W s, (p.2 : L) ≤ gdot (castV p.1) (castV x) - gdot (castV p.1) y := by
  rintro ⟨y, hy, hd⟩
  simp only [checkFarkas, Bool.and_eq_true, beq_iff_eq, List.all_eq_true, decide_eq_true_eq] at h
  obtain ⟨⟨⟨⟨⟨⟨hlen, hs⟩, hW⟩, hu⟩, hnn⟩, hzero⟩, hneg⟩ := h
  set N := W.length
  set m := l.length
  set lamW := lam.take N
  set muU := (lam.drop N).take m
  set muL := lam.drop (N + m)
  have hylen : y.length = m := by rw [(GInBox.length_eq hy).1]; simp [m]
  have hmuU : muU.length = m := by
    rw [List.length_take, List.length_drop, hlen, Nat.add_sub_cancel_left]
    exact Nat.min_eq_left (Nat.le_add_right m m)
  have hmuL : muL.length = m := by
    rw [List.length_drop, hlen, ← Nat.add_assoc, Nat.add_sub_cancel_left]
  -- the combination vanishes, so its dot product with y is 0
  have hz : gdot (castV (vsub (vadd (combRows m lamW W) muU) muL) : List L) y = 0 :=
    gdot_castV_zero hzero y
  have hcl : (castV (combRows m lamW W) : List L).length = m := by
    rw [castV_length, combRows_length m lamW W hW]
  rw [castV_vsub, castV_vadd,
    gdot_sub_left _ _ _ (by simp [hcl, hmuU, hmuL]),
    gdot_add_left _ _ _ (by simp [hcl, hmuU]),
    gdot_castV_combRows m y _ _ hW] at hz
  -- bound each of the three parts
  have nnW := castV_nonneg (L := L) (v := lamW) fun q hq => hnn q (List.mem_of_mem_take hq)
  have nnU := castV_nonneg (L := L) (v := muU) fun q hq =>
    hnn q (List.mem_of_mem_drop (List.mem_of_mem_take hq))
  have nnL := castV_nonneg (L := L) (v := muL) fun q hq => hnn q (List.mem_of_mem_drop hq)
  have hbox := GInBox.forall₂ hy
  have e1 : gdot (castV muU : List L) y ≤ gdot (castV muU) (castV u) := gdot_mono _ _ _ nnU hbox.2
  have e2 : gdot (castV muL : List L) (castV l) ≤ gdot (castV muL) y := gdot_mono _ _ _ nnL hbox.1
  have e3 : gdot (castV lamW : List L) (W.map fun w => gdot (castV w) y) ≤
      gdot (castV lamW) (castV (List.zipWith (fun w si => dot w x - si) W s)) :=
    gdot_mono _ _ _ nnW (rows_le x y W s hs.symm hd)
  have hnegL : gdot (castV lamW : List L) (castV (List.zipWith (fun w si => dot w x - si) W s))
      + gdot (castV muU) (castV u) - gdot (castV muL) (castV l) < 0 := by
    simp only [gdot_castV, gdot_eq_dot]
    exact_mod_cast hneg
  exact (((sub_le_sub (add_le_add e3 e1) e2).trans_lt hnegL).ne) hz

/-! ## the reference decision -/

/-- the semantic statement with per-facet allowances `s` (positive = required margin, negative =
relaxation): `∀ x ∈ box R₁ ⊂ ℝᵐ, ∃ y ∈ box R₂, ∀ i, w_i·x − w_i·y ≥ s_i` -/
def PessDomS (W : Mat) (s : Vec) (R1 R2 : Region) : Prop :=
  ∀ x : List ℝ, GInBox (castV R1.1) (castV R1.2) x →
    ∃ y : List ℝ, GInBox (castV R2.1) (castV R2.2) y ∧
      ∀ p ∈ facetList W s, (p.2 : ℝ) ≤ gdot (castV p.1) x - gdot (castV p.1) y

theorem refPoint_true {W : Mat} {x l u s : Vec} (h : refPoint W x l u s = some true) :
    ∃ y, checkWitness W x l u s y = true := by
  unfold refPoint at h
  split at h
  · rename_i y _
    split at h
    · rename_i hc; exact ⟨y, hc⟩
    · simp at h
  · split at h <;> simp at h

theorem refPoint_false {W : Mat} {x l u s : Vec} (h : refPoint W x l u s = some false) :
    ∃ lam, checkFarkas W x l u s lam = true := by
  unfold refPoint at h
  split at h
  · split at h <;> simp at h
  · rename_i lam _
    split at h
    · rename_i hc; exact ⟨lam, hc⟩
    · simp at h

end VOPy.Pess
