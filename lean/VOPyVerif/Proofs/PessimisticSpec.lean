import VOPyVerif.Proofs.Pessimistic
import Mathlib.Data.Real.Basic
/-!
# C11: the semantic relation and the pessimistic set

`PessDom W R₁ R₂` is the statement of the property over the *real* boxes:
every point of `R₁` dominates some point of `R₂` in the order of the cone `{z | W z ≥ 0}`.
-/
namespace VOPy.Pess

/-- a region is a pair (lower, upper) of rational (e.g. binary64) bounds -/
abbrev Region := Vec × Vec

/-- `∀ x ∈ box R₁ ⊂ ℝᵐ, ∃ y ∈ box R₂, ∀ facet rows w, w · (x − y) ≥ 0` -/
def PessDom (W : Mat) (R1 R2 : Region) : Prop :=
  ∀ x : List ℝ, GInBox (castV R1.1) (castV R1.2) x →
    ∃ y : List ℝ, GInBox (castV R2.1) (castV R2.2) y ∧ ∀ w ∈ W, 0 ≤ gdot (castV w) (gsub x y)

/-- the same over rational points, in the vocabulary of the model (`dominates`) -/
def PessDomQ (W : Mat) (R1 R2 : Region) : Prop :=
  ∀ x : Vec, GInBox R1.1 R1.2 x → ∃ y : Vec, GInBox R2.1 R2.2 y ∧ dominates W x y = true

/-- well-formed `m`-dimensional region: bounds of length `m`, `lower ≤ upper` -/
def Region.WF (m : Nat) (R : Region) : Prop :=
  R.1.length = m ∧ R.2.length = m ∧ List.Forall₂ (· ≤ ·) R.1 R.2

theorem castV_rat (v : Vec) : (castV v : List Rat) = v := by
  simp [castV]

/-- what `PessDom` provides at a vertex `x` of a non-empty `R₁`: a real witness in `R₂`, facet by
facet (the form the completeness lemmas take) -/
theorem PessDom.at_vertices {W : Mat} {l1 u1 l2 u2 : Vec} (h1 : List.Forall₂ (· ≤ ·) l1 u1)
    (hlen : l1.length = l2.length) (hsem : PessDom W (l1, u1) (l2, u2)) :
    ∀ x ∈ vertices l1 u1, ∃ y : List ℝ, GInBox (castV l2) (castV u2) y ∧
      ∀ w ∈ W, gdot (castV w) y ≤ ((dot w x : Rat) : ℝ) := by
  intro x hx
  obtain ⟨y, hy, hd⟩ := hsem (castV x) (GInBox_castV (vertices_in_box h1 x hx))
  have hxy : (castV x : List ℝ).length = y.length := by
    rw [(GInBox.length_eq hy).1, castV_length, castV_length, vertex_length l1 u1 h1.length_eq x hx,
      hlen]
  refine ⟨y, hy, fun w hw => ?_⟩
  have := hd w hw
  rw [gdot_gsub _ _ _ hxy, gdot_castV, gdot_eq_dot] at this
  exact sub_nonneg.mp this

/-- the same for `PessDomQ`, with a rational witness -/
theorem PessDomQ.at_vertices {W : Mat} {l1 u1 l2 u2 : Vec} (h1 : List.Forall₂ (· ≤ ·) l1 u1)
    (hlen : l1.length = l2.length) (hsem : PessDomQ W (l1, u1) (l2, u2)) :
    ∀ x ∈ vertices l1 u1, ∃ y : List Rat, GInBox (castV l2) (castV u2) y ∧
      ∀ w ∈ W, gdot (castV w) y ≤ ((dot w x : Rat) : Rat) := by
  intro x hx
  obtain ⟨y, hy, hd⟩ := hsem x (vertices_in_box h1 x hx)
  have hxy : x.length = y.length := by
    rw [(GInBox.length_eq hy).1, vertex_length l1 u1 h1.length_eq x hx, hlen]
  rw [dominates_iff_facets _ x y hxy] at hd
  simp only [castV_rat, gdot_eq_dot]
  exact ⟨y, hy, hd⟩

theorem mem_pessimisticSet (W : Mat) (regions : List Region) (active : List Nat)
    (hvalid : ∀ i ∈ active, i < regions.length) (i : Nat) :
    i ∈ pessimisticSet W regions active ↔
      ∃ hi : i ∈ active, ¬ ∃ j, ∃ hj : j ∈ active, j ≠ i ∧
        checkDominates W (regions[j]'(hvalid j hj)).1 (regions[j]'(hvalid j hj)).2
          (regions[i]'(hvalid i hi)).1 (regions[i]'(hvalid i hi)).2 = true := by
  simp only [pessimisticSet, pessimisticSetR, List.mem_filter, Bool.not_eq_true',
    List.any_eq_false, Bool.and_eq_true, bne_iff_ne, ne_eq, not_and]
  constructor
  · rintro ⟨hi, hno⟩
    refine ⟨hi, ?_⟩
    rintro ⟨j, hj, hne, hcd⟩
    have := hno j hj hne
    rw [List.getElem?_eq_getElem (hvalid j hj), List.getElem?_eq_getElem (hvalid i hi)] at this
    exact this hcd
  · rintro ⟨hi, hno⟩
    refine ⟨hi, ?_⟩
    intro j hj hne
    rw [List.getElem?_eq_getElem (hvalid j hj), List.getElem?_eq_getElem (hvalid i hi)]
    intro hcd
    exact hno ⟨j, hj, hne, hcd⟩

/-- where the comparison decides `PessDom` on well-formed regions, the model's pessimistic set is
the set of active designs that no other active design pessimistically dominates -/
theorem mem_pessimisticSet_of_iff (W : Mat) (m : Nat) (regions : List Region) (active : List Nat)
    (hvalid : ∀ i ∈ active, i < regions.length) (hwf : ∀ R ∈ regions, R.WF m)
    (hiff : ∀ R1 R2 : Region, R1.WF m → R2.WF m →
      (checkDominates W R1.1 R1.2 R2.1 R2.2 = true ↔ PessDom W R1 R2)) (i : Nat) :
    i ∈ pessimisticSet W regions active ↔
      ∃ hi : i ∈ active, ¬ ∃ j, ∃ hj : j ∈ active, j ≠ i ∧
        PessDom W (regions[j]'(hvalid j hj)) (regions[i]'(hvalid i hi)) := by
  rw [mem_pessimisticSet W regions active hvalid]
  exact exists_congr fun hi => not_congr <| exists_congr fun j => exists_congr fun hj =>
    and_congr_right fun _ => hiff _ _ (hwf _ (List.getElem_mem _)) (hwf _ (List.getElem_mem _))

end VOPy.Pess
