import VOPyVerif.Model.Core
import VOPyVerif.Proofs.AccuracyRegions
/-!
# Integration, generic part: the invariant of the decision core

`Core.pavebaCore` threads a table of displayed regions through the rounds and computes the oracles
of each round from it.  For *any* region type `ρ` and any oracle functions `dom cov : ρ → ρ → Bool`:

* `pavebaCore_eq_run` — the sets of the core are `Accuracy.pavebaRun` with the oracles
  `relOf dom (pavebaRegs … r)`;
* `OracleSound` — the oracle functions are *sound for a membership predicate*: four facts about `dom`,
  `cov` on well-formed regions, discharged for balls and rectangles from C09/C10 in
  `Proofs/IntegrationBall.lean`, `Proofs/IntegrationRect.lean`; `oracleSound_comap` carries them from
  one kind of point to another (real to rational);
* `CInv`, `pavebaStep_inv`, `pavebaCore_cinv` — the invariant of the core is `PInv` on the three sets
  together with "the table entry of every member of `P ∖ U` is well formed and contains the truth";
  one `pavebaStep` preserves it when the regions displayed for the refreshed designs (`S ∪ U`) are well
  formed and contain the truth, since then every round is `RoundSound` and `paveba_step` applies;
* `acc_of_pinv`, `accB_of_accT…` — conclusions (a) `accA` and (b, code units) `accT` at termination, and
  from the code units to `m(i,j) ≤ ε`;
* `pavebaCore_map`, `vogpCore_map` — a transformation of the regions that leaves the oracle functions
  invariant leaves the run invariant.
-/
namespace VOPy.Core
open VOPy VOPy.Steps VOPy.Accuracy

variable {ρ X : Type}

/-- the region table the decision phases of round `t` see (after `modeling()` of that round) -/
def pavebaRegs (K : Nat) (dom cov : ρ → ρ → Bool) (init : Nat → ρ) (fresh : Nat → Nat → ρ)
    (t : Nat) : Nat → ρ :=
  refresh (union (pavebaCore K dom cov init fresh t).S (pavebaCore K dom cov init fresh t).U)
    (fresh t) (pavebaCore K dom cov init fresh t).reg

theorem pavebaCore_succ_reg (K : Nat) (dom cov : ρ → ρ → Bool) (init : Nat → ρ)
    (fresh : Nat → Nat → ρ) (t : Nat) :
    (pavebaCore K dom cov init fresh (t + 1)).reg = pavebaRegs K dom cov init fresh t := rfl

/-- **The core is a `Steps` run with computed oracles.** -/
theorem pavebaCore_eq_run (K : Nat) (dom cov : ρ → ρ → Bool) (init : Nat → ρ)
    (fresh : Nat → Nat → ρ) : ∀ t,
    ((pavebaCore K dom cov init fresh t).S, (pavebaCore K dom cov init fresh t).P,
      (pavebaCore K dom cov init fresh t).U) =
    pavebaRun K (fun r => relOf dom (pavebaRegs K dom cov init fresh r))
      (fun r => relOf cov (pavebaRegs K dom cov init fresh r)) t := by
  intro t
  induction t with
  | zero => rfl
  | succ t ih =>
    simp only [pavebaRun]
    rw [← ih]
    rfl

theorem refresh_of_mem {A : List Nat} {i : Nat} (h : i ∈ A) (f o : Nat → ρ) :
    refresh A f o i = f i :=
  if_pos (List.contains_iff_mem.2 h)

theorem refresh_of_not_mem {A : List Nat} {i : Nat} (h : i ∉ A) (f o : Nat → ρ) :
    refresh A f o i = o i :=
  if_neg fun hc => h (List.contains_iff_mem.1 hc)

/-- What the geometry (C09, C10) gives about two oracle functions on regions `ρ`.  Points are of an
arbitrary type `X` (rational vectors for the executable statements, real vectors for real true means);
`memb a x` is "the point `x` lies in the region `a`", `wf a` "the region is well formed and
non-degenerate"; `domR y x` stands for "`y` dominates `x`" and `goodR x y` for "`y` does not exceed
`x` beyond the tolerance". -/
structure OracleSound (dom cov : ρ → ρ → Bool) (wf : ρ → Prop) (memb : ρ → X → Prop)
    (domR goodR : X → X → Prop) : Prop where
  dom_sound : ∀ a b x y, wf a → wf b → memb a x → memb b y → dom a b = true → domR y x
  dom_trans : ∀ a b c y, wf a → wf b → wf c → memb b y → dom a b = true → dom b c = true →
    dom a c = true
  dom_irrefl : ∀ a, wf a → dom a a = false
  cov_sound : ∀ a b x y, wf a → wf b → memb a x → memb b y → cov a b = false → goodR x y

section
variable {dom cov : ρ → ρ → Bool} {wf : ρ → Prop} {memb : ρ → X → Prop} {domR goodR : X → X → Prop}

/-- The four facts pass to another kind of point `X'` along a representation `φ x' x` ("`x'` stands for
`x`": a rational vector for its cast to `ℝ`) that keeps membership and reflects the two relations. -/
theorem oracleSound_comap {X' : Type} (h : OracleSound dom cov wf memb domR goodR) (φ : X' → X → Prop)
    {memb' : ρ → X' → Prop} {domR' goodR' : X' → X' → Prop}
    (hm : ∀ a x', wf a → memb' a x' → ∃ x, φ x' x ∧ memb a x)
    (hd : ∀ x' y' x y, φ x' x → φ y' y → domR y x → domR' y' x')
    (hg : ∀ x' y' x y, φ x' x → φ y' y → goodR x y → goodR' x' y') :
    OracleSound dom cov wf memb' domR' goodR' where
  dom_sound a b x' y' wa wb mx my hab := by
    obtain ⟨x, px, hx⟩ := hm a x' wa mx
    obtain ⟨y, py, hy⟩ := hm b y' wb my
    exact hd _ _ _ _ px py (h.dom_sound a b x y wa wb hx hy hab)
  dom_trans a b c y' wa wb wc my := by
    obtain ⟨y, _, hy⟩ := hm b y' wb my
    exact h.dom_trans a b c y wa wb wc hy
  dom_irrefl := h.dom_irrefl
  cov_sound a b x' y' wa wb mx my hab := by
    obtain ⟨x, px, hx⟩ := hm a x' wa mx
    obtain ⟨y, py, hy⟩ := hm b y' wb my
    exact hg _ _ _ _ px py (h.cov_sound a b x y wa wb hx hy hab)

/-- the invariant of the core: `PInv` on the three sets, and the table entry of every living design
that the next `modeling()` will not refresh (`P ∖ U`) is well formed and contains the truth -/
structure CInv (wf : ρ → Prop) (memb : ρ → X → Prop) (domR goodR : X → X → Prop) (K : Nat)
    (mu : Nat → X) (st : PState ρ) : Prop where
  sets : PInv K (fun j i => domR (mu j) (mu i)) (fun i j => goodR (mu i) (mu j)) st.S st.P st.U
  table : ∀ i, i ∈ st.P → i ∉ st.U → wf (st.reg i) ∧ memb (st.reg i) (mu i)

/-- **One `run_one_step()` of the core preserves the invariant** when the regions displayed for the
refreshed designs (`S ∪ U`) are well formed and contain the truth. -/
theorem pavebaStep_inv (h : OracleSound dom cov wf memb domR goodR) {K : Nat} {mu : Nat → X}
    (htruth : Truth K (fun j i => domR (mu j) (mu i)) (fun i j => goodR (mu i) (mu j)))
    (fresh : Nat → ρ) {st : PState ρ} (hinv : CInv wf memb domR goodR K mu st)
    (hvalid : ∀ i, (i ∈ st.S ∨ i ∈ st.U) → wf (fresh i) ∧ memb (fresh i) (mu i)) :
    CInv wf memb domR goodR K mu (pavebaStep dom cov fresh st) := by
  -- after `modeling()` the table is valid on every living design, refreshed or not
  have hreg : ∀ i, (i ∈ st.S ∨ i ∈ st.P) → wf (refresh (union st.S st.U) fresh st.reg i) ∧
      memb (refresh (union st.S st.U) fresh st.reg i) (mu i) := by
    intro i hi
    by_cases ha : i ∈ st.S ∨ i ∈ st.U
    · rw [refresh_of_mem (mem_union.mpr ha)]; exact hvalid i ha
    · rw [refresh_of_not_mem fun hc => ha (mem_union.mp hc)]
      exact hinv.table i (hi.resolve_left fun hs => ha (Or.inl hs)) fun hu => ha (Or.inr hu)
  -- the refreshed designs are living ones (`U ⊆ P`)
  have hact : ∀ i, (i ∈ st.S ∨ i ∈ st.U) → wf (refresh (union st.S st.U) fresh st.reg i) ∧
      memb (refresh (union st.S st.U) fresh st.reg i) (mu i) :=
    fun i hi => hreg i (hi.imp_right (hinv.sets.subU i))
  have hs : RoundSound (fun j i => domR (mu j) (mu i)) (fun i j => goodR (mu i) (mu j))
      (relOf dom (refresh (union st.S st.U) fresh st.reg))
      (relOf cov (refresh (union st.S st.U) fresh st.reg)) st.S st.P st.U :=
    { dom_sound := fun i hi j hj _ hij =>
        h.dom_sound _ _ _ _ (hreg i (Or.inl hi)).1 (hact j hj).1 (hreg i (Or.inl hi)).2 (hact j hj).2 hij
      dom_trans := fun i j k hi hj hk hij hjk =>
        h.dom_trans _ _ _ _ (hact i hi).1 (hact j hj).1 (hact k hk).1 (hact j hj).2 hij hjk
      dom_irrefl := fun i hi => h.dom_irrefl _ (hact i hi).1
      cov_sound := fun i j hi hj _ hij =>
        h.cov_sound _ _ _ _ (hreg i hi).1 (hreg j hj).1 (hreg i hi).2 (hreg j hj).2 hij }
  exact ⟨paveba_step htruth hinv.sets hs, fun i hi _ =>
    hreg i (pavebaRound_subset _ _ st.S st.P st.U (Or.inr (Or.inl hi)))⟩

/-- **The invariant holds after every round of the core** whose refreshed designs are displayed
well-formed regions that contain the truth; `.sets` is `PInv` (I1–I3) for any relations `domR`, `goodR`
that satisfy `Truth` on the true means. -/
theorem pavebaCore_cinv (h : OracleSound dom cov wf memb domR goodR) {K : Nat} {mu : Nat → X}
    (htruth : Truth K (fun j i => domR (mu j) (mu i)) (fun i j => goodR (mu i) (mu j)))
    (init : Nat → ρ) (fresh : Nat → Nat → ρ) (T : Nat)
    (hvalid : ∀ r, r < T → ∀ i,
      (i ∈ (pavebaCore K dom cov init fresh r).S ∨ i ∈ (pavebaCore K dom cov init fresh r).U) →
      wf (fresh r i) ∧ memb (fresh r i) (mu i)) :
    CInv wf memb domR goodR K mu (pavebaCore K dom cov init fresh T) := by
  induction T with
  | zero => exact ⟨pinv_init K _ _, fun _ hi => nomatch hi⟩
  | succ T ih =>
    exact pavebaStep_inv h htruth (fresh T) (ih fun r hr => hvalid r (Nat.lt_succ_of_lt hr))
      (hvalid T (Nat.lt_succ_self T))

end

/-! ### from the invariant to the conclusions at termination -/

/-- conclusions (a) `accA` and (b, in the units of the thresholds `t`) `accT` for a cone `W` -/
theorem acc_of_pinv (W : Mat) (t : Vec) (K : Nat) (mu : Nat → Vec) {S P U : List Nat}
    (h : PInv K (fun j i => dominates W (mu j) (mu i) = true)
      (fun i j => notCovers W t (mu i) (mu j) = true) S P U) (hS : S = []) :
    accA W K mu P = true ∧ accT W t K mu P = true := by
  obtain ⟨ha, hb⟩ := pinv_final h hS
  rw [accA_iff, accT_iff]
  exact ⟨fun i hi => (Classical.em (i ∈ P)).imp_right (ha i hi),
    fun i hi j hj => Or.inr (hb i hi j hj)⟩

/-- thresholds `t_n ≤ ε·α_n` (`α_n > 0`, `ε ≥ 0`) turn the code-units conclusion `accT W t` into
`accB W α ε`: `m(i,j) ≤ ε` for `i ∈ P` -/
theorem accB_of_accT (W : Mat) (alpha t : Vec) (eps : Rat) (K : Nat) (mu : Nat → Vec) (P : List Nat)
    (heps : 0 ≤ eps) (hal : ∀ n, ∀ h : n < alpha.length, 0 < alpha[n])
    (hne : ∃ n, n < W.length ∧ n < alpha.length)
    (hlen : t.length = alpha.length)
    (hle : ∀ n, ∀ h1 : n < t.length, ∀ h2 : n < alpha.length, t[n] ≤ eps * alpha[n])
    (h : accT W t K mu P = true) : accB W alpha eps K mu P = true := by
  rw [accT_iff] at h
  rw [accB_iff]
  intro i hi j hj
  rcases h i hi j hj with rfl | hnc
  · exact gapLe_self W alpha eps (mu j) heps hne
  · exact gapLe_of_notCovers W alpha t eps (mu i) (mu j) heps hal hlen hle hnc

/-- the thresholds `ε·α` themselves (ellipsoidal variants) -/
theorem accB_of_accT_smul (W : Mat) (alpha : Vec) (eps : Rat) (K : Nat) (mu : Nat → Vec) (P : List Nat)
    (heps : 0 ≤ eps) (hal : ∀ n, ∀ h : n < alpha.length, 0 < alpha[n])
    (hne : ∃ n, n < W.length ∧ n < alpha.length)
    (h : accT W (smul eps alpha) K mu P = true) : accB W alpha eps K mu P = true :=
  accB_of_accT W alpha (smul eps alpha) eps K mu P heps hal hne (by simp [smul])
    (fun n h1 h2 => le_of_eq (by simp [smul])) h

/-- the thresholds `W·(ε·α)` of the rectangular variants, under the side condition `W·(εα) ≤ εα` -/
theorem accB_of_accT_side (W : Mat) (alpha : Vec) (eps : Rat) (K : Nat) (mu : Nat → Vec) (P : List Nat)
    (heps : 0 ≤ eps) (hal : ∀ n, ∀ h : n < alpha.length, 0 < alpha[n])
    (hne : ∃ n, n < W.length ∧ n < alpha.length)
    (hside : slackSideCondition W (smul eps alpha) (smul eps alpha) = true)
    (h : accT W (matVec W (smul eps alpha)) K mu P = true) : accB W alpha eps K mu P = true := by
  simp only [slackSideCondition, Bool.and_eq_true, decide_eq_true_eq, vle, all_zipWith_iff] at hside
  obtain ⟨hl, hv⟩ := hside
  have hl2 : (smul eps alpha).length = alpha.length := by simp [smul]
  apply accB_of_accT W alpha (matVec W (smul eps alpha)) eps K mu P heps hal hne (hl.trans hl2) _ h
  intro n h1 h2
  simpa [smul] using hv n h1 (hl2 ▸ h2)

theorem exists_pos_smul (W : Mat) (alpha : Vec) (eps : Rat) (heps : 0 < eps)
    (hal : ∀ n, ∀ h : n < alpha.length, 0 < alpha[n]) (hne : ∃ n, n < W.length ∧ n < alpha.length) :
    ∃ n, ∃ _ : n < W.length, ∃ h2 : n < (smul eps alpha).length, 0 < (smul eps alpha)[n] := by
  obtain ⟨n, h1, h2⟩ := hne
  refine ⟨n, h1, by rw [smul, List.length_map]; exact h2, ?_⟩
  simp only [smul, List.getElem_map]
  exact mul_pos heps (hal n h2)

/-! ### the executable premise checks mean what they say -/

theorem pavebaPremise_spec (wfB : ρ → Bool) (membB : ρ → Vec → Bool) (K : Nat)
    (dom cov : ρ → ρ → Bool) (init : Nat → ρ) (fresh : Nat → Nat → ρ) (mu : Nat → Vec) (T : Nat)
    (h : pavebaPremise wfB membB K dom cov init fresh mu T = true) :
    ∀ r, r < T → ∀ i,
      (i ∈ (pavebaCore K dom cov init fresh r).S ∨ i ∈ (pavebaCore K dom cov init fresh r).U) →
      wfB (fresh r i) = true ∧ membB (fresh r i) (mu i) = true := by
  intro r hr i hi
  simp only [pavebaPremise, pavebaPremiseAt, List.all_eq_true, List.mem_range, List.mem_append,
    Bool.and_eq_true] at h
  exact h r hr i hi

theorem vogpPremise_spec (membB : ρ → Vec → Bool) (K : Nat) (dom cov pess : ρ → ρ → Bool)
    (fresh : Nat → Nat → ρ) (mu : Nat → Vec) (T : Nat)
    (h : vogpPremise membB K dom cov pess fresh mu T = true) :
    ∀ r, r < T → ∀ i,
      (i ∈ (vogpCore K dom cov pess fresh r).1 ∨ i ∈ (vogpCore K dom cov pess fresh r).2) →
      membB (fresh r i) (mu i) = true := by
  intro r hr i hi
  simp only [vogpPremise, vogpPremiseAt, List.all_eq_true, List.mem_range, List.mem_append] at h
  exact h r hr i hi

theorem Ball.wfB_iff (m : Nat) (b : Ball) : b.wfB m = true ↔ b.c.length = m ∧ 0 < b.a := by
  simp [Ball.wfB]

/-! ### invariance of the core under a transformation of the regions (translation twins) -/

theorem refresh_map (T : ρ → ρ) (A : List Nat) (f o : Nat → ρ) :
    refresh A (fun i => T (f i)) (fun i => T (o i)) = fun i => T (refresh A f o i) := by
  funext i
  simp only [refresh]
  split <;> rfl

/-- **Twin runs of the core.**  Let `T` transform regions (e.g. translate them by a common vector) and
let the two oracle functions be invariant under `T` on the regions that occur (`ok`: e.g. "of
dimension `m`").  Then the core run on the transformed regions visits exactly the same `(S, P, U)`, and
its region table is the transformed table. -/
theorem pavebaCore_map (T : ρ → ρ) (ok : ρ → Prop) (dom cov : ρ → ρ → Bool)
    (hd : ∀ a b, ok a → ok b → dom (T a) (T b) = dom a b)
    (hc : ∀ a b, ok a → ok b → cov (T a) (T b) = cov a b)
    (K : Nat) (init : Nat → ρ) (fresh : Nat → Nat → ρ)
    (hinit : ∀ i, ok (init i)) (hfresh : ∀ r i, ok (fresh r i)) : ∀ t,
    (pavebaCore K dom cov (fun i => T (init i)) (fun r i => T (fresh r i)) t).S =
      (pavebaCore K dom cov init fresh t).S ∧
    (pavebaCore K dom cov (fun i => T (init i)) (fun r i => T (fresh r i)) t).P =
      (pavebaCore K dom cov init fresh t).P ∧
    (pavebaCore K dom cov (fun i => T (init i)) (fun r i => T (fresh r i)) t).U =
      (pavebaCore K dom cov init fresh t).U ∧
    (pavebaCore K dom cov (fun i => T (init i)) (fun r i => T (fresh r i)) t).reg =
      (fun i => T ((pavebaCore K dom cov init fresh t).reg i)) ∧
    ∀ i, ok ((pavebaCore K dom cov init fresh t).reg i) := by
  intro t
  induction t with
  | zero => exact ⟨rfl, rfl, rfl, rfl, hinit⟩
  | succ t ih =>
    obtain ⟨hS, hP, hU, hR, hok⟩ := ih
    -- the table of round `t` (both runs refresh the same designs) and its oracle relations
    have hok' : ∀ i, ok (pavebaRegs K dom cov init fresh t i) := by
      intro i
      unfold pavebaRegs refresh
      split
      · exact hfresh t i
      · exact hok i
    have hrel : ∀ f : ρ → ρ → Bool, (∀ a b, ok a → ok b → f (T a) (T b) = f a b) →
        relOf f (fun i => T (pavebaRegs K dom cov init fresh t i)) =
          relOf f (pavebaRegs K dom cov init fresh t) :=
      fun f hf => funext fun i => funext fun j => hf _ _ (hok' i) (hok' j)
    unfold pavebaRegs at hok' hrel
    simp only [pavebaCore, pavebaStep, hS, hP, hU, hR, refresh_map, hrel dom hd, hrel cov hc]
    exact ⟨trivial, trivial, trivial, trivial, hok'⟩

/-- the same for VOGP / ε-PAL (three oracle functions, no table) -/
theorem vogpCore_map (T : ρ → ρ) (ok : ρ → Prop) (dom cov pess : ρ → ρ → Bool)
    (hd : ∀ a b, ok a → ok b → dom (T a) (T b) = dom a b)
    (hc : ∀ a b, ok a → ok b → cov (T a) (T b) = cov a b)
    (hp : ∀ a b, ok a → ok b → pess (T a) (T b) = pess a b)
    (K : Nat) (fresh : Nat → Nat → ρ) (hfresh : ∀ r i, ok (fresh r i)) :
    vogpCore K dom cov pess (fun r i => T (fresh r i)) = vogpCore K dom cov pess fresh := by
  have e : ∀ (f : ρ → ρ → Bool), (∀ a b, ok a → ok b → f (T a) (T b) = f a b) →
      (fun k => relOf f (fun i => T (fresh k i))) = fun k => relOf f (fresh k) := by
    intro f hf
    funext k i j
    exact hf _ _ (hfresh k i) (hfresh k j)
  simp only [vogpCore, e dom hd, e cov hc, e pess hp]

end VOPy.Core
