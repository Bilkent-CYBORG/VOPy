import VOPyVerif.Proofs.SchedulesGauss
/-!
# Per-round union-bound terms of the norm-type (hyper-ellipsoid) schedules

For PaVeBa and PaVeBaPartialGP (hyper-ellipsoid): the closed form (or an upper bound)
of `K·(√2)^m·exp(-r_t²/(4s))`, the bound `Tails.norm_tail_var` gives for `K` balls of radius `r_t`, as
a multiple of `1/(t+1)²` or `1/(t+1)⁴`; and the arithmetic condition PaVeBaPartialGP needs, discharged
for `m ≤ 6`, `2δ ≤ K` and for `m ≤ 2`.
-/
namespace VOPy.SchedR
open Real VOPy VOPy.Sched
open scoped NNReal

lemma sqrt_two_pow_le_exp (m : ℕ) : (√2)^m ≤ rexp (m:ℝ) := by
  have h : √2 ≤ rexp 1 :=
    ((Real.sqrt_le_left zero_le_two).mpr (by norm_num)).trans
      (by linarith [Real.add_one_le_exp (1:ℝ)])
  calc (√2)^m ≤ (rexp 1)^m := pow_le_pow_left₀ (Real.sqrt_nonneg _) h m
    _ = rexp (m:ℝ) := by rw [← Real.exp_nat_mul, mul_one]

lemma mul_sub_one_mono {a b : ℝ} (h1 : 1 ≤ a) (hab : a ≤ b) : a * (a - 1) ≤ b * (b - 1) :=
  mul_le_mul hab (sub_le_sub_right hab 1) (sub_nonneg.mpr h1) (zero_le_one.trans (h1.trans hab))

/-- The radius `2·log A` with `log A ≥ L₁ ≥ 1`, for `K` balls of weight `w`:
`exp(-(2 log A)²/4) = exp(-L²) ≤ A⁻¹·exp(-L₁(L₁-1))`, because `L² = L + L(L-1)` and `L(L-1)` increases
on `[1,∞)`; so if `w·exp(-L₁(L₁-1)) ≤ 2` then `K·w·exp(-(2 log A)²/4) ≤ K·A⁻¹·2`. -/
lemma mul_exp_neg_quarter_sq_two_log_le {K w A L₁ : ℝ} (hK : 0 ≤ K) (hw : 0 ≤ w) (hA : 0 < A)
    (h1 : 1 ≤ L₁) (hL : L₁ ≤ Real.log A) (hc : w * rexp (-(L₁ * (L₁ - 1))) ≤ 2) :
    K * (w * rexp (-(2 * Real.log A)^2/4)) ≤ K * A⁻¹ * 2 := by
  have h : rexp (-(2 * Real.log A)^2/4) ≤ A⁻¹ * rexp (-(L₁ * (L₁ - 1))) := by
    rw [← exp_neg_log hA, ← Real.exp_add]
    have := mul_sub_one_mono h1 hL
    exact Real.exp_le_exp.mpr (by linarith)
  calc K * (w * rexp (-(2 * Real.log A)^2/4))
      ≤ K * (w * (A⁻¹ * rexp (-(L₁ * (L₁ - 1))))) :=
        mul_le_mul_of_nonneg_left (mul_le_mul_of_nonneg_left h hw) hK
    _ = K * A⁻¹ * (w * rexp (-(L₁ * (L₁ - 1)))) := by ring
    _ ≤ K * A⁻¹ * 2 := mul_le_mul_of_nonneg_left hc (mul_nonneg hK (inv_nonneg.mpr hA.le))

/-- A squared radius `8σ²/n·log A` against the per-coordinate variance `σ²/n`:
`exp(-r²/(4σ²/n)) = exp(-2 log A) = A⁻¹·A⁻¹`. -/
lemma exp_neg_sq_sqrt_eight_log {σ2 n A : ℝ} (hσ : 0 < σ2) (hn : 0 < n) (hA : 1 ≤ A) :
    rexp (-(√(8 * σ2 / n * Real.log A))^2 / (4 * (σ2 / n))) = A⁻¹ * A⁻¹ := by
  have hv : 4 * (σ2 / n) ≠ 0 := (mul_pos four_pos (div_pos hσ hn)).ne'
  rw [Real.sq_sqrt (mul_nonneg (div_nonneg (mul_nonneg (by norm_num) hσ.le) hn.le)
      (Real.log_nonneg hA)),
    show 8 * σ2 / n * Real.log A = 4 * (σ2 / n) * (Real.log A + Real.log A) by ring,
    neg_div, mul_div_cancel_left₀ _ hv, neg_add, Real.exp_add,
    exp_neg_log (zero_lt_one.trans_le hA)]

/-- `K` balls of probability `w·A⁻²` each, `A = π²·n²·(M·K)/d` -/
lemma mul_sq_inv_arg {K M w n d : ℝ} (hK : K ≠ 0) (hM : M ≠ 0) (hn : n ≠ 0) :
    K * (w * ((π^2 * (n^2 * (M * K)) / d)⁻¹ * (π^2 * (n^2 * (M * K)) / d)⁻¹))
      = w * d^2 / (M^2 * K) / π^4 * (1 / n^4) := by
  rw [inv_div]
  field_simp

section
variable (t m K : ℕ) (δ : ℝ)

/-! #### PaVeBa -/

lemma one_le_paveba_arg (hK : 1 ≤ K) (h0 : 0 < δ) (h1 : δ < 1) :
    1 ≤ π^2 * (((t:ℝ)+1)^2 * (((m:ℝ)+1) * K)) / (6*δ) :=
  le_arg (mul_pos (by norm_num) h0) pi_sq_pos (by linarith only [h1, pi_sq_gt_nine])
    (one_le_cast_succ_sq t)
    (one_le_mul_of_one_le_of_one_le (le_add_of_nonneg_left m.cast_nonneg)
      (Nat.one_le_cast.mpr hK))

lemma pavebaRadius_nonneg (nv : ℝ) : 0 ≤ pavebaRadius nv (t+1) m K δ (1:ℝ) := by
  rw [pavebaRadius_real]; exact Real.sqrt_nonneg _

/-- PaVeBa, per round `n = t+1` with per-coordinate variance `σ²/n` of the sample mean:
`K·(√2)^m·exp(-r_n²/(4σ²/n)) = K·(√2)^m·A_n⁻²`, which is
`(((√2)^m·(6δ)²/((m+1)²K))/π⁴)/(t+1)⁴`. -/
lemma paveba_term (hK : 1 ≤ K) (h0 : 0 < δ) (h1 : δ < 1) (σ2 : ℝ≥0) (hσ : σ2 ≠ 0) :
    (K:ℝ) * ((√2)^m * rexp (-(pavebaRadius (σ2:ℝ) (t+1) m K δ (1:ℝ))^2
        / (4 * ((σ2 / ((t:ℝ≥0)+1) : ℝ≥0) : ℝ))))
      = (√2)^m * (6*δ)^2 / (((m:ℝ)+1)^2 * K) / π^4 * (1 / ((t:ℝ)+1)^4) := by
  rw [pavebaRadius_real]; push_cast
  rw [exp_neg_sq_sqrt_eight_log (NNReal.coe_pos.mpr (pos_iff_ne_zero.mpr hσ)) t.cast_add_one_pos
    (one_le_paveba_arg t m K δ hK h0 h1)]
  exact mul_sq_inv_arg (Nat.cast_pos.mpr hK).ne' m.cast_add_one_pos.ne' t.cast_add_one_pos.ne'

/-! #### PaVeBaPartialGP, hyper-ellipsoid: radius `α_t = 2 log A_t` -/

lemma one_le_log_partial_arg_zero (hK : 1 ≤ K) (h0 : 0 < δ) (h1 : δ < 1) :
    1 ≤ Real.log (π^2 * K / (3*δ)) := by
  have h := one_le_log_partial_arg 0 K δ hK h0 h1
  rwa [Nat.cast_zero, zero_add, one_pow, one_mul] at h

lemma partialgp_ell_term (hK : 1 ≤ K) (h0 : 0 < δ) (h1 : δ < 1)
    (hc : (√2)^m * rexp (-(Real.log (π^2 * K / (3*δ)) * (Real.log (π^2 * K / (3*δ)) - 1))) ≤ 2) :
    (K:ℝ) * ((√2)^m * rexp (-(partialGpAlpha (t+1) K δ (1:ℝ))^2 / 4))
      ≤ 6*δ/π^2 * (1 / ((t:ℝ)+1)^2) := by
  rw [partialGpAlpha_real]; push_cast
  have hs := one_le_cast_succ_sq t
  have hK' : (1:ℝ) ≤ K := Nat.one_le_cast.mpr hK
  have hK0 : (0:ℝ) < K := zero_lt_one.trans_le hK'
  have hd : 0 < 3*δ := mul_pos three_pos h0
  have hLL : Real.log (π^2 * K / (3*δ)) ≤ Real.log (π^2 * (((t:ℝ)+1)^2 * K) / (3*δ)) :=
    Real.log_le_log (div_pos (mul_pos pi_sq_pos hK0) hd) (div_le_div_of_nonneg_right
      (mul_le_mul_of_nonneg_left (le_mul_of_one_le_left hK0.le hs) pi_sq_pos.le) hd.le)
  refine (mul_exp_neg_quarter_sq_two_log_le hK0.le (pow_nonneg (Real.sqrt_nonneg 2) m)
    (three_pos.trans_le (three_le_partial_arg t K δ hK h0 h1))
    (one_le_log_partial_arg_zero K δ hK h0 h1) hLL hc).trans_eq ?_
  rw [mul_inv_arg pi_sq_pos hs hK']
  ring

end

/-! #### Discharging the arithmetic conditions -/

lemma sqrt_two_pow_le {m n : ℕ} (hm : m ≤ 2 * n) : (√2)^m ≤ 2^n :=
  calc (√2)^m ≤ (√2)^(2*n) := pow_le_pow_right₀ (Real.one_le_sqrt.mpr one_le_two) hm
    _ = 2^n := by rw [pow_mul, Real.sq_sqrt zero_le_two]

/-- `(√2)^m·exp(-L(L-1))` is at most its value at `m = 2n`, `L = L₀`, for `m ≤ 2n`, `1 ≤ L₀ ≤ L` -/
lemma sqrt_two_pow_mul_exp_le_of_le {m n : ℕ} {L₀ L : ℝ} (hm : m ≤ 2 * n) (h1 : 1 ≤ L₀)
    (hL : L₀ ≤ L) : (√2)^m * rexp (-(L * (L - 1))) ≤ 2^n * rexp (-(L₀ * (L₀ - 1))) :=
  mul_le_mul (sqrt_two_pow_le hm)
    (Real.exp_le_exp.mpr (neg_le_neg (mul_sub_one_mono h1 hL))) (Real.exp_nonneg _)
    (pow_nonneg zero_le_two n)

lemma exp_nine_fifths_lt : rexp (9/5) < 6.5 := by
  have h5 : (rexp (9/5))^5 = (rexp 1)^9 := by
    rw [← Real.exp_nat_mul, ← Real.exp_nat_mul]; norm_num
  have h1 : (rexp 1)^9 < (2.7182818286:ℝ)^9 :=
    pow_lt_pow_left₀ Real.exp_one_lt_d9 (Real.exp_nonneg _) (by norm_num)
  have h2 : (2.7182818286:ℝ)^9 < 6.5^5 := by norm_num
  exact lt_of_pow_lt_pow_left₀ 5 (by norm_num) (by rw [h5]; exact h1.trans h2)

lemma log_four_le : Real.log 4 ≤ 36/25 := by
  rw [show (4:ℝ) = 2^2 by norm_num, Real.log_pow]
  have := Real.log_two_lt_d9
  norm_num at this ⊢
  linarith

/-- the condition of `partialgp_ell_term` holds for `m ≤ 6` whenever `2δ ≤ K`
(i.e. `K ≥ 2`, or `K = 1` and `δ ≤ 1/2`): then `π²K/(3δ) ≥ 6.5 > e^{9/5}`, so `L₁ ≥ 9/5`,
`L₁(L₁-1) ≥ 36/25 ≥ log 4`, and `(√2)^m ≤ 8`. -/
lemma partialgp_ell_cond_half {m K : ℕ} {δ : ℝ} (hm : m ≤ 6) (h0 : 0 < δ)
    (h2 : 2 * δ ≤ K) :
    (√2)^m * rexp (-(Real.log (π^2 * K / (3*δ)) * (Real.log (π^2 * K / (3*δ)) - 1))) ≤ 2 := by
  have hK0 : (0:ℝ) < K := (mul_pos two_pos h0).trans_le h2
  have hd : 0 < 3*δ := mul_pos three_pos h0
  have hpi : (9.75:ℝ) ≤ π^2 :=
    (by norm_num : (9.75:ℝ) ≤ 3.14^2).trans
      (pow_le_pow_left₀ (by norm_num) Real.pi_gt_d2.le 2)
  have hL : 9/5 ≤ Real.log (π^2 * K / (3*δ)) := by
    rw [Real.le_log_iff_exp_le (div_pos (mul_pos pi_sq_pos hK0) hd)]
    refine exp_nine_fifths_lt.le.trans ((le_div_iff₀ hd).mpr ?_)
    calc (6.5:ℝ) * (3*δ) = 9.75 * (2*δ) := by ring
      _ ≤ 9.75 * K := mul_le_mul_of_nonneg_left h2 (by norm_num)
      _ ≤ π^2 * K := mul_le_mul_of_nonneg_right hpi hK0.le
  refine (sqrt_two_pow_mul_exp_le_of_le (n := 3) hm (by norm_num) hL).trans ?_
  have h4 : rexp (-(9/5 * (9/5 - 1))) ≤ 4⁻¹ := by
    rw [← exp_neg_log four_pos]
    exact Real.exp_le_exp.mpr (neg_le_neg (log_four_le.trans (by norm_num)))
  calc (2:ℝ)^3 * rexp (-(9/5 * (9/5 - 1))) ≤ 2^3 * 4⁻¹ :=
        mul_le_mul_of_nonneg_left h4 (by norm_num)
    _ = 2 := by norm_num

/-- the condition of `partialgp_ell_term` holds for `m ≤ 2` and every `δ ∈ (0,1)` -/
lemma partialgp_ell_cond_two {m K : ℕ} {δ : ℝ} (hm : m ≤ 2) (hK : 1 ≤ K) (h0 : 0 < δ)
    (h1 : δ < 1) :
    (√2)^m * rexp (-(Real.log (π^2 * K / (3*δ)) * (Real.log (π^2 * K / (3*δ)) - 1))) ≤ 2 := by
  refine (sqrt_two_pow_mul_exp_le_of_le (n := 1) hm le_rfl
    (one_le_log_partial_arg_zero K δ hK h0 h1)).trans_eq ?_
  rw [sub_self, mul_zero, neg_zero, Real.exp_zero, pow_one, mul_one]

end VOPy.SchedR
