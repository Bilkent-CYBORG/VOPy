import VOPyVerif.Proofs.ProblemScale
import VOPyVerif.Proofs.RealInst
/-! Helper lemmas for C20: the `RealLike` standardisation formula `standardiseF` at `ℝ`. -/
namespace VOPy.Problem

theorem sumF_real (l : List ℝ) : sumF l = l.sum := by
  induction l with
  | nil => simp [sumF]
  | cons x xs ih =>
    have : sumF (x :: xs) = x + sumF xs := rfl
    rw [this, ih, List.sum_cons]

theorem meanF_real (l : List ℝ) : meanF l = l.sum / (l.length : ℝ) := by
  unfold meanF
  rw [sumF_real]; rfl

theorem popVarF_real (l : List ℝ) :
    popVarF l = (l.map (fun x => (x - meanF l) * (x - meanF l))).sum / (l.length : ℝ) := by
  unfold popVarF
  rw [sumF_real]; rfl

theorem standardiseF_real (l : List ℝ) :
    standardiseF l = l.map (fun x => (x - meanF l) / Real.sqrt (popVarF l)) := rfl

theorem popVarF_nonneg (l : List ℝ) : 0 ≤ popVarF l := by
  rw [popVarF_real]
  exact div_nonneg (sum_mul_self_nonneg (fun x => x - meanF l) l) (Nat.cast_nonneg _)

/-- dividing the centred column by any `s`: mean 0 -/
theorem meanF_scaled (l : List ℝ) (s : ℝ) (hl : l ≠ []) :
    meanF (l.map (fun x => (x - meanF l) / s)) = 0 := by
  rw [meanF_real, meanF_real, sum_centred_div l s (length_cast_ne_zero hl), zero_div]

theorem popVarF_scaled (l : List ℝ) (s : ℝ) (hl : l ≠ []) :
    popVarF (l.map (fun x => (x - meanF l) / s)) = popVarF l / (s * s) := by
  rw [popVarF_real, meanF_scaled l s hl, popVarF_real, List.map_map, List.length_map]
  simp only [Function.comp_def, sub_zero]
  rw [sum_sq_div, div_right_comm]

theorem standardiseF_moments (l : List ℝ) (hl : l ≠ []) (hv : popVarF l ≠ 0) :
    (standardiseF l).length = l.length ∧ meanF (standardiseF l) = 0 ∧ popVarF (standardiseF l) = 1 := by
  rw [standardiseF_real]
  refine ⟨List.length_map _, meanF_scaled l _ hl, ?_⟩
  rw [popVarF_scaled l _ hl, Real.mul_self_sqrt (popVarF_nonneg l), div_self hv]

end VOPy.Problem
