import Mathlib.Algebra.Order.Field.Basic
import Mathlib.Tactic.Ring
import Mathlib.Tactic.LinearCombination
/-!
# List vectors and the cone relation over an arbitrary ordered field (C12; base of the other islands)

`gdot`, `MemCone`, `Dom` are the list-model relation of `Model/Basic.lean` with the carrier generalised
from `Rat` to any linearly ordered field `K`.  This file holds only what is true over every such `K`:
the bilinear algebra of the truncating product `gdot` (proved once, here), the `zipWith` identities of list
vectors, the order laws of `Dom`, and the rows of the identity matrix (`gdot_basis`).

Everything that mentions `ℚ` is in `Proofs/ConeOrderRat.lean`: the model's `dot`/`inCone`/`dominates` are
`gdot`/`MemCone`/`Dom` at `K = ℚ`, the transport along `Rat.cast`, and the algebra of `dot`/`vadd`/`vsub`/`smul`.

The imports are kept below Mathlib's order-instance files on purpose: under them every declaration with the
`variable` line of this file is markedly slower to check.  The files that work over a generic `K` and need no
rational casts (`Proofs/Eval.lean`) import this file only.
-/
namespace VOPy.ConeOrd
open VOPy
set_option linter.unusedSectionVars false

section generic
variable {K : Type} [Field K] [LinearOrder K] [IsStrictOrderedRing K]

/-- dot product of two lists (truncating to the shorter one, like `dot`) -/
def gdot : List K → List K → K
  | a :: as, b :: bs => a * b + gdot as bs
  | _, _ => 0

/-- `x ∈ {x | W x ≥ 0}` -/
def MemCone (W : List (List K)) (x : List K) : Prop := ∀ w ∈ W, 0 ≤ gdot w x

/-- `a − b ∈ {x | W x ≥ 0}` -/
def Dom (W : List (List K)) (a b : List K) : Prop := MemCone W (List.zipWith (· - ·) a b)

@[simp] theorem gdot_nil_left (x : List K) : gdot [] x = 0 := rfl
@[simp] theorem gdot_nil_right (w : List K) : gdot w [] = 0 := by cases w <;> rfl
@[simp] theorem gdot_cons (a b : K) (as bs : List K) : gdot (a :: as) (b :: bs) = a * b + gdot as bs := rfl

theorem memCone_cons (w : List K) (W : List (List K)) (x : List K) :
    MemCone (w :: W) x ↔ 0 ≤ gdot w x ∧ MemCone W x := List.forall_mem_cons

theorem memCone_singleton (w x : List K) : MemCone [w] x ↔ 0 ≤ gdot w x := List.forall_mem_singleton

theorem gdot_comm (a b : List K) : gdot a b = gdot b a := by
  induction a generalizing b with
  | nil => simp
  | cons x a ih =>
    cases b with
    | nil => simp
    | cons y b => rw [gdot_cons, gdot_cons, ih b, mul_comm]

theorem gdot_self_nonneg (a : List K) : 0 ≤ gdot a a := by
  induction a with
  | nil => exact le_rfl
  | cons x a ih => exact add_nonneg (mul_self_nonneg x) ih

theorem gdot_add (w a b : List K) (h : a.length = b.length) :
    gdot w (List.zipWith (· + ·) a b) = gdot w a + gdot w b := by
  induction w generalizing a b with
  | nil => simp
  | cons x w ih =>
    match a, b, h with
    | [], [], _ => simp
    | y :: a, z :: b, h =>
      simp only [List.zipWith_cons_cons, gdot_cons, ih a b (Nat.succ_injective h)]
      ring

theorem gdot_smul (c : K) (w x : List K) : gdot w (x.map (c * ·)) = c * gdot w x := by
  induction w generalizing x with
  | nil => simp
  | cons y w ih =>
    cases x with
    | nil => simp
    | cons z x => simp only [List.map_cons, gdot_cons, ih x]; ring

theorem gdot_smul_left (c : K) (w x : List K) : gdot (w.map (c * ·)) x = c * gdot w x := by
  rw [gdot_comm, gdot_smul, gdot_comm]

theorem gdot_neg (w x : List K) : gdot w (x.map (- ·)) = - gdot w x := by
  rw [show (fun y : K => -y) = (-1 * ·) from funext fun y => (neg_one_mul y).symm, gdot_smul, neg_one_mul]

theorem gdot_sub (w a b : List K) (h : a.length = b.length) :
    gdot w (List.zipWith (· - ·) a b) = gdot w a - gdot w b := by
  have e : List.zipWith (· - ·) a b = List.zipWith (· + ·) a (b.map (- ·)) := by
    rw [List.zipWith_map_right]; simp only [sub_eq_add_neg]
  rw [e, gdot_add w a _ (by rw [List.length_map, h]), gdot_neg, sub_eq_add_neg]

theorem gdot_replicate_zero (w : List K) (n : Nat) : gdot w (List.replicate n 0) = 0 := by
  induction w generalizing n with
  | nil => simp
  | cons y w ih =>
    cases n with
    | zero => simp
    | succ n => simp [List.replicate_succ, ih n]

theorem gdot_add_left (a b x : List K) (h : a.length = b.length) :
    gdot (List.zipWith (· + ·) a b) x = gdot a x + gdot b x := by
  rw [gdot_comm, gdot_add x a b h, gdot_comm a, gdot_comm b]

theorem gdot_sub_left (a b x : List K) (h : a.length = b.length) :
    gdot (List.zipWith (· - ·) a b) x = gdot a x - gdot b x := by
  rw [gdot_comm, gdot_sub x a b h, gdot_comm a, gdot_comm b]

theorem gdot_replicate_zero_left (n : Nat) (x : List K) : gdot (List.replicate n 0) x = 0 := by
  rw [gdot_comm, gdot_replicate_zero]

theorem zipWith_sub_self (a : List K) : List.zipWith (· - ·) a a = List.replicate a.length 0 := by
  induction a with
  | nil => rfl
  | cons x a ih => rw [List.zipWith_cons_cons, sub_self, ih, List.length_cons, List.replicate_succ]

theorem zipWith_sub_eq_zero {a b : List K} (h : a.length = b.length)
    (hz : List.zipWith (· - ·) a b = List.replicate a.length 0) : a = b := by
  induction a generalizing b with
  | nil => cases b with
    | nil => rfl
    | cons _ _ => simp at h
  | cons x a ih =>
    cases b with
    | nil => simp at h
    | cons y b =>
      simp only [List.zipWith_cons_cons, List.length_cons, List.replicate_succ, List.cons.injEq] at hz
      have h' : a.length = b.length := by simpa using h
      rw [ih h' hz.2, sub_eq_zero.mp hz.1]

theorem zipWith_sub_translate (a b t : List K) (ha : a.length = t.length) (hb : b.length = t.length) :
    List.zipWith (· - ·) (List.zipWith (· + ·) a t) (List.zipWith (· + ·) b t)
      = List.zipWith (· - ·) a b :=
  List.ext_getElem (by simp only [List.length_zipWith, ha, hb, Nat.min_self])
    fun i _ _ => by simp only [List.getElem_zipWith, add_sub_add_right_eq_sub]

theorem zipWith_sub_smul (c : K) (a b : List K) :
    List.zipWith (· - ·) (a.map (c * ·)) (b.map (c * ·)) = (List.zipWith (· - ·) a b).map (c * ·) := by
  simp only [List.zipWith_map, List.map_zipWith, mul_sub]

theorem zipWith_add_smul (c : K) (a b : List K) :
    List.zipWith (· + ·) (a.map (c * ·)) (b.map (c * ·)) = (List.zipWith (· + ·) a b).map (c * ·) := by
  simp only [List.zipWith_map, List.map_zipWith, mul_add]

/-- `c + (x − c) = x` -/
theorem zipWith_add_sub_cancel (c x : List K) (h : c.length = x.length) :
    List.zipWith (· + ·) c (List.zipWith (· - ·) x c) = x :=
  List.ext_getElem (by simp only [List.length_zipWith, h, Nat.min_self])
    fun i _ _ => by simp only [List.getElem_zipWith, add_sub_cancel]

/-- `2 a·b ≤ a·a + b·b` (any lengths: missing coordinates only add squares on the right) -/
theorem two_gdot_le (a b : List K) : 2 * gdot a b ≤ gdot a a + gdot b b := by
  induction a generalizing b with
  | nil => rw [gdot_nil_left, gdot_nil_left, mul_zero, zero_add]; exact gdot_self_nonneg b
  | cons x xs ih =>
    cases b with
    | nil => rw [gdot_nil_right, gdot_nil_right, mul_zero, add_zero]; exact gdot_self_nonneg _
    | cons y ys =>
      simp only [gdot_cons]
      linear_combination ih ys + mul_self_nonneg (x - y)

/-- `‖z‖² ≤ 0` only for the zero vector -/
theorem eq_zero_of_gdot_self_nonpos (z : List K) (h : gdot z z ≤ 0) :
    z = List.replicate z.length 0 := by
  induction z with
  | nil => rfl
  | cons x xs ih =>
    rw [gdot_cons] at h
    have hx : x * x ≤ 0 := (le_add_of_nonneg_right (gdot_self_nonneg xs)).trans h
    rw [List.length_cons, List.replicate_succ,
      ← ih ((le_add_of_nonneg_left (mul_self_nonneg x)).trans h),
      mul_self_eq_zero.mp (hx.antisymm (mul_self_nonneg x))]

theorem zipWith_sub_zero (d : List K) : List.zipWith (· - ·) d (List.replicate d.length 0) = d :=
  List.ext_getElem (by simp only [List.length_zipWith, List.length_replicate, Nat.min_self])
    fun i _ _ => by simp only [List.getElem_zipWith, List.getElem_replicate, sub_zero]

theorem zipWith_add_zero (d : List K) : List.zipWith (· + ·) d (List.replicate d.length 0) = d :=
  List.ext_getElem (by simp only [List.length_zipWith, List.length_replicate, Nat.min_self])
    fun i _ _ => by simp only [List.getElem_zipWith, List.getElem_replicate, add_zero]

/-! ### the laws, generically -/

theorem Dom.iff_facets {W : List (List K)} {a b : List K} (h : a.length = b.length) :
    Dom W a b ↔ ∀ w ∈ W, gdot w b ≤ gdot w a := by
  simp only [Dom, MemCone, gdot_sub _ a b h, sub_nonneg]

theorem Dom.refl (W : List (List K)) (a : List K) : Dom W a a := by
  intro w _
  rw [zipWith_sub_self, gdot_replicate_zero]

theorem Dom.trans {W : List (List K)} {a b c : List K} (hab : a.length = b.length)
    (hbc : b.length = c.length) (h1 : Dom W a b) (h2 : Dom W b c) : Dom W a c := by
  rw [Dom.iff_facets hab] at h1
  rw [Dom.iff_facets hbc] at h2
  rw [Dom.iff_facets (hab.trans hbc)]
  intro w hw
  exact le_trans (h2 w hw) (h1 w hw)

theorem Dom.translate (W : List (List K)) (a b t : List K) (ha : a.length = t.length)
    (hb : b.length = t.length) :
    Dom W (List.zipWith (· + ·) a t) (List.zipWith (· + ·) b t) ↔ Dom W a b := by
  unfold Dom
  rw [zipWith_sub_translate a b t ha hb]

theorem Dom.scale (W : List (List K)) (c : K) (hc : 0 < c) (a b : List K) :
    Dom W (a.map (c * ·)) (b.map (c * ·)) ↔ Dom W a b := by
  simp only [Dom, MemCone, zipWith_sub_smul, gdot_smul, mul_nonneg_iff_of_pos_left hc]

/-- antisymmetry on vectors of length `m` ⇔ trivial kernel (pointed cone) -/
theorem Dom.antisymm_iff_pointed (W : List (List K)) (m : Nat) :
    (∀ a b : List K, a.length = m → b.length = m → Dom W a b → Dom W b a → a = b) ↔
    (∀ x : List K, x.length = m → (∀ w ∈ W, gdot w x = 0) → x = List.replicate m 0) := by
  constructor
  · intro H x hx hker
    have hz : (List.replicate m (0 : K)).length = m := List.length_replicate
    have e : ∀ w ∈ W, gdot w x = gdot w (List.replicate m 0) := fun w hw => by
      rw [gdot_replicate_zero, hker w hw]
    exact H x _ hx hz ((Dom.iff_facets (hx.trans hz.symm)).mpr fun w hw => (e w hw).ge)
      ((Dom.iff_facets (hz.trans hx.symm)).mpr fun w hw => (e w hw).le)
  · intro H a b ha hb hab hba
    have hl : a.length = b.length := ha.trans hb.symm
    rw [Dom.iff_facets hl] at hab
    rw [Dom.iff_facets hl.symm] at hba
    have hzero := H (List.zipWith (· - ·) a b) (by simp [ha, hb]) (fun w hw => by
      rw [gdot_sub w a b hl, sub_eq_zero]
      exact le_antisymm (hba w hw) (hab w hw))
    apply zipWith_sub_eq_zero hl
    rw [hzero, ha]

end generic

/-! ### the rows of the identity matrix -/

/-- row `i` of the `m × m` identity picks coordinate `i` -/
theorem gdot_basis {K : Type} [Field K] [LinearOrder K] [IsStrictOrderedRing K] :
    ∀ (m i : Nat) (x : List K), x.length ≤ m →
      gdot ((List.range m).map fun j => if i = j then (1 : K) else 0) x = x.getD i 0
  | 0, _, x, hx => by rw [List.length_eq_zero_iff.mp (Nat.le_zero.mp hx)]; rfl
  | m + 1, _, [], _ => by rw [gdot_nil_right, List.getD_nil]
  | m + 1, 0, y :: x, _ => by
    rw [List.range_succ_eq_map, List.map_cons, List.map_map, gdot_cons, if_pos rfl, one_mul, List.getD_cons_zero,
      add_eq_left]
    exact (congrArg (gdot · x) (List.map_const' ..)).trans (gdot_replicate_zero_left ..)
  | m + 1, i + 1, y :: x, hx => by
    rw [List.range_succ_eq_map, List.map_cons, List.map_map, gdot_cons, if_neg (Nat.succ_ne_zero i), zero_mul,
      zero_add, List.getD_cons_succ, ← gdot_basis m i x (Nat.le_of_succ_le_succ hx)]
    simp only [Function.comp_def, Nat.succ_inj]

end VOPy.ConeOrd
