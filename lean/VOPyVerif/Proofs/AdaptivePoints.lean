import VOPyVerif.Proofs.AdaptiveAlgo
import Mathlib.Tactic.Positivity
/-!
# Node points are pairwise distinct

`evaluate_refine` finds the candidate's index by comparing its point with every row of `points`
(`np.where(np.all(points == candidate_pt, axis=1))[0].item()`); this is unambiguous because no two
nodes of the tree share a point.  Proved through the stronger invariant "the only node point in the
interior of a leaf's cell is that leaf's own centre".
-/
namespace VOPy.Adaptive

def Space.pointAt (s : Space) (i : Nat) : Option (List Rat) := (s.nodes[i]?).map Node.point

structure Space.PointsOk (s : Space) : Prop where
  /-- distinct nodes have distinct points -/
  inj : ∀ i j x, s.pointAt i = some x → s.pointAt j = some x → i = j
  /-- the only node point inside a leaf's open cell is the leaf's own -/
  own : ∀ e l x c, s.pointAt e = some x → s.isLeaf l = true → s.cellAt l = some c →
    InInt (K := ℚ) x c → e = l

theorem inInt_centre : ∀ {c : Cell}, (∀ q ∈ c, q.1 < q.2) → InInt (K := ℚ) (centre c) c
  | [], _ => trivial
  | p :: c, h => by
      have hp := h p List.mem_cons_self
      rw [centre, List.map_cons, inInt_cons, Rat.cast_id, Rat.cast_id]
      exact ⟨⟨left_lt_add_div_two.mpr hp, add_div_two_lt_right.mpr hp⟩,
        inInt_centre (fun q hq => h q (List.mem_cons_of_mem _ hq))⟩

theorem not_inInt_centre_child {c c' : Cell} (hne : c ≠ []) (hc : c' ∈ childCells c) :
    ¬ InInt (K := ℚ) (centre c) c' := by
  cases c with
  | nil => exact absurd rfl hne
  | cons p c =>
    obtain ⟨t, _, h | h⟩ := mem_childCells_cons hc
    · subst h
      simp only [centre, List.map_cons, inInt_cons, Rat.cast_id]
      intro hx; exact lt_irrefl _ hx.1.2
    · subst h
      simp only [centre, List.map_cons, inInt_cons, Rat.cast_id]
      intro hx; exact lt_irrefl _ hx.1.1

theorem refine_pointAt_old {s s' : Space} {p : Node} (hs : s'.nodes = s.nodes ++ children p) {j : Nat}
    (hj : j < s.nodes.length) : s'.pointAt j = s.pointAt j := by
  rw [Space.pointAt, Space.pointAt, hs, List.getElem?_append_left hj]

theorem refine_pointAt_new {s s' : Space} {p : Node} (hs : s'.nodes = s.nodes ++ children p) {j : Nat}
    (hj : s.nodes.length ≤ j) :
    s'.pointAt j = ((childCells p.cell)[j - s.nodes.length]?).map centre := by
  rw [Space.pointAt, hs, List.getElem?_append_right hj, children_getElem?, Option.map_map]
  rfl

theorem refine_point_cases {s s' : Space} {p : Node} (hs : s'.nodes = s.nodes ++ children p) {e : Nat}
    {x : List Rat} (h : s'.pointAt e = some x) :
    (e < s.nodes.length ∧ s.pointAt e = some x) ∨
      (s.nodes.length ≤ e ∧ ∃ c, (childCells p.cell)[e - s.nodes.length]? = some c ∧ centre c = x) := by
  rcases Nat.lt_or_ge e s.nodes.length with he | he
  · exact Or.inl ⟨he, refine_pointAt_old hs he ▸ h⟩
  · exact Or.inr ⟨he, Option.map_eq_some_iff.mp (refine_pointAt_new hs he ▸ h)⟩

theorem pos_sides_of_wf {d : Nat} {s : Space} (hwf : s.WF d) {n : Node} (hn : n ∈ s.nodes) :
    ∀ q ∈ n.cell, q.1 < q.2 := by
  intro q hq
  have hpos : (0 : Rat) < 1 / 2 ^ (n.depth - 1) := by positivity
  exact sub_pos.mp (hwf.side n hn q hq ▸ hpos)

theorem refine_pointsOk {d : Nat} {s s' : Space} {i : Nat} {ch : List Nat} (hd : 1 ≤ d) (hwf : s.WF d)
    (ht : s.Tiles ℚ d) (hpo : s.PointsOk) (hleaf : s.isLeaf i = true)
    (h : s.refine i = some (s', ch)) : s'.PointsOk := by
  obtain ⟨p, hp, hn, hr, _⟩ := Space.refine_eq h
  have hi := (List.getElem?_eq_some_iff.mp hp).1
  have hpm : p ∈ s.nodes := List.mem_of_getElem? hp
  have hci := Space.cellAt_of_getElem? hp
  have hpi : s.pointAt i = some (centre p.cell) := by rw [Space.pointAt, hp, ← hwf.centre p hpm]; rfl
  have hwf' := refine_wf hwf h
  have hcne : p.cell ≠ [] := fun h0 => by
    have hlen := hwf.cellLen p hpm
    rw [h0, List.length_nil] at hlen
    subst hlen
    exact Nat.not_succ_le_zero 0 hd
  -- a child cell has positive sides, so its centre is in its interior, hence in the parent's
  have hchild : ∀ {a : Nat} {c' : Cell}, (childCells p.cell)[a]? = some c' →
      InInt (K := ℚ) (centre c') c' ∧ InInt (K := ℚ) (centre c') p.cell := by
    intro a c' ha
    have hc' := List.mem_of_getElem? ha
    have hmem : mkChild p c' ∈ s'.nodes :=
      hn ▸ List.mem_append_right _ (List.mem_map_of_mem hc')
    have h1 := inInt_centre (pos_sides_of_wf hwf' hmem)
    exact ⟨h1, inInt_of_child hc' h1⟩
  -- two children whose interiors share a point are the same child
  have hsame : ∀ {a b : Nat} {ca cb : Cell} {x : List ℚ}, (childCells p.cell)[a]? = some ca →
      (childCells p.cell)[b]? = some cb → InInt x ca → InInt x cb → a = b :=
    fun ha hb hxa hxb => by_contra fun hab => childCells_disjoint_of_ne ha hb hab _ ⟨hxa, hxb⟩
  -- no old node has its point inside a child cell: it would be `i`, whose point is on the boundary
  have hold_new : ∀ {e a : Nat} {x : List Rat} {c' : Cell}, s.pointAt e = some x → (childCells p.cell)[a]? = some c' →
      InInt (K := ℚ) x c' → False := by
    intro e a x c' hpe ha hx
    have hc' := List.mem_of_getElem? ha
    obtain rfl := hpo.own e i x p.cell hpe hleaf hci (inInt_of_child hc' hx)
    cases hpi.symm.trans hpe
    exact not_inInt_centre_child hcne hc' hx
  refine ⟨?_, ?_⟩
  · intro j j' x hj hj'
    rcases refine_point_cases hn hj with ⟨_, hj⟩ | ⟨h1, ca, hca, rfl⟩ <;>
      rcases refine_point_cases hn hj' with ⟨_, hj'⟩ | ⟨h2, cb, hcb, hxb⟩
    · exact hpo.inj j j' x hj hj'
    · exact (hold_new hj hcb (hxb ▸ (hchild hcb).1)).elim
    · exact (hold_new hj' hca (hchild hca).1).elim
    · exact (tsub_left_inj h1 h2).mp (hsame hca hcb (hchild hca).1 (hxb ▸ (hchild hcb).1))
  · intro e l x c hpe hl hc hx
    rcases refine_leaf_cell hwf.refinedLt hi hn hr hl hc with ⟨hl, hli, hc⟩ | ⟨h1, hc⟩ <;>
      rcases refine_point_cases hn hpe with ⟨_, hpe⟩ | ⟨h2, cb, hcb, rfl⟩
    · exact hpo.own e l x c hpe hl hc hx
    · exact absurd ⟨(hchild hcb).2, hx⟩ (ht.disjoint i l p.cell c hleaf hl (Ne.symm hli) hci hc _)
    · exact (hold_new hpe hc hx).elim
    · exact (tsub_left_inj h2 h1).mp (hsame hcb hc (hchild hcb).1 hx)

theorem setRegion_pointAt {s s' : Space} {i : Nat} {lo up : List Rat} (h : s.setRegion i lo up = some s') :
    s'.pointAt = s.pointAt := by
  obtain ⟨p, hp, rfl⟩ := setRegion_eq h
  exact funext (getElem?_set_map (a := { p with lower := lo, upper := up }) Node.point hp rfl)

theorem setRegion_pointsOk {s s' : Space} {i : Nat} {lo up : List Rat} (hpo : s.PointsOk)
    (h : s.setRegion i lo up = some s') : s'.PointsOk := by
  obtain ⟨_, _, _, hc, _, hl, _⟩ := setRegion_same h
  have hp := setRegion_pointAt h
  exact ⟨hp ▸ hpo.inj, hl ▸ hc ▸ hp ▸ hpo.own⟩

theorem stable_pointsOk {d : Nat} (hd : 1 ≤ d) (g : Prop) :
    Space.Stable d g (fun s => s.Tiles ℚ d ∧ s.PointsOk) :=
  ⟨fun hp hs => ⟨setRegion_tiles hp.1 hs, setRegion_pointsOk hp.2 hs⟩,
   fun hp hwf hl _ hr => ⟨refine_tiles hwf hp.1 hl hr, refine_pointsOk hd hwf hp.1 hp.2 hl hr⟩⟩

theorem root_pointsOk (d m md : Nat) : (Space.root d m md).PointsOk := by
  have hlen : ∀ j x, (Space.root d m md).pointAt j = some x → j = 0 := by
    intro j x h
    cases j with
    | zero => rfl
    | succ k => exact nomatch h
  refine ⟨fun j j' x h1 h2 => (hlen j x h1).trans (hlen j' x h2).symm, ?_⟩
  intro e l x c h1 h2 _ _
  have hl : l < 1 := ((Space.isLeaf_iff _ _).mp h2).1
  exact (hlen e x h1).trans (Nat.lt_one_iff.mp hl).symm

end VOPy.Adaptive
