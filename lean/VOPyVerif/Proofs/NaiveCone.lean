import Mathlib.Tactic.Ring
import Mathlib.Tactic.Linarith
import Mathlib.Tactic.Positivity
import Mathlib.Data.Real.Basic
import Mathlib.Algebra.Order.Field.Basic
/-!
# C08 helper: planar two-facet cones over `ℝ × ℝ`

`Cone2` is a polyhedral cone `{x | w₁·x ≥ 0 ∧ w₂·x ≥ 0}` in the plane.  The key fact is the
*planar lemma*: for linearly independent facet normals with Gram entries `p = ‖w₁‖²`, `q = ‖w₂‖²`,
`g = w₁·w₂`, every `e` has a `z ∈ C` with `z − e ∈ C` and `‖z‖² ≤ B²‖e‖²`, where `B² ≥ 1` and,
when `g < 0` (acute cone), `B² ≥ pq/(pq − g²)` (`= 1/sin²θ` for unit normals with `g = −cos θ`).
No trigonometry: with facet coordinates `b = W e`, `‖e‖²·(pq − g²) = q b₁² − 2 g b₁ b₂ + p b₂²`
(Lagrange identity) and `z := W⁻¹ max(0, b)`.
-/
namespace VOPy.Naive

/-- squared Euclidean norm on `ℝ × ℝ` -/
def nsq (x : ℝ × ℝ) : ℝ := x.1 ^ 2 + x.2 ^ 2

theorem nsq_nonneg (x : ℝ × ℝ) : 0 ≤ nsq x := by unfold nsq; positivity

theorem nsq_smul (t : ℝ) (x : ℝ × ℝ) : nsq (t • x) = t ^ 2 * nsq x := by
  simp only [nsq, Prod.smul_fst, Prod.smul_snd, smul_eq_mul]; ring

/-- the two facet normals `w₁ = (a1, a2)`, `w₂ = (c1, c2)` of a planar cone -/
structure Cone2 where
  a1 : ℝ
  a2 : ℝ
  c1 : ℝ
  c2 : ℝ

namespace Cone2
variable (W : Cone2)

/-- first facet functional `w₁ · x` -/
def f1 (x : ℝ × ℝ) : ℝ := W.a1 * x.1 + W.a2 * x.2
/-- second facet functional `w₂ · x` -/
def f2 (x : ℝ × ℝ) : ℝ := W.c1 * x.1 + W.c2 * x.2
/-- membership in the cone `{x | W x ≥ 0}` -/
def mem (x : ℝ × ℝ) : Prop := 0 ≤ W.f1 x ∧ 0 ≤ W.f2 x

/-- `‖w₁‖²` -/ def p : ℝ := W.a1 ^ 2 + W.a2 ^ 2
/-- `‖w₂‖²` -/ def q : ℝ := W.c1 ^ 2 + W.c2 ^ 2
/-- `w₁ · w₂` -/ def g : ℝ := W.a1 * W.c1 + W.a2 * W.c2
/-- `det W` -/ def det : ℝ := W.a1 * W.c2 - W.a2 * W.c1

theorem f1_add (x y : ℝ × ℝ) : W.f1 (x + y) = W.f1 x + W.f1 y := by
  simp only [f1, Prod.fst_add, Prod.snd_add]; ring
theorem f2_add (x y : ℝ × ℝ) : W.f2 (x + y) = W.f2 x + W.f2 y := by
  simp only [f2, Prod.fst_add, Prod.snd_add]; ring
theorem f1_sub (x y : ℝ × ℝ) : W.f1 (x - y) = W.f1 x - W.f1 y := by
  simp only [f1, Prod.fst_sub, Prod.snd_sub]; ring
theorem f2_sub (x y : ℝ × ℝ) : W.f2 (x - y) = W.f2 x - W.f2 y := by
  simp only [f2, Prod.fst_sub, Prod.snd_sub]; ring
theorem f1_smul (t : ℝ) (x : ℝ × ℝ) : W.f1 (t • x) = t * W.f1 x := by
  simp only [f1, Prod.smul_fst, Prod.smul_snd, smul_eq_mul]; ring
theorem f2_smul (t : ℝ) (x : ℝ × ℝ) : W.f2 (t • x) = t * W.f2 x := by
  simp only [f2, Prod.smul_fst, Prod.smul_snd, smul_eq_mul]; ring
theorem f1_neg (x : ℝ × ℝ) : W.f1 (-x) = - W.f1 x := by
  simp only [f1, Prod.fst_neg, Prod.snd_neg]; ring
theorem f2_neg (x : ℝ × ℝ) : W.f2 (-x) = - W.f2 x := by
  simp only [f2, Prod.fst_neg, Prod.snd_neg]; ring

theorem mem_add {x y : ℝ × ℝ} (hx : W.mem x) (hy : W.mem y) : W.mem (x + y) := by
  constructor
  · rw [f1_add]; exact add_nonneg hx.1 hy.1
  · rw [f2_add]; exact add_nonneg hx.2 hy.2

theorem mem_smul {t : ℝ} (ht : 0 ≤ t) {x : ℝ × ℝ} (hx : W.mem x) : W.mem (t • x) := by
  constructor
  · rw [f1_smul]; exact mul_nonneg ht hx.1
  · rw [f2_smul]; exact mul_nonneg ht hx.2

theorem mem_zero : W.mem 0 := by simp [mem, f1, f2]

/-- Lagrange identity: `det² = pq − g²` -/
theorem det_sq : W.det ^ 2 = W.p * W.q - W.g ^ 2 := by simp only [det, p, q, g]; ring

/-- `‖e‖² det²` as the Gram form of the facet coordinates of `e` -/
theorem nsq_mul_det_sq (e : ℝ × ℝ) :
    nsq e * W.det ^ 2 = W.q * W.f1 e ^ 2 - 2 * W.g * W.f1 e * W.f2 e + W.p * W.f2 e ^ 2 := by
  simp only [nsq, q, g, p, det, f1, f2]; ring

/-- the point with facet coordinates `(u, v)`, i.e. `W⁻¹ (u, v)` when `det W ≠ 0` -/
noncomputable def lift (u v : ℝ) : ℝ × ℝ :=
  ((W.c2 * u - W.a2 * v) / W.det, (-W.c1 * u + W.a1 * v) / W.det)

theorem f1_lift (hdet : W.det ≠ 0) (u v : ℝ) : W.f1 (W.lift u v) = u := by
  have h : W.f1 (W.lift u v) = u * W.det / W.det := by simp only [f1, lift, det]; ring
  rw [h, mul_div_cancel_right₀ _ hdet]

theorem f2_lift (hdet : W.det ≠ 0) (u v : ℝ) : W.f2 (W.lift u v) = v := by
  have h : W.f2 (W.lift u v) = v * W.det / W.det := by simp only [f2, lift, det]; ring
  rw [h, mul_div_cancel_right₀ _ hdet]

theorem nsq_lift (hdet : W.det ≠ 0) (u v : ℝ) :
    nsq (W.lift u v) * W.det ^ 2 = W.q * u ^ 2 - 2 * W.g * u * v + W.p * v ^ 2 := by
  simp only [nsq, lift, div_pow]
  rw [← add_div, div_mul_cancel₀ _ (pow_ne_zero 2 hdet)]
  simp only [q, g, p]; ring

end Cone2

/-- the Gram form `q b₁² − 2 g b₁ b₂ + p b₂²` is non-negative when `pq − g² > 0` -/
theorem quad_nonneg {p q g : ℝ} (hp : 0 < p) (hdet : 0 < p * q - g ^ 2) (b1 b2 : ℝ) :
    0 ≤ q * b1 ^ 2 - 2 * g * b1 * b2 + p * b2 ^ 2 := by
  have h : 0 ≤ p * (q * b1 ^ 2 - 2 * g * b1 * b2 + p * b2 ^ 2) := by
    rw [show p * (q * b1 ^ 2 - 2 * g * b1 * b2 + p * b2 ^ 2)
        = (p * b2 - g * b1) ^ 2 + (p * q - g ^ 2) * b1 ^ 2 by ring]
    positivity
  exact nonneg_of_mul_nonneg_right h hp

/-- replacing a non-positive second facet coordinate by `0` costs at most the factor `B2` -/
theorem quad_drop {p q g B2 : ℝ} (hp : 0 < p) (hq : 0 ≤ q) (hdet : 0 < p * q - g ^ 2)
    (hB1 : 1 ≤ B2) (hB : g < 0 → p * q ≤ B2 * (p * q - g ^ 2)) {b1 b2 : ℝ} (h1 : 0 ≤ b1)
    (h2 : b2 ≤ 0) : q * b1 ^ 2 ≤ B2 * (q * b1 ^ 2 - 2 * g * b1 * b2 + p * b2 ^ 2) := by
  have hQ := quad_nonneg hp hdet b1 b2
  rcases le_or_gt 0 g with hg | hg
  · -- obtuse or right cone: the cross term `−2 g b₁ b₂` is non-negative
    have hx : 0 ≤ g * b1 * (-b2) := mul_nonneg (mul_nonneg hg h1) (neg_nonneg.mpr h2)
    have hy : 0 ≤ p * b2 ^ 2 := mul_nonneg hp.le (sq_nonneg b2)
    have := le_mul_of_one_le_left hQ hB1
    linarith
  · -- acute cone: `pq·Q − q b₁² (pq − g²) = q (g b₁ − p b₂)²` and `pq ≤ B2 (pq − g²)`
    have h3 := mul_nonneg hq (sq_nonneg (g * b1 - p * b2))
    have h4 := mul_le_mul_of_nonneg_right (hB hg) hQ
    refine le_of_mul_le_mul_right ?_ hdet
    linarith

/-- the quadratic inequality behind the planar lemma, in facet coordinates -/
theorem quad_core (p q g b1 b2 B2 : ℝ) (hp : 0 ≤ p) (hq : 0 ≤ q) (hdet : 0 < p * q - g ^ 2)
    (hB1 : 1 ≤ B2) (hB : g < 0 → p * q ≤ B2 * (p * q - g ^ 2)) :
    q * (max 0 b1) ^ 2 - 2 * g * (max 0 b1) * (max 0 b2) + p * (max 0 b2) ^ 2
      ≤ B2 * (q * b1 ^ 2 - 2 * g * b1 * b2 + p * b2 ^ 2) := by
  have hpq : 0 < p * q := (sq_nonneg g).trans_lt (sub_pos.mp hdet)
  have hp0 : 0 < p := pos_of_mul_pos_left hpq hq
  have hq0 : 0 < q := pos_of_mul_pos_right hpq hp
  have hQ := quad_nonneg hp0 hdet b1 b2
  rcases le_total 0 b1 with h1 | h1 <;> rcases le_total 0 b2 with h2 | h2
  · rw [max_eq_right h1, max_eq_right h2]
    exact le_mul_of_one_le_left hQ hB1
  · rw [max_eq_right h1, max_eq_left h2, mul_zero, sub_zero, zero_pow two_ne_zero, mul_zero,
      add_zero]
    exact quad_drop hp0 hq hdet hB1 hB h1 h2
  · -- the same with the two facets exchanged
    rw [max_eq_left h1, max_eq_right h2, zero_pow two_ne_zero, mul_zero, mul_zero, zero_mul,
      sub_zero, zero_add]
    have h := quad_drop (p := q) (q := p) (g := g) hq0 hp (mul_comm p q ▸ hdet) hB1
      (mul_comm p q ▸ hB) h2 h1
    rwa [show p * b2 ^ 2 - 2 * g * b2 * b1 + q * b1 ^ 2 = q * b1 ^ 2 - 2 * g * b1 * b2 + p * b2 ^ 2
      by ring] at h
  · rw [max_eq_left h1, max_eq_left h2, zero_pow two_ne_zero, mul_zero, mul_zero, mul_zero,
      sub_zero, add_zero]
    exact mul_nonneg (zero_le_one.trans hB1) hQ

/-- **Planar lemma.**  Independent facet normals (`det ≠ 0`), `B2 ≥ 1`, and `B2 ≥ pq/(pq − g²)` when
the cone is acute (`g < 0`): every `e` is dominated by some `z ∈ C` (i.e. `z − e ∈ C`) with
`‖z‖² ≤ B2 ‖e‖²`. -/
theorem planar (W : Cone2) (hdet : W.det ≠ 0) (B2 : ℝ) (hB1 : 1 ≤ B2)
    (hB : W.g < 0 → W.p * W.q ≤ B2 * (W.p * W.q - W.g ^ 2)) (e : ℝ × ℝ) :
    ∃ z : ℝ × ℝ, W.mem z ∧ W.mem (z - e) ∧ nsq z ≤ B2 * nsq e := by
  have hD2 : 0 < W.det ^ 2 := by positivity
  refine ⟨W.lift (max 0 (W.f1 e)) (max 0 (W.f2 e)), ?_, ?_, ?_⟩
  · constructor
    · rw [W.f1_lift hdet]; exact le_max_left _ _
    · rw [W.f2_lift hdet]; exact le_max_left _ _
  · constructor
    · rw [W.f1_sub, W.f1_lift hdet]; exact sub_nonneg.mpr (le_max_right _ _)
    · rw [W.f2_sub, W.f2_lift hdet]; exact sub_nonneg.mpr (le_max_right _ _)
  · refine le_of_mul_le_mul_right ?_ hD2
    rw [W.nsq_lift hdet, mul_assoc B2, W.nsq_mul_det_sq]
    exact quad_core W.p W.q W.g (W.f1 e) (W.f2 e) B2 (by simp only [Cone2.p]; positivity)
      (by simp only [Cone2.q]; positivity) (by rw [← W.det_sq]; exact hD2) hB1 hB

/-- a direction of norm at most one strictly inside the cone, for independent facet normals -/
theorem exists_interior (W : Cone2) (hdet : W.det ≠ 0) :
    ∃ u0 : ℝ × ℝ, nsq u0 ≤ 1 ∧ 0 < W.f1 u0 ∧ 0 < W.f2 u0 := by
  have hn := nsq_nonneg (W.lift 1 1)
  have hpos : 0 < (1 + nsq (W.lift 1 1))⁻¹ := inv_pos.mpr (by linarith)
  refine ⟨(1 + nsq (W.lift 1 1))⁻¹ • W.lift 1 1, ?_, ?_, ?_⟩
  · rw [nsq_smul, inv_pow, inv_mul_le_iff₀ (by positivity), mul_one]
    linarith [sq_nonneg (nsq (W.lift 1 1))]
  · rw [W.f1_smul, W.f1_lift hdet, mul_one]; exact hpos
  · rw [W.f2_smul, W.f2_lift hdet, mul_one]; exact hpos

end VOPy.Naive
