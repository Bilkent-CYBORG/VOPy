import VOPyVerif.Model.Basic
import VOPyVerif.Proofs.ConeOrder
import VOPyVerif.Proofs.ListBasic
import Mathlib.Algebra.Order.Field.Rat
import Mathlib.Data.Rat.Cast.Order
/-!
# The rational model as `ConeOrd` at `K = ℚ`, and the algebra of `Vec = List ℚ`

`dot`, `inCone`, `dominates` of `Model/Basic.lean` are `gdot`, `MemCone`, `Dom` of `Proofs/ConeOrder.lean`
at `K = ℚ` (`dot_eq_gdot`, `inCone_iff_memCone`, `dominates_iff_dom`; namespace `VOPy.ConeOrd`), and `Rat.cast`
carries them to every other ordered field (`gdot_cast`, `memCone_cast`, `dom_cast`), in particular `ℝ`.

The block in namespace `VOPy` reads the algebra of `gdot` off for `dot` / `vadd` / `vsub` / `smul`.  It is also
the home of the lemmas of the model's own `allNonneg`, `inCone`, `dominates`: what they decide (`allNonneg_iff`,
`inCone_iff`, `dominates_iff`, `dominates_iff_facets`), the order laws of `dominates` (reflexive, transitive,
invariant under translation and positive scaling) read off `Dom`, positive scaling of a vector or of the rows of
the matrix (`allNonneg_smul`, `inCone_scaleRows`), and the identity matrix (`matVec_identMat`, `dominates_identMat`).
-/
namespace VOPy.ConeOrd
open VOPy
set_option linter.unusedSectionVars false

/-! ### the `Rat` model is the generic relation at `K = ℚ` -/

theorem dot_eq_gdot (a b : Vec) : dot a b = gdot a b := by
  induction a generalizing b with
  | nil => simp [dot]
  | cons x a ih =>
    cases b with
    | nil => simp [dot]
    | cons y b => simp [dot, ih b]

theorem inCone_iff_memCone (W : Mat) (x : Vec) : inCone W x = true ↔ MemCone W x := by
  simp only [inCone, allNonneg, matVec, List.all_map, List.all_eq_true, Function.comp_apply,
    decide_eq_true_eq, MemCone, dot_eq_gdot]

theorem dominates_iff_dom (W : Mat) (a b : Vec) : dominates W a b = true ↔ Dom W a b := by
  simp only [dominates, inCone_iff_memCone, Dom, vsub]

/-! ### transport along `Rat.cast` -/

section cast
variable {K : Type} [Field K] [LinearOrder K] [IsStrictOrderedRing K]

theorem gdot_cast (w x : List ℚ) :
    gdot (w.map (Rat.cast : ℚ → K)) (x.map (Rat.cast : ℚ → K)) = ((gdot w x : ℚ) : K) := by
  induction w generalizing x with
  | nil => simp
  | cons y w ih =>
    cases x with
    | nil => simp
    | cons z x => simp [ih x]

theorem memCone_cast (W : List (List ℚ)) (x : List ℚ) :
    MemCone (W.map (·.map (Rat.cast : ℚ → K))) (x.map (Rat.cast : ℚ → K)) ↔ MemCone W x := by
  simp only [MemCone, List.forall_mem_map, gdot_cast, Rat.cast_nonneg]

theorem zipWith_sub_cast (a b : List ℚ) :
    List.zipWith (· - ·) (a.map (Rat.cast : ℚ → K)) (b.map (Rat.cast : ℚ → K))
      = (List.zipWith (· - ·) a b).map (Rat.cast : ℚ → K) := by
  induction a generalizing b with
  | nil => simp
  | cons x a ih =>
    cases b with
    | nil => simp
    | cons y b => simp [ih b]

theorem dom_cast (W : List (List ℚ)) (a b : List ℚ) :
    Dom (W.map (·.map (Rat.cast : ℚ → K))) (a.map (Rat.cast : ℚ → K)) (b.map (Rat.cast : ℚ → K))
      ↔ Dom W a b := by
  unfold Dom
  rw [zipWith_sub_cast, memCone_cast]

end cast

/-! ### the identity matrix -/

theorem matVec_identMat (m : Nat) (x : Vec) (hx : x.length = m) : matVec (identMat m) x = x := by
  refine List.ext_getElem (by simp [matVec, identMat, hx]) fun i h1 h2 => ?_
  simp only [matVec, identMat, List.getElem_map, List.getElem_range]
  rw [dot_eq_gdot, gdot_basis m i x hx.le, ← List.getElem_eq_getD (h := h2) 0]

end VOPy.ConeOrd

/-! ### the same algebra for `dot`, `vadd`, `vsub`, `smul` on `Vec` -/

namespace VOPy
open ConeOrd

theorem getD_zipWith {α β γ : Type} (f : α → β → γ) (a : List α) (b : List β) (i : Nat)
    (ha : i < a.length) (hb : i < b.length) (d : γ) (da : α) (db : β) :
    (List.zipWith f a b).getD i d = f (a.getD i da) (b.getD i db) := by
  rw [← List.getElem_eq_getD (h := by rw [List.length_zipWith]; exact Nat.lt_min.mpr ⟨ha, hb⟩) d,
    List.getElem_zipWith]
  exact congrArg₂ f (List.getElem_eq_getD da) (List.getElem_eq_getD db)

@[simp] theorem dot_nil_left (x : Vec) : dot [] x = 0 := by simp only [dot]
@[simp] theorem dot_nil_right (x : Vec) : dot x [] = 0 := by cases x <;> simp only [dot]
@[simp] theorem dot_cons (a b : ℚ) (as bs : Vec) : dot (a :: as) (b :: bs) = a * b + dot as bs := rfl

@[simp] theorem vadd_length (a b : Vec) : (vadd a b).length = min a.length b.length :=
  List.length_zipWith

@[simp] theorem vsub_length (a b : Vec) : (vsub a b).length = min a.length b.length :=
  List.length_zipWith

@[simp] theorem smul_length (c : ℚ) (a : Vec) : (smul c a).length = a.length := List.length_map _

@[simp] theorem vneg_length (a : Vec) : (vneg a).length = a.length := List.length_map _

theorem length_vadd (a b : Vec) (h : a.length = b.length) : (vadd a b).length = a.length := by
  rw [vadd_length, h, Nat.min_self]

theorem length_vsub (a b : Vec) (h : a.length = b.length) : (vsub a b).length = a.length := by
  rw [vsub_length, h, Nat.min_self]

/-- the orthant test on a difference is the componentwise comparison, whatever the lengths -/
theorem allNonneg_vsub (a b : Vec) : allNonneg (vsub a b) = vle b a := by
  rw [allNonneg, vsub, vle, List.zipWith_comm, ← Function.id_comp (fun d : ℚ => decide (0 ≤ d)), ← List.all_map,
    List.map_zipWith]
  simp only [sub_nonneg]

theorem dot_comm (a b : Vec) : dot a b = dot b a := by
  rw [dot_eq_gdot, dot_eq_gdot, gdot_comm]

theorem dot_self_nonneg (a : Vec) : 0 ≤ dot a a := by
  rw [dot_eq_gdot]
  exact gdot_self_nonneg a

theorem dot_vadd_right (x a b : Vec) (h : a.length = b.length) :
    dot x (vadd a b) = dot x a + dot x b := by
  rw [dot_eq_gdot, dot_eq_gdot, dot_eq_gdot]
  exact gdot_add x a b h

theorem dot_vadd_left (a b x : Vec) (h : a.length = b.length) :
    dot (vadd a b) x = dot a x + dot b x := by
  rw [dot_eq_gdot, dot_eq_gdot, dot_eq_gdot]
  exact gdot_add_left a b x h

theorem dot_vsub_right (x a b : Vec) (h : a.length = b.length) :
    dot x (vsub a b) = dot x a - dot x b := by
  rw [dot_eq_gdot, dot_eq_gdot, dot_eq_gdot]
  exact gdot_sub x a b h

theorem dot_vsub_left (a b x : Vec) (h : a.length = b.length) :
    dot (vsub a b) x = dot a x - dot b x := by
  rw [dot_eq_gdot, dot_eq_gdot, dot_eq_gdot]
  exact gdot_sub_left a b x h

theorem dot_smul_right (c : ℚ) (x a : Vec) : dot x (smul c a) = c * dot x a := by
  rw [dot_eq_gdot, dot_eq_gdot]
  exact gdot_smul c x a

theorem dot_smul_left (c : ℚ) (a x : Vec) : dot (smul c a) x = c * dot a x := by
  rw [dot_eq_gdot, dot_eq_gdot]
  exact gdot_smul_left c a x

theorem normSq_smul (c : ℚ) (v : Vec) : normSq (smul c v) = c * c * normSq v := by
  rw [normSq, normSq, dot_smul_left, dot_smul_right, mul_assoc]

theorem dot_replicate_zero_right (x : Vec) (n : Nat) : dot x (List.replicate n 0) = 0 := by
  rw [dot_eq_gdot, gdot_replicate_zero]

theorem dot_replicate_zero_left (n : Nat) (x : Vec) : dot (List.replicate n 0) x = 0 := by
  rw [dot_eq_gdot, gdot_replicate_zero_left]

theorem vsub_self (a : Vec) : vsub a a = List.replicate a.length 0 := zipWith_sub_self a

theorem eq_of_vsub_eq_zero {a b : Vec} (h : a.length = b.length)
    (hz : vsub a b = List.replicate a.length 0) : a = b := zipWith_sub_eq_zero h hz

/-- `(a + t) − (b + t) = a − b` -/
theorem vsub_vadd_vadd (a b t : Vec) (ha : a.length = t.length) (hb : b.length = t.length) :
    vsub (vadd a t) (vadd b t) = vsub a b := zipWith_sub_translate a b t ha hb

theorem vsub_smul (c : ℚ) (a b : Vec) : vsub (smul c a) (smul c b) = smul c (vsub a b) :=
  zipWith_sub_smul c a b

theorem vadd_smul (c : ℚ) (a b : Vec) : vadd (smul c a) (smul c b) = smul c (vadd a b) :=
  zipWith_add_smul c a b

theorem vadd_vsub_cancel (c x : Vec) (h : c.length = x.length) : vadd c (vsub x c) = x :=
  zipWith_add_sub_cancel c x h

protected theorem smul_smul (c d : ℚ) (a : Vec) : smul c (smul d a) = smul (c * d) a := by
  simp only [smul, List.map_map, Function.comp_def, mul_assoc]

protected theorem smul_one (a : Vec) : smul 1 a = a := by
  simp only [smul, one_mul, List.map_id']

theorem smul_left_cancel_iff (c : ℚ) (hc : c ≠ 0) (a b : Vec) : smul c a = smul c b ↔ a = b :=
  List.map_inj_right fun _ _ h => mul_left_cancel₀ hc h

theorem smul_replicate (c x : ℚ) (n : Nat) : smul c (List.replicate n x) = List.replicate n (c * x) :=
  List.map_replicate

/-! ### `inCone` and `dominates`: what they decide, and the order laws (from `Dom` at `K = ℚ`) -/

theorem allNonneg_iff (v : Vec) : allNonneg v = true ↔ ∀ t ∈ v, 0 ≤ t := by
  simp only [allNonneg, List.all_eq_true, decide_eq_true_eq]

theorem inCone_iff (W : Mat) (x : Vec) : inCone W x = true ↔ ∀ w ∈ W, 0 ≤ dot w x := by
  simp only [inCone, allNonneg, matVec, List.all_map, List.all_eq_true, Function.comp_apply, decide_eq_true_eq]

theorem dominates_iff (W : Mat) (a b : Vec) : dominates W a b = true ↔ ∀ w ∈ W, 0 ≤ dot w (vsub a b) :=
  inCone_iff W _

theorem allNonneg_smul (k : ℚ) (hk : 0 < k) (v : Vec) : allNonneg (smul k v) = allNonneg v := by
  simp only [allNonneg, smul, List.all_map, Function.comp_def, mul_nonneg_iff_of_pos_left hk]

/-- rows of `W` scaled by positive factors `D` (one per row): the same cone -/
theorem inCone_scaleRows (D : Vec) (W : Mat) (hD : ∀ d ∈ D, 0 < d) (hlen : D.length = W.length)
    (x : Vec) : inCone (List.zipWith smul D W) x = inCone W x := by
  simp only [inCone, allNonneg, matVec, List.all_map]
  refine all_zipWith_of_blind _ (fun d hd w => ?_) hlen.ge
  simp only [Function.comp_apply, dot_smul_left, decide_eq_decide]
  exact mul_nonneg_iff_of_pos_left (hD d hd)

theorem dominates_iff_facets (W : Mat) (a b : Vec) (h : a.length = b.length) :
    dominates W a b = true ↔ ∀ w ∈ W, dot w b ≤ dot w a := by
  rw [dominates_iff_dom, Dom.iff_facets h]; simp only [dot_eq_gdot]

theorem dominates_refl (W : Mat) (a : Vec) : dominates W a a = true :=
  (dominates_iff_dom W a a).mpr (Dom.refl W a)

theorem dominates_trans (W : Mat) (a b c : Vec) (hab : a.length = b.length) (hbc : b.length = c.length)
    (h1 : dominates W a b = true) (h2 : dominates W b c = true) : dominates W a c = true :=
  (dominates_iff_dom W a c).mpr
    (Dom.trans hab hbc ((dominates_iff_dom W a b).mp h1) ((dominates_iff_dom W b c).mp h2))

theorem dominates_translate (W : Mat) (a b t : Vec) (ha : a.length = t.length) (hb : b.length = t.length) :
    dominates W (vadd a t) (vadd b t) = dominates W a b := by
  rw [Bool.eq_iff_iff, dominates_iff_dom, dominates_iff_dom]
  exact Dom.translate W a b t ha hb

theorem dominates_scale (W : Mat) (c : Rat) (hc : 0 < c) (a b : Vec) :
    dominates W (smul c a) (smul c b) = dominates W a b := by
  rw [Bool.eq_iff_iff, dominates_iff_dom, dominates_iff_dom]
  exact Dom.scale W c hc a b

theorem inCone_identMat (m : Nat) (x : Vec) (hx : x.length = m) : inCone (identMat m) x = allNonneg x := by
  rw [inCone, matVec_identMat m x hx]

/-- the order of the identity matrix is the componentwise one -/
theorem dominates_identMat (m : Nat) (a b : Vec) (ha : a.length = m) (hb : b.length = m) :
    dominates (identMat m) a b = vle b a := by
  rw [dominates, inCone_identMat m _ (by rw [vsub_length, ha, hb, Nat.min_self]), allNonneg_vsub]

end VOPy
