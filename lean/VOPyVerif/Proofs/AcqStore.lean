import VOPyVerif.Model.Acq
import VOPyVerif.Proofs.Steps
import Mathlib.Data.List.Nodup
/-! For C07: evaluate-everything rounds, the append-only data stores behind `add_sample`, and what one
evaluate-everything step leaves in the store of each design. -/
namespace VOPy.Acq

/-! ## evaluate-everything rounds -/

/-- `evaluateAll S U` unfolds to the same term as `Steps.union S U` -/
theorem mem_evaluateAll {S U : List Nat} {i : Nat} : i ∈ evaluateAll S U ↔ i ∈ S ∨ i ∈ U :=
  Steps.mem_union

theorem evaluateAll_nodup {S U : List Nat} (hS : S.Nodup) (hU : U.Nodup) :
    (evaluateAll S U).Nodup :=
  Steps.nodup_union hS hU

/-! ## stores -/

theorem filter_beq_of_nodup {l : List Nat} (h : l.Nodup) (i : Nat) :
    l.filter (· == i) = if i ∈ l then [i] else [] := by
  rw [List.filter_beq, h.count]
  split <;> rfl

/-- Appending `g r` to the store with index `key r`, for the requests `r` of `l` one after the
other: store `i` ends up with what was requested for it, in request order. -/
theorem foldl_modify_append {ι β : Type} (key : ι → Nat) (g : ι → List β) :
    ∀ (l : List ι) (st : List (List β)) (i : Nat),
    (l.foldl (fun st r => st.modify (key r) (· ++ g r)) st)[i]? =
      st[i]?.map (· ++ (l.filter (fun r => key r == i)).flatMap g)
  | [], st, i => by
    simp only [List.foldl_nil, List.filter_nil, List.flatMap_nil, List.append_nil, Option.map_id']
  | r :: rs, st, i => by
    rw [List.foldl_cons, foldl_modify_append key g rs]
    by_cases h : key r = i
    · rw [h, List.getElem?_modify_eq,
        List.filter_cons_of_pos (p := fun r => key r == i) (beq_iff_eq.mpr h),
        List.flatMap_cons, Option.map_eq_map, Option.map_map]
      exact congrArg (Option.map · st[i]?) (funext fun s => List.append_assoc s _ _)
    · rw [List.getElem?_modify_ne _ _ h,
        List.filter_cons_of_neg (p := fun r => key r == i) (by rwa [beq_iff_eq])]

/-- one request `G d` per store index `d`, the indices pairwise different -/
theorem foldl_modify_append_of_nodup {β : Type} (G : Nat → List β) {ds : List Nat} (h : ds.Nodup)
    (st : List (List β)) (j : Nat) :
    (ds.foldl (fun st d => st.modify d (· ++ G d)) st)[j]? =
      st[j]?.map (fun s => if j ∈ ds then s ++ G j else s) := by
  refine (foldl_modify_append id G ds st j).trans ?_
  show st[j]?.map (fun s => s ++ (ds.filter (· == j)).flatMap G) = _
  rw [filter_beq_of_nodup h]
  split
  · simp only [List.flatMap_cons, List.flatMap_nil, List.append_nil]
  · simp only [List.flatMap_nil, List.append_nil]

theorem empAddSample_eq_some {samples out : List (List Vec)} {indices : List Nat} {Y : List Vec}
    (h : empAddSample samples indices Y = some out) :
    out = (indices.zip Y).foldl (fun st r => st.modify r.1 (· ++ [r.2])) samples := by
  rw [empAddSample] at h
  split at h
  · cases h
  · split at h
    · cases h
    · exact (Option.some.inj h).symm

theorem mem_insertSorted {d x : Nat} : ∀ {l : List Nat}, x ∈ insertSorted d l ↔ x = d ∨ x ∈ l
  | [] => by simp [insertSorted]
  | e :: es => by
    simp only [insertSorted]
    split
    · simp
    · split
      · rename_i h; subst h; simp
      · simp only [List.mem_cons, mem_insertSorted (l := es)]
        exact or_left_comm

theorem insertSorted_sorted {d : Nat} : ∀ {l : List Nat}, l.Pairwise (· < ·) →
    (insertSorted d l).Pairwise (· < ·)
  | [], _ => by simp [insertSorted]
  | e :: es, h => by
    have he := List.pairwise_cons.mp h
    simp only [insertSorted]
    split
    · rename_i hlt
      refine List.pairwise_cons.mpr ⟨?_, h⟩
      intro a ha
      rcases List.mem_cons.mp ha with rfl | ha
      · exact hlt
      · exact Nat.lt_trans hlt (he.1 a ha)
    · split
      · exact h
      · rename_i h1 h2
        refine List.pairwise_cons.mpr ⟨?_, insertSorted_sorted he.2⟩
        intro a ha
        rcases mem_insertSorted.mp ha with rfl | ha
        · omega
        · exact he.1 a ha

theorem uniqueSorted_sorted : ∀ (dims : List Nat), (uniqueSorted dims).Pairwise (· < ·)
  | [] => List.Pairwise.nil
  | _ :: ds => insertSorted_sorted (uniqueSorted_sorted ds)

theorem mem_uniqueSorted {x : Nat} : ∀ {dims : List Nat}, x ∈ uniqueSorted dims ↔ x ∈ dims
  | [] => Iff.rfl
  | d :: ds => by
    rw [uniqueSorted, List.foldr_cons, mem_insertSorted, List.mem_cons]
    exact or_congr Iff.rfl (mem_uniqueSorted (dims := ds))

theorem uniqueSorted_nodup (dims : List Nat) : (uniqueSorted dims).Nodup :=
  (uniqueSorted_sorted dims).imp (fun h => Nat.ne_of_lt h)

theorem listAddSample_eq_some {inputDim : Nat} {stores out : List (List (Vec × Rat))} {X : List Vec}
    {Y : List Rat} {dims : List Nat} (h : listAddSample inputDim stores X Y dims = some out) :
    out = (uniqueSorted dims).foldl
      (fun st d => st.modify d
        (· ++ (((X.zip Y).zip dims).filter (fun r => r.2 == d)).map
          (fun r => (r.1.1.take inputDim, r.1.2))))
      stores := by
  rw [listAddSample] at h
  split at h
  · cases h
  · split at h
    · cases h
    · exact (Option.some.inj h).symm

/-! ## one evaluate-everything step -/

theorem filter_zip_map_of_nodup {β : Type} (f : Nat → β) (i : Nat) {A : List Nat} (h : A.Nodup) :
    ((A.zip (A.map f)).filter (fun r => r.1 == i)).map (·.2) = if i ∈ A then [f i] else [] := by
  rw [← List.map_prod_left_eq_zip, List.filter_map, List.map_map]
  show ((A.filter (· == i)).map f) = _
  rw [filter_beq_of_nodup h]
  split <;> rfl

/-- result of one evaluate-everything step, design by design -/
theorem evaluateAllStep_spec {S U : List Nat} (hS : S.Nodup) (hU : U.Nodup) (observe : Nat → Vec)
    (samples out : List (List Vec)) (h : evaluateAllStep S U observe samples = some out) (i : Nat) :
    out[i]? = samples[i]?.map (fun s => if i ∈ S ∨ i ∈ U then s ++ [observe i] else s) := by
  rw [empAddSample_eq_some h, foldl_modify_append Prod.fst (fun r => [r.2]), ← List.map_eq_flatMap,
    filter_zip_map_of_nodup observe i (evaluateAll_nodup hS hU)]
  congr 1
  funext s
  by_cases hi : i ∈ evaluateAll S U
  · rw [if_pos hi, if_pos (mem_evaluateAll.mp hi)]
  · rw [if_neg hi, if_neg (fun hm => hi (mem_evaluateAll.mpr hm)), List.append_nil]

theorem zip3_map {α β γ δ : Type} (l : List α) (f : α → β) (g : α → γ) (k : α → δ) :
    ((l.map f).zip (l.map g)).zip (l.map k) = l.map (fun x => ((f x, g x), k x)) := by
  rw [List.zip_map', List.zip_map']

end VOPy.Acq
