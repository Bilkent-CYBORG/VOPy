import VOPyVerif.Proofs.InvBasic
import VOPyVerif.Proofs.RegionUpdate
/-!
# Confidence-region updates commute with translation (`Model/RegionUpdate.lean`)

`hyperrectangle_check_intersection`, `intersect`, the bounds `mean ∓ std·scale`,
`RectangularConfidenceRegion.update`, `EllipsoidalConfidenceRegion.update` and the design-space
loop all commute with a common translation of the objective space (old regions and predicted means
moved by one vector `t`).  Helpers for the invariance section of `Props/C14.lean`.
-/
set_option linter.dupNamespace false

namespace VOPy.Region
open VOPy VOPy.Inv

/-- the rectangle moved by `t` -/
def Rect.translate (r : Rect) (t : Vec) : Rect :=
  { r with lower := vadd r.lower t, upper := vadd r.upper t }

/-- the ellipsoid moved by `t` -/
def Ell.translate (e : Ell) (t : Vec) : Ell := { e with center := vadd e.center t }

def Region.translate : Region → Vec → Region
  | .rect r, t => .rect (r.translate t)
  | .ell e, t => .ell (e.translate t)

/-- the prediction with its mean moved by `t` -/
def Pred.translate (p : Pred) (t : Vec) : Pred := { p with mean := vadd p.mean t }

/-! ## componentwise comparisons, `max`, `min` -/

theorem checkIntersectionSlack_translate (τ : ℚ) (l1 u1 l2 u2 t : Vec)
    (h1 : l1.length = t.length) (h2 : u1.length = t.length) (h3 : l2.length = t.length)
    (h4 : u2.length = t.length) :
    checkIntersectionSlack τ (vadd l1 t) (vadd u1 t) (vadd l2 t) (vadd u2 t) =
      checkIntersectionSlack τ l1 u1 l2 u2 := by
  unfold checkIntersectionSlack
  rw [zipWith_rel_vadd (fun a b => decide (b ≤ a + τ))
      (fun a b c => decide_eq_decide.2 (by rw [add_right_comm, add_le_add_iff_right])) t l1 u2 h1 h4,
    zipWith_rel_vadd (fun a b => decide (a ≤ b + τ))
      (fun a b c => decide_eq_decide.2 (by rw [add_right_comm, add_le_add_iff_right])) t u1 l2 h2 h3]

theorem checkIntersection_translate (l1 u1 l2 u2 t : Vec)
    (h1 : l1.length = t.length) (h2 : u1.length = t.length) (h3 : l2.length = t.length)
    (h4 : u2.length = t.length) :
    checkIntersection (vadd l1 t) (vadd u1 t) (vadd l2 t) (vadd u2 t) = checkIntersection l1 u1 l2 u2 := by
  unfold checkIntersection
  rw [zipWith_rel_vadd (fun a b => decide (b ≤ a)) (fun a b c => decide_eq_decide.2 (add_le_add_iff_right c))
      t l1 u2 h1 h4,
    zipWith_rel_vadd (fun a b => decide (a ≤ b)) (fun a b c => decide_eq_decide.2 (add_le_add_iff_right c))
      t u1 l2 h2 h3]

theorem intersect_translate (r : Rect) (l u t : Vec)
    (h1 : r.lower.length = t.length) (h2 : r.upper.length = t.length) (h3 : l.length = t.length)
    (h4 : u.length = t.length) :
    (r.translate t).intersect (vadd l t) (vadd u t) = (r.intersect l u).translate t := by
  unfold Rect.intersect Rect.translate
  simp only
  rw [checkIntersection_translate r.lower r.upper l u t h1 h2 h3 h4]
  split
  · rw [zipWith_op_vadd max (fun a b c => by rw [max_add_add_right]) t r.lower l h1 h3,
      zipWith_op_vadd min (fun a b c => by rw [min_add_add_right]) t r.upper u h2 h4]
  · rfl

/-! ## bounds and `update` -/

theorem zipWith_vadd_left (f : ℚ → ℚ → ℚ) (hf : ∀ p q r, f (p + r) q = f p q + r) : ∀ (a x t : Vec),
    List.zipWith f (vadd a t) x = vadd (List.zipWith f a x) t
  | [], _, _ => by simp [vadd]
  | _ :: _, _, [] => by simp [vadd]
  | _ :: _, [], _ :: _ => by simp [vadd]
  | a0 :: a, x0 :: x, t0 :: t => by
    have := zipWith_vadd_left f hf a x t
    simp only [vadd, List.zipWith_cons_cons, List.cons.injEq] at this ⊢
    exact ⟨hf a0 x0 t0, this⟩

theorem bounds_translate (mean std scale t : Vec) (hm : mean.length = t.length) :
    bounds (vadd mean t) std scale =
      (bounds mean std scale).map (fun LU => (vadd LU.1 t, vadd LU.2 t)) := by
  unfold bounds
  cases bcast std.length scale with
  | none => rfl
  | some s =>
    simp only [length_vadd _ _ hm]
    split
    · simp only [Option.map_some, Option.some.injEq, Prod.mk.injEq]
      exact ⟨zipWith_vadd_left _ (fun p q r => add_sub_right_comm p r q) _ _ _,
        zipWith_vadd_left _ (fun p q r => add_right_comm p r q) _ _ _⟩
    · rfl

theorem bounds_length {mean std scale L U : Vec} (h : bounds mean std scale = some (L, U)) :
    L.length = mean.length ∧ U.length = mean.length := by
  obtain ⟨_, _, hl, _, _⟩ := bounds_spec h
  obtain ⟨hL, hU, _⟩ := bounds_entry h
  exact ⟨hL.trans hl.symm, hU.trans hl.symm⟩

theorem rect_update_translate (r : Rect) (p : Pred) (scale t : Vec)
    (h1 : r.lower.length = t.length) (h2 : r.upper.length = t.length) (hm : p.mean.length = t.length) :
    (r.translate t).update (p.translate t) scale = (r.update p scale).map (fun r' => r'.translate t) := by
  unfold Rect.update Pred.translate
  simp only
  split
  · rfl
  · rw [bounds_translate p.mean p.std scale t hm]
    cases hb : bounds p.mean p.std scale with
    | none => rfl
    | some LU =>
      obtain ⟨L, U⟩ := LU
      obtain ⟨hL, hU⟩ := bounds_length hb
      simp only [Option.map_some, Except.map]
      by_cases hi : r.iter
      · have : (r.translate t).iter = true := by simp [Rect.translate, hi]
        simp only [hi, this, if_true]
        rw [intersect_translate r L U t h1 h2 (hL.trans hm) (hU.trans hm)]
      · have : (r.translate t).iter = false := by simp [Rect.translate, hi]
        simp only [hi, this, Bool.false_eq_true, if_false]
        rfl

theorem ell_update_translate (e : Ell) (p : Pred) (scale t : Vec) :
    (e.translate t).update (p.translate t) scale = (e.update p scale).map (fun e' => e'.translate t) := by
  unfold Ell.update Pred.translate
  simp only
  split
  · rfl
  · split <;> rfl

/-- a region of dimension `m` (rectangles only: an ellipsoid's centre is overwritten by `update`) -/
def Region.dim (m : Nat) : Region → Prop
  | .rect r => r.lower.length = m ∧ r.upper.length = m
  | .ell _ => True

theorem region_update_translate (R : Region) (p : Pred) (scale t : Vec) (hR : R.dim t.length)
    (hm : p.mean.length = t.length) :
    (R.translate t).update (p.translate t) scale = (R.update p scale).map (fun R' => R'.translate t) := by
  cases R with
  | rect r =>
    simp only [Region.translate, Region.update]
    rw [rect_update_translate r p scale t hR.1 hR.2 hm]
    cases r.update p scale <;> rfl
  | ell e =>
    simp only [Region.translate, Region.update]
    rw [ell_update_translate e p scale t]
    cases e.update p scale <;> rfl

theorem region_update_dim {R R' : Region} {p : Pred} {scale : Vec} {m : Nat} (hR : R.dim m)
    (hm : p.mean.length = m) (h : R.update p scale = .ok R') : R'.dim m := by
  cases R with
  | ell e =>
    obtain ⟨e', _, rfl⟩ := except_map_eq_ok.1 h
    trivial
  | rect r =>
    obtain ⟨r', hr, rfl⟩ := except_map_eq_ok.1 h
    obtain ⟨_, L, U, hb, rfl⟩ := rect_update_eq_ok.1 hr
    obtain ⟨hL, hU⟩ := bounds_length hb
    have hLU : L.length = m ∧ U.length = m := ⟨hL.trans hm, hU.trans hm⟩
    split
    · unfold Rect.intersect
      split
      · exact ⟨by rw [List.length_zipWith, hR.1, hLU.1, Nat.min_self],
          by rw [List.length_zipWith, hR.2, hLU.2, Nat.min_self]⟩
      · exact hLU
    · exact hLU

/-- the design-space loop commutes with translation -/
theorem updLoop_translate (t : Vec) (T : List (Nat × Pred × Vec)) : ∀ regs : List Region,
    (∀ R ∈ regs, R.dim t.length) → (∀ x ∈ T, x.2.1.mean.length = t.length) →
    updLoop (regs.map (·.translate t)) (T.map fun x => (x.1, x.2.1.translate t, x.2.2)) =
      ((updLoop regs T).1.map (·.translate t), (updLoop regs T).2) := by
  induction T with
  | nil => intro regs _ _; rfl
  | cons x rest ih =>
    intro regs hregs hT
    obtain ⟨i, p, s⟩ := x
    simp only [List.map_cons, updLoop, List.getElem?_map]
    cases hi : regs[i]? with
    | none => rfl
    | some R =>
      have hR := hregs R (List.mem_of_getElem? hi)
      have hp := hT (i, p, s) List.mem_cons_self
      simp only [Option.map_some]
      rw [region_update_translate R p s t hR hp]
      cases hu : R.update p s with
      | error e => rfl
      | ok R' =>
        simp only [Except.map]
        rw [← List.map_set]
        apply ih (regs.set i R')
        · intro Q hQ
          rcases List.mem_or_eq_of_mem_set hQ with h | h
          · exact hregs Q h
          · rw [h]; exact region_update_dim hR hp hu
        · intro x hx; exact hT x (List.mem_cons_of_mem _ hx)

theorem lookupAll_map (f : Pred → Pred) (table : List Pred) (idx : List Nat) :
    lookupAll (table.map f) idx = (lookupAll table idx).map (List.map f) := by
  rw [lookupAll_eq_mapM, lookupAll_eq_mapM]
  exact (List.map_id idx ▸ mapM_option_map_comm (f := (table[·]?)) id f fun a _ => List.getElem?_map :)

end VOPy.Region
