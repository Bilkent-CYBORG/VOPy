import VOPyVerif.Proofs.Acq
/-! C07: the decidable relation `discSpecOk` that the harness evaluates on the *implementation's*
output, its Prop-level reading `DiscSpec`, and the facts that make it the specification:
every output accepted by it has the top-`q` value list (soundness), the model's own output is
accepted (the model refines the specification), and tie-free inputs determine the batch completely
(the correspondence harness compares positions with the model exactly on such inputs). -/
namespace VOPy.Acq

/-- Prop-level reading of `discSpecOk` -/
structure DiscSpec (vals : List Rat) (q : Nat) (picks : List (Nat × Rat)) : Prop where
  len : picks.length = q
  cell : ∀ p ∈ picks, vals[p.1]? = some p.2
  step : ∀ k (hk : k < picks.length),
    picks[k].1 ∉ (picks.take k).map (·.1) ∧
    ∀ i v, vals[i]? = some v → i ∉ (picks.take k).map (·.1) → v ≤ picks[k].2

theorem discSpecOk_iff (vals : List Rat) (q : Nat) (picks : List (Nat × Rat)) :
    discSpecOk vals q picks = true ↔ DiscSpec vals q picks := by
  -- with `k < picks.length` at hand the `match` on `picks[k]?` is read off by `simp`
  simp +contextual only [discSpecOk, Bool.and_eq_true, beq_iff_eq, List.all_eq_true,
    decide_eq_true_eq, List.mem_range, List.getElem?_eq_getElem, Bool.not_eq_eq_eq_not,
    Bool.not_true, List.contains_eq_mem, decide_eq_false_iff_not, Bool.or_eq_true]
  constructor
  · rintro ⟨⟨h1, h2⟩, h3⟩
    refine ⟨h1, fun p hp => (h2 p hp).2, fun k hk => ⟨(h3 k hk).1, fun i v hi hnot => ?_⟩⟩
    obtain ⟨hil, rfl⟩ := List.getElem?_eq_some_iff.mp hi
    exact ((h3 k hk).2 i hil).resolve_left hnot
  · intro h
    refine ⟨⟨h.len, fun p hp => ⟨(List.getElem?_eq_some_iff.mp (h.cell p hp)).1, h.cell p hp⟩⟩,
      fun k hk => ⟨(h.step k hk).1, fun i hil => ?_⟩⟩
    exact or_iff_not_imp_left.mpr ((h.step k hk).2 i vals[i] (List.getElem?_eq_getElem hil))

/-- the model's output satisfies the relation checked on the implementation -/
theorem optimizeDiscrete_discSpec (vals : List Rat) (q : Nat) :
    DiscSpec vals (min q vals.length) (optimizeDiscrete vals q) := by
  refine ⟨optimizeDiscrete_length vals q, fun p hp => optimizeDiscrete_mem hp, fun k hk => ⟨?_, ?_⟩⟩
  · have h := (nodup_iff_not_mem_take _).mp (optimizeDiscrete_pos_nodup vals q) k
      (by rw [List.length_map]; exact hk)
    rwa [List.getElem_map, ← List.map_take] at h
  · intro i v hi hnot
    exact (pickLoop_first q (indexed_pairwise vals) k hk (i, v)
      (mem_indexed.mpr hi) hnot).1

theorem DiscSpec.pos_nodup {vals : List Rat} {q : Nat} {picks : List (Nat × Rat)}
    (h : DiscSpec vals q picks) : (picks.map (·.1)).Nodup :=
  (nodup_iff_not_mem_take _).mpr fun k hk => by
    rw [List.getElem_map, ← List.map_take]
    exact (h.step k (by rwa [List.length_map] at hk)).1

/-- **Soundness of the relation.**  Any output accepted by `DiscSpec` (whatever tie-breaking
produced it) lists, in order, the first `q` entries of the descending sort of the values. -/
theorem DiscSpec.values {vals : List Rat} {q : Nat} {picks : List (Nat × Rat)}
    (h : DiscSpec vals q picks) : picks.map (·.2) = (sortDesc vals).take q := by
  obtain ⟨rest, hperm, hrest⟩ := exists_perm_append_of_nodup_keys (·.1)
    (fun p hp => mem_indexed.mpr (h.cell p hp)) h.pos_nodup (indexed_pos_nodup vals)
  have hpw : picks.Pairwise (fun a b => b.2 ≤ a.2) := by
    rw [List.pairwise_iff_getElem]
    intro i j hi hj hij
    -- pick `j` is not among the first `j` picks, the more so not among the first `i`
    exact (h.step i hi).2 _ _ (h.cell _ (List.getElem_mem hj)) fun hm =>
      (h.step j hj).1 (List.map_subset _ (List.take_subset_take_left picks hij.le) hm)
  have hdom : ∀ a ∈ picks, ∀ b ∈ rest, b.2 ≤ a.2 := by
    intro a ha b hb
    obtain ⟨k, hk, rfl⟩ := List.getElem_of_mem ha
    exact (h.step k hk).2 b.1 b.2 (mem_indexed.mp (hperm.subset (List.mem_append_right _ hb)))
      fun hm => hrest b hb (List.map_subset _ (List.take_subset k picks) hm)
  have hv := map_eq_take_sortDesc (fun p : Nat × Rat => p.2) hperm hpw hdom
  rwa [indexed_map_snd, h.len] at hv

/-- **Tie-free value lists determine the batch**: with pairwise distinct values, every batch
accepted by `DiscSpec` is the model's batch, positions included. -/
theorem DiscSpec.eq_model {vals : List Rat} {q : Nat} {picks : List (Nat × Rat)}
    (hv : vals.Nodup) (h : DiscSpec vals q picks) : picks = optimizeDiscrete vals q := by
  have hl : ((indexed vals).map (·.2)).Nodup := by rw [indexed_map_snd]; exact hv
  refine eq_of_map_eq_of_inj (·.2) hl (fun p hp => mem_indexed.mpr (h.cell p hp))
    (fun p hp => mem_indexed.mpr (optimizeDiscrete_mem hp)) ?_
  rw [h.values, optimizeDiscrete_values]

end VOPy.Acq
