import VOPyVerif.Proofs.ConeVec
/-!
# Helper lemmas for C12: the 2-D θ-cone (`get2dW`) at `ℝ`

For `θ ≠ 90°` the rows `get2dW θ` builds normalise to the closed form `get2dWClosed θ`: the inward unit normals of
the rays at the angles `π/4 ∓ θ/2`.  In the diagonal frame `u = (x₁+x₂)/√2`, `v = (x₂−x₁)/√2` the two facet values of
the closed form are `sin h · u ± cos h · v`, and the wedge between the rays is the circular cone `cos h · ‖(u, v)‖ ≤ u`
about the diagonal.  Its polar reading: on `r (cos φ, sin φ)` the circular-cone test is `cos h ≤ cos (φ − π/4)`
(`polar_circular`), i.e. `|φ − π/4| ≤ h` (`cos_le_cos_iff_abs_le`).
-/
namespace VOPy.ConeFormulas
open VOPy VOPy.ConeOrd Real

/-- the branch test of `get_2d_w` at `ℝ` -/
noncomputable instance : LeB ℝ := ⟨fun a b => decide (a ≤ b)⟩

@[simp] theorem leb_real (a b : ℝ) : LeB.leb a b = decide (a ≤ b) := rfl

/-! ### the half-angle -/

theorem degToRad_real (d : ℝ) : degToRad d = d / 180 * π := by
  simp [degToRad]

theorem half_angle_lt {a b : ℝ} (h : a < b) : a / 180 * π / 2 < b / 180 * π / 2 :=
  div_lt_div_of_pos_right (mul_lt_mul_of_pos_right (div_lt_div_of_pos_right h (by norm_num)) Real.pi_pos) two_pos

theorem half_angle_range {θdeg : ℝ} (h0 : 0 < θdeg) (h180 : θdeg < 180) :
    0 < θdeg / 180 * π / 2 ∧ θdeg / 180 * π / 2 < π / 2 :=
  ⟨lt_of_eq_of_lt (by ring) (half_angle_lt h0), (half_angle_lt h180).trans_eq (by ring)⟩

theorem half_angle_sin_cos_pos {θdeg : ℝ} (h0 : 0 < θdeg) (h180 : θdeg < 180) :
    0 < sin (θdeg / 180 * π / 2) ∧ 0 < cos (θdeg / 180 * π / 2) := by
  obtain ⟨hh0, hh2⟩ := half_angle_range h0 h180
  exact ⟨Real.sin_pos_of_pos_of_lt_pi hh0 (hh2.trans (half_lt_self Real.pi_pos)),
    Real.cos_pos_of_mem_Ioo ⟨(neg_lt_zero.mpr (half_pos Real.pi_pos)).trans hh0, hh2⟩⟩

/-! ### the rows of `get2dW` normalise to the closed form -/

theorem rdot_row1_self (a : ℝ) : rdot [-(sin a), cos a] [-(sin a), cos a] = 1 := by
  simp only [rdot_cons, rdot_nil_left]; linear_combination Real.sin_sq_add_cos_sq a

theorem rdot_row2_self (b : ℝ) : rdot [sin b, -(cos b)] [sin b, -(cos b)] = 1 := by
  simp only [rdot_cons, rdot_nil_left]; linear_combination Real.sin_sq_add_cos_sq b

/-- the entries are given by equations so that a caller proves them by `ring` -/
theorem rnormalize_pair {a b k s c : ℝ} (hk : 0 < k) (ha : a = k * s) (hb : b = k * c)
    (h : rdot [s, c] [s, c] = 1) : rnormalize [a, b] = [s, c] := by
  rw [ha, hb]
  exact rnormalize_rscale hk h

/-- the three rows `get_2d_w` builds, normalised: each is a unit normal times `1 / |cos|` of its angle -/
theorem normalize_row1 {h : ℝ} (h0 : 0 < h) (h2 : h < π / 2) :
    rnormalize [-(tan (π / 4 - h)), (1 : ℝ)] = [-(sin (π / 4 - h)), cos (π / 4 - h)] := by
  have hc : 0 < cos (π / 4 - h) := Real.cos_pos_of_mem_Ioo ⟨by linarith, by linarith⟩
  exact rnormalize_pair (inv_pos.mpr hc) (by rw [Real.tan_eq_sin_div_cos]; ring)
    (inv_mul_cancel₀ hc.ne').symm (rdot_row1_self _)

theorem normalize_row2_le {h : ℝ} (h0 : 0 < h) (h4 : h < π / 4) :
    rnormalize [tan (π / 4 + h), -(1 : ℝ)] = [sin (π / 4 + h), -(cos (π / 4 + h))] := by
  have hc : 0 < cos (π / 4 + h) := Real.cos_pos_of_mem_Ioo ⟨by linarith, by linarith⟩
  exact rnormalize_pair (inv_pos.mpr hc) (by rw [Real.tan_eq_sin_div_cos]; ring)
    (by rw [mul_neg, inv_mul_cancel₀ hc.ne']) (rdot_row2_self _)

theorem normalize_row2_gt {h : ℝ} (h4 : π / 4 < h) (h2 : h < π / 2) :
    rnormalize [-(tan (π / 4 + h)), (1 : ℝ)] = [sin (π / 4 + h), -(cos (π / 4 + h))] := by
  have hc : cos (π / 4 + h) < 0 := Real.cos_neg_of_pi_div_two_lt_of_lt (by linarith) (by linarith)
  exact rnormalize_pair (inv_pos.mpr (neg_pos.mpr hc)) (by rw [Real.tan_eq_sin_div_cos]; ring)
    (inv_mul_cancel₀ (neg_ne_zero.mpr hc.ne)).symm (rdot_row2_self _)

/-- **Closed form of `get_2d_w` at `ℝ`, both branches**: for `0 < θdeg < 180`, `θdeg ≠ 90`, the rows are
`(-sin α, cos α)` and `(sin β, -cos β)` with `α = π/4 − θ/2`, `β = π/4 + θ/2` — the inward unit normals of the
rays at angles `α` and `β`. -/
theorem get2dW_closed (θdeg : ℝ) (h0 : 0 < θdeg) (h180 : θdeg < 180) (h90 : θdeg ≠ 90) :
    get2dW θdeg =
      [[-(sin (π / 4 - (θdeg / 180 * π) / 2)), cos (π / 4 - (θdeg / 180 * π) / 2)],
       [sin (π / 4 + (θdeg / 180 * π) / 2), -(cos (π / 4 + (θdeg / 180 * π) / 2))]] := by
  obtain ⟨hh0, hh2⟩ := half_angle_range h0 h180
  simp only [get2dW, degToRad_real, RealLike.tan_real, RealLike.pi_real, RealLike.ofNat_real, leb_real,
    Nat.cast_ofNat, Nat.cast_one, normalize_row1 hh0 hh2]
  by_cases hle : θdeg ≤ 90
  · rw [decide_eq_true hle, if_pos rfl,
      normalize_row2_le hh0 ((half_angle_lt (lt_of_le_of_ne hle h90)).trans_eq (by ring))]
  · rw [decide_eq_false hle, if_neg Bool.false_ne_true,
      normalize_row2_gt (lt_of_eq_of_lt (by ring) (half_angle_lt (lt_of_not_ge hle))) hh2]

theorem get2dWClosed_real (θdeg : ℝ) : get2dWClosed θdeg =
    [[-(sin (π / 4 - (θdeg / 180 * π) / 2)), cos (π / 4 - (θdeg / 180 * π) / 2)],
     [sin (π / 4 + (θdeg / 180 * π) / 2), -(cos (π / 4 + (θdeg / 180 * π) / 2))]] := by
  simp only [get2dWClosed, degToRad_real, RealLike.sin_real, RealLike.cos_real, RealLike.pi_real,
    RealLike.ofNat_real, Nat.cast_ofNat]

/-! ### polar reading of the circular cone about the diagonal -/

/-- on `[-π, π]` the directions within `h` of `0` are those with `cos h ≤ cos ψ` -/
theorem cos_le_cos_iff_abs_le {h ψ : ℝ} (hψ : |ψ| ≤ π) (h0 : 0 ≤ h) (hπ : h ≤ π) : cos h ≤ cos ψ ↔ |ψ| ≤ h := by
  rw [← Real.cos_abs ψ]
  exact Real.strictAntiOn_cos.le_iff_ge ⟨h0, hπ⟩ ⟨abs_nonneg ψ, hψ⟩

/-- the circular-cone test `c‖x‖ ≤ x·(1,1)/√2` on `x = r (cos φ, sin φ)` -/
theorem polar_circular (c r φ : ℝ) (hr : 0 < r) :
    c * √(r * cos φ * (r * cos φ) + r * sin φ * (r * sin φ)) ≤ (r * cos φ + r * sin φ) / √2 ↔
      c ≤ cos (φ - π / 4) := by
  rw [show r * cos φ * (r * cos φ) + r * sin φ * (r * sin φ) = r ^ 2 by
      linear_combination r ^ 2 * Real.cos_sq_add_sin_sq φ,
    Real.sqrt_sq hr.le, div_eq_mul_one_div, one_div_sqrt2,
    show (r * cos φ + r * sin φ) * (√2 / 2) = cos (φ - π / 4) * r by
      rw [Real.cos_sub, Real.cos_pi_div_four, Real.sin_pi_div_four]; ring,
    mul_le_mul_iff_of_pos_right hr]

/-! ### the closed form in the diagonal frame `u = (x₁+x₂)/√2`, `v = (x₂−x₁)/√2` -/

theorem facet1_vec (h x1 x2 : ℝ) :
    gdot [-(sin (π / 4 - h)), cos (π / 4 - h)] [x1, x2]
      = cos h * (√2 / 2 * (x2 - x1)) + sin h * (√2 / 2 * (x1 + x2)) := by
  simp only [gdot_cons, gdot_nil_left, Real.sin_sub, Real.cos_sub, Real.sin_pi_div_four, Real.cos_pi_div_four]
  ring

theorem facet2_vec (h x1 x2 : ℝ) :
    gdot [sin (π / 4 + h), -(cos (π / 4 + h))] [x1, x2]
      = -(cos h * (√2 / 2 * (x2 - x1))) + sin h * (√2 / 2 * (x1 + x2)) := by
  simp only [gdot_cons, gdot_nil_left, Real.sin_add, Real.cos_add, Real.sin_pi_div_four, Real.cos_pi_div_four]
  ring

theorem diag_frame_norm (x1 x2 : ℝ) :
    (√2 / 2 * (x1 + x2)) ^ 2 + (√2 / 2 * (x2 - x1)) ^ 2 = x1 * x1 + x2 * x2 := by
  linear_combination ((x1 ^ 2 + x2 ^ 2) / 2) * sqrt2_mul_self

/-- wedge `{ch·|v| ≤ sh·u}` = circular cone `{ch·‖(u,v)‖ ≤ u}` for `ch, sh > 0`, `ch² + sh² = 1`: both sides say
`0 ≤ u` and `(ch·v)² ≤ (sh·u)²` -/
theorem wedge_iff_norm_le (ch sh u v : ℝ) (hc : 0 < ch) (hs : 0 < sh) (h1 : ch ^ 2 + sh ^ 2 = 1) :
    (0 ≤ ch * v + sh * u ∧ 0 ≤ -(ch * v) + sh * u) ↔ ch * √(u ^ 2 + v ^ 2) ≤ u := by
  have e : ch * √(u ^ 2 + v ^ 2) = √(ch ^ 2 * (u ^ 2 + v ^ 2)) := by
    rw [Real.sqrt_mul (sq_nonneg ch), Real.sqrt_sq hc.le]
  have k : (sh * u) ^ 2 - (ch * v) ^ 2 = u ^ 2 - ch ^ 2 * (u ^ 2 + v ^ 2) := by linear_combination u ^ 2 * h1
  rw [e, Real.sqrt_le_iff, ← sub_nonneg (a := u ^ 2), ← k, sub_nonneg]
  constructor
  · rintro ⟨a, b⟩
    exact ⟨nonneg_of_mul_nonneg_right (by linarith only [a, b] : 0 ≤ sh * u) hs,
      sq_le_sq' (by linarith only [a]) (by linarith only [b])⟩
  · rintro ⟨hu, h⟩
    obtain ⟨a, b⟩ := abs_le_of_sq_le_sq' h (mul_nonneg hs.le hu)
    exact ⟨by linarith only [a], by linarith only [b]⟩

end VOPy.ConeFormulas
