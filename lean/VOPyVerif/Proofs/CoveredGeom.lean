import VOPyVerif.Proofs.Covered
import Mathlib.Data.List.Forall2
/-!
# Geometry behind "is covered": box reduction, monotonicity, Cauchy–Schwarz, balls, ellipsoids

* `cov_box_iff`        — `Cov (box₁) (box₂) W s t ↔ ∃ d ∈ [l₂−u₁, u₂−l₁], W (d − s) ≥ t`;
* `cov_mono_margin`, `cov_mono_shift` — monotonicity in the per-facet margin and (cone order) in
                          the objective-space shift: what the borderline band rests on;
* `rdot_sq_le`         — Cauchy–Schwarz for real list vectors;
* `cov_ball_iff`       — balls: `Cov ↔ ∃ d, ‖d − (c₂−c₁)‖² ≤ (a₁+a₂)² ∧ W d ≥ t`;
* `ballVerdict_sound` — soundness of the KKT-certified ball verdicts (totality:
                          `Proofs/CoveredComplete.lean`);
* `checkEllWitness_sound`, `checkEllSep_sound` — the two certificate checkers for general
                          ellipsoids `{c + L u | ‖u‖ ≤ a}`.
-/
namespace VOPy.Covered
open VOPy.LinCert

/-! ### box reduction -/

theorem interval_split (l1 u1 l2 u2 d : ℝ) (h1 : l1 ≤ u1) (h2 : l2 ≤ u2)
    (hd1 : l2 - u1 ≤ d) (hd2 : d ≤ u2 - l1) :
    ∃ z z', l1 ≤ z ∧ z ≤ u1 ∧ l2 ≤ z' ∧ z' ≤ u2 ∧ z' - z = d := by
  rcases le_total (u1 + d) u2 with h | h
  · exact ⟨u1, u1 + d, h1, le_refl _, by linarith only [hd1], h, add_sub_cancel_left _ _⟩
  · exact ⟨u2 - d, u2, by linarith only [hd2], by linarith only [h], h2, le_refl _, sub_sub_cancel _ _⟩

theorem box_diff_split (l1 u1 l2 u2 : Vec) (d : RVec)
    (h1 : List.Forall₂ (· ≤ ·) l1 u1) (h2 : List.Forall₂ (· ≤ ·) l2 u2) (hl : l2.length = l1.length)
    (h : InBox (vsub l2 u1) (vsub u2 l1) d) :
    ∃ z z', InBox l1 u1 z ∧ InBox l2 u2 z' ∧ rsub z' z = d := by
  induction h1 generalizing l2 u2 d with
  | nil =>
    obtain rfl := List.length_eq_zero_iff.1 hl
    cases h2
    cases d with
    | nil => exact ⟨[], [], trivial, trivial, rfl⟩
    | cons _ _ => exact h.elim
  | @cons a b l1 u1 hab _ ih =>
    cases h2 with
    | nil => cases hl
    | @cons a' b' l2 u2 hab' h2 =>
      cases d with
      | nil => exact h.elim
      | cons d ds =>
        obtain ⟨zs, zs', hz, hz', hd⟩ := ih l2 u2 ds h2 (Nat.succ.inj hl) h.2.2
        obtain ⟨z, z', g1, g2, g3, g4, g5⟩ := interval_split (a : ℝ) b a' b' d
          (by exact_mod_cast hab) (by exact_mod_cast hab')
          (by have := h.1; push_cast at this; exact this)
          (by have := h.2.1; push_cast at this; exact this)
        exact ⟨z :: zs, z' :: zs', ⟨g1, g2, hz⟩, ⟨g3, g4, hz'⟩, by rw [← g5, ← hd]; rfl⟩

theorem box_diff_mem (l1 u1 l2 u2 : Vec) (z z' : RVec) (h1 : InBox l1 u1 z) (h2 : InBox l2 u2 z')
    (hl : l2.length = l1.length) : InBox (vsub l2 u1) (vsub u2 l1) (rsub z' z) := by
  rw [inBox_iff_getD] at h1 h2 ⊢
  obtain ⟨hz, hu1, h1⟩ := h1
  obtain ⟨hz', hu2, h2⟩ := h2
  refine ⟨by rw [rsub_length, vsub_length, hz, hz', hu1, hl], by
    rw [vsub_length, vsub_length, hu1, hu2, hl], fun i hi => ?_⟩
  rw [vsub_length, hu1, hl, Nat.min_self] at hi
  have hi' : i < l2.length := hl ▸ hi
  rw [getD_vsub _ _ _ hi' (hu1 ▸ hi), getD_vsub _ _ _ (hu2 ▸ hi') hi,
    getD_rsub _ _ _ (hz' ▸ hi') (hz ▸ hi)]
  push_cast
  exact ⟨by linarith only [(h1 i hi).2, (h2 i hi').1], by linarith only [(h1 i hi).1, (h2 i hi').2]⟩


/-- **Box reduction**: for non-empty boxes of equal dimension,
`∃ z ∈ [l₁,u₁], z' ∈ [l₂,u₂] : W (z' − z − s) ≥ t  ↔  ∃ d ∈ [l₂ − u₁, u₂ − l₁] : W (d − s) ≥ t`. -/
theorem cov_box_iff (W : Mat) (l1 u1 l2 u2 s t : Vec)
    (h1 : List.Forall₂ (· ≤ ·) l1 u1) (h2 : List.Forall₂ (· ≤ ·) l2 u2)
    (hl : l2.length = l1.length) :
    Cov (box l1 u1) (box l2 u2) W s t ↔
      ∃ d ∈ box (vsub l2 u1) (vsub u2 l1), FacetGe W (rsub d (castV s)) t := by
  constructor
  · rintro ⟨z, hz, z', hz', hc⟩
    exact ⟨rsub z' z, box_diff_mem l1 u1 l2 u2 z z' hz hz' hl, hc⟩
  · rintro ⟨d, hd, hc⟩
    obtain ⟨z, z', hz, hz', rfl⟩ := box_diff_split l1 u1 l2 u2 d h1 h2 hl hd
    exact ⟨z, hz, z', hz', hc⟩

/-! ### margins and shifts -/

theorem FacetGe.mono (W : Mat) (d : RVec) (t t' : Vec) (h : List.Forall₂ (· ≤ ·) t' t)
    (hf : FacetGe W d t) : FacetGe W d t' := by
  induction h generalizing W with
  | nil => exact hf
  | @cons τ' τ t' t hτ _ ih => cases W with
    | nil => exact hf.elim
    | cons w W => exact ⟨le_trans (by exact_mod_cast hτ) hf.1, ih W hf.2⟩

theorem forall₂_replicate_le (n : ℕ) (a b : ℚ) (h : a ≤ b) :
    List.Forall₂ (· ≤ ·) (List.replicate n a) (List.replicate n b) := by
  induction n with
  | zero => simp
  | succ n ih => simp [List.replicate_succ, h, ih]

theorem forall₂_map_add_le (t : Vec) (a b : ℚ) (h : a ≤ b) :
    List.Forall₂ (· ≤ ·) (t.map (· + a)) (t.map (· + b)) := by
  induction t with
  | nil => simp
  | cons x t ih => simp [ih, h]

theorem cov_mono_margin (R₁ R₂ : Set RVec) (W : Mat) (s t t' : Vec)
    (h : List.Forall₂ (· ≤ ·) t' t) : Cov R₁ R₂ W s t → Cov R₁ R₂ W s t' := by
  rintro ⟨z, hz, z', hz', hc⟩
  exact ⟨z, hz, z', hz', FacetGe.mono W _ t t' h hc⟩

theorem facetGe_zeros_iff (d : RVec) (W : Mat) :
    FacetGe W d (zeros W.length) ↔ ∀ w ∈ W, 0 ≤ rdot (castV w) d := by
  induction W with
  | nil => exact ⟨fun _ => nofun, fun _ => trivial⟩
  | cons w W ih =>
    rw [List.length_cons, zeros_succ, List.forall_mem_cons, ← ih]
    simp only [FacetGe, Rat.cast_zero]

theorem FacetGe.shift (m : ℕ) (D : RVec) (s s' : Vec) (hD : D.length = m) (hs : s.length = m)
    (hs' : s'.length = m) (W : Mat) (t : Vec) (hW : ∀ w ∈ W, w.length = m)
    (hc : ∀ w ∈ W, 0 ≤ dot w (vsub s s')) (h : FacetGe W (rsub D (castV s)) t) :
    FacetGe W (rsub D (castV s')) t := by
  induction W, t, h.length_eq using eqLen_induction with
  | nil => trivial
  | cons w W τ t _ ih =>
    refine ⟨?_, ih (fun w hw => hW w (List.mem_cons_of_mem _ hw))
      (fun w hw => hc w (List.mem_cons_of_mem _ hw)) h.2⟩
    -- w·(D − s') = w·(D − s) + w·(s − s')
    have h0 : (0 : ℝ) ≤ ((dot w (vsub s s') : ℚ) : ℝ) := by exact_mod_cast hc w List.mem_cons_self
    have h1 := h.1
    rw [cast_dot, castV_vsub, rdot_rsub_right _ _ _ (by rw [castV_length, castV_length, hs, hs'])]
      at h0
    rw [rdot_rsub_right _ _ _ (by rw [castV_length, hD, hs])] at h1
    rw [rdot_rsub_right _ _ _ (by rw [castV_length, hD, hs'])]
    linarith only [h0, h1]

theorem cov_mono_shift (m : ℕ) (R₁ R₂ : Set RVec) (W : Mat) (s s' t : Vec)
    (hR₁ : ∀ z ∈ R₁, z.length = m) (hR₂ : ∀ z ∈ R₂, z.length = m)
    (hW : ∀ w ∈ W, w.length = m) (hs : s.length = m) (hs' : s'.length = m)
    (hc : ∀ w ∈ W, 0 ≤ dot w (vsub s s')) : Cov R₁ R₂ W s t → Cov R₁ R₂ W s' t := by
  rintro ⟨z, hz, z', hz', h⟩
  exact ⟨z, hz, z', hz', FacetGe.shift m _ s s'
    (by rw [rsub_length, hR₁ z hz, hR₂ z' hz', Nat.min_self]) hs hs' W t hW hc h⟩

/-- an objective-space shift `s` is the per-facet slack `wᵢ · s`:
`W (D − s) ≥ t ↔ W D ≥ W s + t` -/
theorem facetGe_shift_iff (m : ℕ) (D : RVec) (s : Vec) (hD : D.length = m) (hs : s.length = m)
    (W : Mat) (t : Vec) (hW : ∀ w ∈ W, w.length = m) (hl : W.length = t.length) :
    (FacetGe W (rsub D (castV s)) t ↔ FacetGe W D (vadd (matVec W s) t)) := by
  induction W, t, hl using eqLen_induction with
  | nil => rfl
  | cons w W τ t _ ih =>
    have ih := ih fun w hw => hW w (List.mem_cons_of_mem _ hw)
    rw [matVec, List.map_cons, vadd_cons, ← matVec]
    simp only [FacetGe, ih]
    rw [rdot_rsub_right _ _ _ (by rw [castV_length, hD, hs]), Rat.cast_add, cast_dot,
      le_sub_iff_add_le']

/-! ### Cauchy–Schwarz -/

/-- the inductive step of Cauchy–Schwarz; for `A > 0` it is
`A ((x² + A)(y² + B) − (xy + p)²) = (yA − xp)² + (x² + A)(AB − p²)` -/
theorem cs_step (x y p A B : ℝ) (hA : 0 ≤ A) (hB : 0 ≤ B) (hp : p ^ 2 ≤ A * B) :
    (x * y + p) ^ 2 ≤ (x ^ 2 + A) * (y ^ 2 + B) := by
  rcases hA.eq_or_lt with rfl | hA
  · have hp0 : p = 0 := by
      rw [zero_mul] at hp
      exact pow_eq_zero_iff two_ne_zero |>.1 (le_antisymm hp (sq_nonneg p))
    rw [hp0, add_zero, add_zero, mul_pow]
    exact mul_le_mul_of_nonneg_left (le_add_of_nonneg_right hB) (sq_nonneg x)
  · have key : A * ((x ^ 2 + A) * (y ^ 2 + B) - (x * y + p) ^ 2) =
        (y * A - x * p) ^ 2 + (x ^ 2 + A) * (A * B - p ^ 2) := by ring
    have h0 : 0 ≤ A * ((x ^ 2 + A) * (y ^ 2 + B) - (x * y + p) ^ 2) := by
      rw [key]
      exact add_nonneg (sq_nonneg _)
        (mul_nonneg (add_nonneg (sq_nonneg x) hA.le) (sub_nonneg.2 hp))
    exact sub_nonneg.1 (nonneg_of_mul_nonneg_right h0 hA)

/-- **Cauchy–Schwarz** for real list vectors -/
theorem rdot_sq_le (a b : RVec) : (rdot a b) ^ 2 ≤ rnormSq a * rnormSq b := by
  induction a generalizing b with
  | nil => rw [rdot_nil_left, rnormSq, rdot_nil_left, zero_mul, zero_pow two_ne_zero]
  | cons a as ih => cases b with
    | nil => rw [rdot_nil_right, rnormSq, rnormSq, rdot_nil_left, mul_zero, zero_pow two_ne_zero]
    | cons b bs =>
      have := cs_step a b (rdot as bs) _ _ (rnormSq_nonneg as) (rnormSq_nonneg bs) (ih bs)
      rw [sq a, sq b] at this
      exact this

/-! ### the polyhedron `{d | W d ≥ t}` -/

theorem coneSys_sat (d : RVec) (W : Mat) (t : Vec) (h : W.length = t.length) :
    ((∀ r ∈ coneSys W t, (r.b : ℝ) ≤ rdot (castV r.a) d) ↔ FacetGe W d t) := by
  induction W, t, h using eqLen_induction with
  | nil => exact ⟨fun _ => trivial, fun _ => nofun⟩
  | cons w W τ t _ ih =>
    rw [coneSys] at ih
    rw [coneSys, List.zipWith_cons_cons, List.forall_mem_cons, ih]
    rfl

theorem rSat_coneSys (m : ℕ) (d : RVec) (W : Mat) (t : Vec) (h : W.length = t.length) :
    RSat m (coneSys W t) d ↔ d.length = m ∧ FacetGe W d t := by
  rw [RSat, coneSys_sat d W t h]

theorem rsub_castV_zeros_le (d : RVec) (m : ℕ) (h : d.length ≤ m) : rsub d (castV (zeros m)) = d := by
  induction d generalizing m with
  | nil => rfl
  | cons d ds ih => cases m with
    | zero => cases h
    | succ m =>
      rw [zeros, List.replicate_succ, castV_cons, rsub, List.zipWith_cons_cons, Rat.cast_zero, sub_zero]
      exact congrArg _ (ih m (Nat.le_of_succ_le_succ h))

theorem rsub_castV_zeros (d : RVec) (m : ℕ) (h : d.length = m) : rsub d (castV (zeros m)) = d :=
  rsub_castV_zeros_le d m h.le


/-- a zero shift drops out of `Cov` as soon as the first region consists of `m`-vectors -/
theorem cov_zero_shift_iff_left (m : ℕ) (R₁ R₂ : Set RVec) (W : Mat) (t : Vec)
    (h₁ : ∀ z ∈ R₁, z.length = m) :
    Cov R₁ R₂ W (zeros m) t ↔ ∃ z ∈ R₁, ∃ z' ∈ R₂, FacetGe W (rsub z' z) t := by
  have e : ∀ z ∈ R₁, ∀ z' : RVec, rsub (rsub z' z) (castV (zeros m)) = rsub z' z := fun z hz z' =>
    rsub_castV_zeros_le _ _ (by rw [rsub_length, h₁ z hz]; exact Nat.min_le_right _ _)
  constructor <;> rintro ⟨z, hz, z', hz', h⟩ <;> refine ⟨z, hz, z', hz', ?_⟩
  · rwa [e z hz] at h
  · rwa [e z hz]

/-! ### balls -/

/-- the closed ball `B(c, a)` (empty if `a < 0`, as in the code where `‖z − c‖ ≤ a`) -/
def ball (c : Vec) (a : ℚ) : Set RVec :=
  {z | 0 ≤ a ∧ z.length = c.length ∧ rnormSq (rsub z (castV c)) ≤ (a : ℝ) ^ 2}

theorem ball_length {c : Vec} {a : ℚ} : ∀ z ∈ ball c a, z.length = c.length := fun _ h => h.2.1

theorem rsub_rsub_comm4 (a b c d : RVec) :
    rsub (rsub a b) (rsub c d) = rsub (rsub a c) (rsub b d) :=
  List.ext_getElem
    (by simp only [rsub, List.length_zipWith, Nat.min_assoc, Nat.min_left_comm])
    fun i _ _ => by simp only [rsub, List.getElem_zipWith]; exact sub_sub_sub_comm _ _ _ _

/-- two points within `a₂` resp. `a₁` of the origin differ by at most `a₁ + a₂` -/
theorem rnormSq_rsub_le (p q : RVec) (a1 a2 : ℝ) (h : p.length = q.length) (ha1 : 0 ≤ a1)
    (ha2 : 0 ≤ a2) (hp : rnormSq p ≤ a2 ^ 2) (hq : rnormSq q ≤ a1 ^ 2) :
    rnormSq (rsub p q) ≤ (a1 + a2) ^ 2 := by
  have h1 : (rdot p q) ^ 2 ≤ (a1 * a2) ^ 2 := by
    rw [mul_pow, mul_comm]
    exact (rdot_sq_le p q).trans (mul_le_mul hp hq (rnormSq_nonneg q) (sq_nonneg a2))
  have h2 := (abs_le_of_sq_le_sq' h1 (mul_nonneg ha1 ha2)).1
  rw [rnormSq_rsub p q h, add_sq]
  linarith only [h2, hp, hq]

/-- a squared distance `E ≤ (a₁ + a₂)²` splits in the ratio `a₁ : a₂` -/
theorem exists_ratio (a1 a2 E : ℝ) (h1 : 0 ≤ a1) (h2 : 0 ≤ a2) (hE0 : 0 ≤ E)
    (hE : E ≤ (a1 + a2) ^ 2) : ∃ θ : ℝ, θ ^ 2 * E ≤ a1 ^ 2 ∧ (1 - θ) ^ 2 * E ≤ a2 ^ 2 := by
  rcases (add_nonneg h1 h2).eq_or_lt with h0 | hpos
  · rw [← h0, zero_pow two_ne_zero] at hE
    rw [le_antisymm hE hE0]
    exact ⟨0, by rw [mul_zero]; exact sq_nonneg a1, by rw [mul_zero]; exact sq_nonneg a2⟩
  · have key : ∀ a : ℝ, (a / (a1 + a2)) ^ 2 * E ≤ a ^ 2 := fun a => by
      rw [div_pow, div_mul_eq_mul_div, div_le_iff₀ (pow_pos hpos 2)]
      exact mul_le_mul_of_nonneg_left hE (sq_nonneg a)
    refine ⟨a1 / (a1 + a2), key a1, ?_⟩
    rw [one_sub_div hpos.ne', add_sub_cancel_left]
    exact key a2

/-- split a displacement `D` (relative to `C₂ − C₁`) between the two centres in ratio `θ : 1−θ`:
`z = C₁ − θ e`, `z' = C₂ + (1−θ) e` with `e = D − (C₂ − C₁)` -/
theorem ball_split (θ : ℝ) (C1 C2 D : RVec) (h2 : C2.length = C1.length) (hD : D.length = C1.length) :
    ∃ z z' : RVec, z.length = C1.length ∧ z'.length = C1.length ∧ rsub z' z = D ∧
      rnormSq (rsub z C1) = θ ^ 2 * rnormSq (rsub D (rsub C2 C1)) ∧
      rnormSq (rsub z' C2) = (1 - θ) ^ 2 * rnormSq (rsub D (rsub C2 C1)) := by
  have he : (rsub D (rsub C2 C1)).length = C1.length := by
    rw [rsub_length, rsub_length, hD, h2, Nat.min_self, Nat.min_self]
  generalize hE : rsub D (rsub C2 C1) = e at he
  have e1 : rsub (rsub C1 (rsmul θ e)) C1 = rsmul (-θ) e :=
    List.ext_getElem (by simp only [rsub_length, rsmul_length, he, Nat.min_self])
      fun i _ _ => by simp only [rsub, rsmul, List.getElem_zipWith, List.getElem_map]; ring
  have e2 : rsub (radd C2 (rsmul (1 - θ) e)) C2 = rsmul (1 - θ) e :=
    List.ext_getElem (by simp only [rsub_length, radd_length, rsmul_length, he, h2, Nat.min_self])
      fun i _ _ => by simp only [rsub, radd, rsmul, List.getElem_zipWith, List.getElem_map]; ring
  refine ⟨rsub C1 (rsmul θ e), radd C2 (rsmul (1 - θ) e),
    by rw [rsub_length, rsmul_length, he, Nat.min_self],
    by rw [radd_length, rsmul_length, he, h2, Nat.min_self], ?_,
    by rw [e1, rnormSq_rsmul, neg_sq], by rw [e2, rnormSq_rsmul]⟩
  subst hE
  exact List.ext_getElem
    (by simp only [rsub_length, radd_length, rsmul_length, hD, h2, Nat.min_self])
    fun i _ _ => by simp only [rsub, radd, rsmul, List.getElem_zipWith, List.getElem_map]; ring

/-- **Ball reduction**: two balls are coverable iff some `d` within `a₁ + a₂` of `c₂ − c₁`
satisfies `W d ≥ t` (Minkowski difference of two balls is the ball of the summed radii). -/
theorem cov_ball_iff {W : Mat} {c1 c2 t : Vec} {a1 a2 : ℚ} (ha1 : 0 ≤ a1) (ha2 : 0 ≤ a2)
    (hc : c2.length = c1.length) :
    Cov (ball c1 a1) (ball c2 a2) W (zeros c1.length) t ↔
      ∃ d : RVec, d.length = c1.length ∧
        rnormSq (rsub d (castV (vsub c2 c1))) ≤ ((a1 : ℝ) + a2) ^ 2 ∧ FacetGe W d t := by
  have ha1' : (0 : ℝ) ≤ a1 := by exact_mod_cast ha1
  have ha2' : (0 : ℝ) ≤ a2 := by exact_mod_cast ha2
  constructor
  · rintro ⟨z, ⟨-, hzl, hz⟩, z', ⟨-, hzl', hz'⟩, hf⟩
    have hl : (rsub z' z).length = c1.length := by rw [rsub_length, hzl, hzl', hc, Nat.min_self]
    rw [rsub_castV_zeros _ _ hl] at hf
    refine ⟨rsub z' z, hl, ?_, hf⟩
    -- (z' − z) − (c₂ − c₁) = (z' − c₂) − (z − c₁)
    rw [castV_vsub, rsub_rsub_comm4]
    exact rnormSq_rsub_le _ _ _ _
      (by rw [rsub_length, rsub_length, hzl, hzl', castV_length, castV_length, hc]) ha1' ha2' hz' hz
  · rintro ⟨d, hdl, hd, hf⟩
    rw [castV_vsub] at hd
    obtain ⟨θ, b1, b2⟩ := exists_ratio _ _ _ ha1' ha2' (rnormSq_nonneg _) hd
    obtain ⟨z, z', hz, hz', e1, e2, e3⟩ := ball_split θ (castV c1) (castV c2) d
      (by rw [castV_length, castV_length, hc]) (by rw [castV_length, hdl])
    rw [castV_length] at hz hz'
    refine ⟨z, ⟨ha1, hz, e2 ▸ b1⟩, z', ⟨ha2, hz'.trans hc.symm, e3 ▸ b2⟩, ?_⟩
    rwa [e1, rsub_castV_zeros _ _ hdl]


/-! ### the ball verdict -/

theorem nearest_some {n : ℕ} {S : Sys} {c x lam : Vec} (h : nearest n S c = some (x, lam)) :
    checkKKT n S c x lam = true := by
  unfold nearest at h
  split at h
  · split at h
    · rename_i hk
      cases h
      exact hk
    · cases h
  · cases h

/-- **The ball verdict is right whenever it is conclusive**: it rests on the guard and either a
checked nearest point `x` of `{d | W d ≥ t}` to `c₂ − c₁`, compared with `(a₁ + a₂)²`, or (for `no`) a
checked Farkas certificate. -/
theorem ballVerdict_sound {W : Mat} {c1 c2 t : Vec} {a1 a2 : ℚ} (ht : W.length = t.length) :
    (ballVerdict W c1 a1 c2 a2 t).Sound (Cov (ball c1 a1) (ball c2 a2) W (zeros c1.length) t) := by
  unfold ballVerdict
  simp only
  split
  · exact .inconclusive
  · rename_i hg
    simp only [Bool.or_eq_true, decide_eq_true_eq, bne_iff_ne, not_or, not_lt, ne_eq,
      Decidable.not_not] at hg
    obtain ⟨⟨ha1, ha2⟩, hc⟩ := hg
    refine Verdict.Sound.congr ?_ (cov_ball_iff ha1 ha2 hc).symm
    have sat : ∀ d : RVec, d.length = c1.length → FacetGe W d t → RSat c1.length (coneSys W t) d :=
      fun d hdl hf => (rSat_coneSys _ _ W t ht).2 ⟨hdl, hf⟩
    split
    · rename_i x lam hn
      obtain ⟨hx, hmin⟩ := checkKKT_sound (nearest_some hn)
      have hs := (rSat_coneSys _ _ W t ht).1 hx
      simp only [← castV_vsub, ← cast_normSq] at hmin
      have e : (((a1 + a2) * (a1 + a2) : ℚ) : ℝ) = ((a1 : ℝ) + a2) ^ 2 := by push_cast; ring
      split
      · rename_i hle
        refine .yes ⟨castV x, hs.1, ?_, hs.2⟩
        rw [← castV_vsub, ← cast_normSq, ← e]
        exact_mod_cast hle
      · rename_i hgt
        -- the nearest point is farther than `a₁ + a₂`, and no `d` is nearer
        refine .no fun ⟨d, hdl, hd, hf⟩ => hgt ?_
        have := (hmin d (sat d hdl hf)).trans hd
        rw [← e] at this
        exact_mod_cast this
    · split
      · rename_i hf
        exact .no fun ⟨d, hdl, _, hd⟩ => (feasibleC_sound _ _).of_no (Verdict.ofOpt_eq_no.2 hf) ⟨d, sat d hdl hd⟩
      · exact .inconclusive


/-! ### general ellipsoids `{c + L u | ‖u‖ ≤ a}` -/

/-- `L u` for a rational matrix (list of rows) and a real vector -/
def rmatVec (L : Mat) (u : RVec) : RVec := L.map (fun r => rdot (castV r) u)

/-- the ellipsoid `{c + L u | ‖u‖ ≤ a}` — equal to `{z | ‖Σ^{-1/2}(z − c)‖ ≤ a}` whenever
`L Lᵀ = Σ` is invertible (see `ell_iff_inverse`); empty if `a < 0`. -/
def ell (c : Vec) (L : Mat) (a : ℚ) : Set RVec :=
  {z | 0 ≤ a ∧ ∃ u : RVec, u.length = c.length ∧ rnormSq u ≤ (a : ℝ) ^ 2 ∧
    z = radd (castV c) (rmatVec L u)}

@[simp] theorem rmatVec_length (L : Mat) (u : RVec) : (rmatVec L u).length = L.length :=
  List.length_map _

theorem ell_length {m : ℕ} {c : Vec} {L : Mat} {a : ℚ} (hc : c.length = m) (hL : L.length = m) :
    ∀ z ∈ ell c L a, z.length = m := by
  rintro z ⟨-, u, -, -, rfl⟩
  simp [hc, hL]

theorem castV_matVec (L : Mat) (u : Vec) : castV (matVec L u) = rmatVec L (castV u) := by
  simp only [matVec, rmatVec, castV, List.map_map]
  exact List.map_congr_left fun r _ => cast_dot r u

/-- `v · (L u) = (Lᵀ v) · u` for an `m`-column matrix -/
theorem rdot_rmatVec_eq (m : ℕ) (L : Mat) (v : Vec) (u : RVec) (hL : ∀ r ∈ L, r.length = m) :
    rdot (castV v) (rmatVec L u) = rdot (castV (lincomb m L v)) u :=
  (rdot_castV_lincomb m L v u hL).symm

theorem wfEll_iff (m : ℕ) (c : Vec) (L : Mat) :
    wfEll m c L = true ↔ c.length = m ∧ L.length = m ∧ ∀ r ∈ L, r.length = m := by
  simp only [wfEll, Bool.and_eq_true, decide_eq_true_eq, List.all_eq_true, and_assoc]

theorem checkEllWitness_sound (W : Mat) (c1 : Vec) (L1 : Mat) (a1 : ℚ) (c2 : Vec) (L2 : Mat)
    (a2 : ℚ) (t u1 u2 : Vec) (ht : W.length = t.length)
    (h : checkEllWitness W c1 L1 a1 c2 L2 a2 t u1 u2 = true) :
    Cov (ell c1 L1 a1) (ell c2 L2 a2) W (zeros c1.length) t := by
  simp only [checkEllWitness, Bool.and_eq_true, decide_eq_true_eq] at h
  obtain ⟨⟨⟨⟨⟨⟨⟨⟨-, hE2⟩, hu1⟩, hu2⟩, ha1⟩, ha2⟩, hn1⟩, hn2⟩, hw⟩ := h
  have hs := (rSat_coneSys _ _ W t ht).1 (checkWitness_sound hw)
  have e1 : ((normSq u1 : ℚ) : ℝ) ≤ ((a1 * a1 : ℚ) : ℝ) := by exact_mod_cast hn1
  have e2 : ((normSq u2 : ℚ) : ℝ) ≤ ((a2 * a2 : ℚ) : ℝ) := by exact_mod_cast hn2
  rw [cast_normSq, Rat.cast_mul, ← sq] at e1 e2
  have ez : ∀ (c : Vec) (L : Mat) (u : Vec),
      castV (ellPoint c L u) = radd (castV c) (rmatVec L (castV u)) := fun c L u => by
    rw [ellPoint, castV_vadd, castV_matVec]
  refine ⟨castV (ellPoint c1 L1 u1), ⟨ha1, castV u1, (castV_length u1).trans hu1, e1, ez _ _ _⟩,
    castV (ellPoint c2 L2 u2), ⟨ha2, castV u2, ?_, e2, ez _ _ _⟩, ?_⟩
  · rw [castV_length, hu2, ((wfEll_iff _ _ _).1 hE2).1]
  · rw [← castV_vsub, rsub_castV_zeros _ _ hs.1]
    exact hs.2

theorem wf_of_witness {W : Mat} {c1 : Vec} {L1 : Mat} {a1 : ℚ} {c2 : Vec} {L2 : Mat} {a2 : ℚ}
    {t u1 u2 : Vec} (h : checkEllWitness W c1 L1 a1 c2 L2 a2 t u1 u2 = true) :
    L1.length = c1.length ∧ c2.length = c1.length ∧ L2.length = c1.length := by
  simp only [checkEllWitness, Bool.and_eq_true] at h
  obtain ⟨⟨⟨⟨⟨⟨⟨⟨hE1, hE2⟩, -⟩, -⟩, -⟩, -⟩, -⟩, -⟩, -⟩ := h
  obtain ⟨-, hL1, -⟩ := (wfEll_iff _ _ _).1 hE1
  obtain ⟨hc2, hL2, -⟩ := (wfEll_iff _ _ _).1 hE2
  exact ⟨hL1, hc2, hL2⟩

/-- `λ · t ≤ λ · (W d)` for `λ ≥ 0` and `W d ≥ t` -/
theorem dot_le_of_facetGe (W : Mat) (t lam : Vec) (d : RVec) (hl : ∀ v ∈ lam, (0 : ℚ) ≤ v)
    (hf : FacetGe W d t) : ((dot lam t : ℚ) : ℝ) ≤ rdot (castV lam) (rmatVec W d) := by
  induction W, t, hf.length_eq using eqLen_induction generalizing lam with
  | nil => rw [dot_nil_right, Rat.cast_zero]; exact (rdot_nil_right _).ge
  | cons w W τ t _ ih => cases lam with
    | nil => exact le_of_eq Rat.cast_zero
    | cons l ls =>
      have h0 : (0 : ℝ) ≤ (l : ℝ) := by exact_mod_cast hl l List.mem_cons_self
      rw [dot_cons, Rat.cast_add, Rat.cast_mul, rmatVec, List.map_cons, castV_cons, rdot_cons]
      exact add_le_add (mul_le_mul_of_nonneg_left hf.1 h0)
        (ih ls (fun v hv => hl v (List.mem_cons_of_mem _ hv)) hf.2)

/-- the squaring trick: `x² ≤ B`, `y² ≤ A`, `g > 0`, `h = g² − A − B > 0`, `4AB < h²` ⇒ `x + y < g` -/
theorem sum_lt_of_sq (x y A B g : ℝ) (hx : x ^ 2 ≤ B) (hy : y ^ 2 ≤ A) (hg : 0 < g)
    (hh : 0 < g * g - A - B) (hAB : 4 * A * B < (g * g - A - B) * (g * g - A - B)) : x + y < g := by
  have h1 : (2 * x * y) ^ 2 ≤ 4 * A * B := by
    have := mul_le_mul hx hy (sq_nonneg y) ((sq_nonneg x).trans hx)
    calc (2 * x * y) ^ 2 = 4 * (x ^ 2 * y ^ 2) := by ring
      _ ≤ 4 * (B * A) := mul_le_mul_of_nonneg_left this (by norm_num)
      _ = 4 * A * B := by ring
  -- `2xy < h` since `(2xy)² ≤ 4AB < h²`, hence `(x + y)² < g²`
  have h2 : 2 * x * y < g * g - A - B :=
    lt_of_pow_lt_pow_left₀ 2 hh.le (h1.trans_lt (by rwa [sq]))
  refine lt_of_pow_lt_pow_left₀ 2 hg.le ?_
  rw [add_sq, sq g]
  linarith only [h2, hx, hy]

/-- Cauchy–Schwarz against a point of the ball of radius `a` -/
theorem rdot_sq_le_of_norm (u p : RVec) (a : ℝ) (hp : rnormSq p ≤ a ^ 2) :
    (rdot u p) ^ 2 ≤ a * a * rnormSq u := by
  rw [← sq, mul_comm]
  exact (rdot_sq_le u p).trans (mul_le_mul_of_nonneg_left hp (rnormSq_nonneg u))

/-- **Separating-multiplier checker is sound** (Cauchy–Schwarz): no witness pair exists. -/
theorem checkEllSep_sound (W : Mat) (c1 : Vec) (L1 : Mat) (a1 : ℚ) (c2 : Vec) (L2 : Mat)
    (a2 : ℚ) (t lam : Vec) (h : checkEllSep W c1 L1 a1 c2 L2 a2 t lam = true) :
    ¬ Cov (ell c1 L1 a1) (ell c2 L2 a2) W (zeros c1.length) t := by
  simp only [checkEllSep, Bool.and_eq_true, decide_eq_true_eq, List.all_eq_true] at h
  obtain ⟨⟨⟨⟨⟨⟨⟨⟨⟨⟨hE1, hE2⟩, hW⟩, -⟩, -⟩, -⟩, -⟩, hlam⟩, hg⟩, hh⟩, hAB⟩ := h
  obtain ⟨-, hL1, hR1⟩ := (wfEll_iff _ _ _).1 hE1
  obtain ⟨hc2, hL2, hR2⟩ := (wfEll_iff _ _ _).1 hE2
  rintro ⟨z, ⟨-, p1, -, hp1, rfl⟩, z', ⟨-, p2, -, hp2, rfl⟩, hf⟩
  generalize hm : c1.length = m at *
  have hzl : (radd (castV c1) (rmatVec L1 p1)).length = m := by
    rw [radd_length, castV_length, rmatVec_length, hm, hL1, Nat.min_self]
  have hzl' : (radd (castV c2) (rmatVec L2 p2)).length = m := by
    rw [radd_length, castV_length, rmatVec_length, hc2, hL2, Nat.min_self]
  rw [rsub_castV_zeros _ _ (by rw [rsub_length, hzl, hzl', Nat.min_self])] at hf
  -- with `v = Wᵀλ`:  λ·t ≤ λ·(W (z' − z)) = v·(z' − z) = v·(c₂ − c₁) + (L₂ᵀv)·p₂ − (L₁ᵀv)·p₁
  have key := dot_le_of_facetGe W t lam _ ((allNonneg_iff lam).1 hlam) hf
  rw [rdot_rmatVec_eq m W lam _ hW] at key
  generalize lincomb m W lam = v at key hg hh hAB
  rw [rdot_rsub_right _ _ _ (hzl'.trans hzl.symm),
    rdot_radd_right _ _ _ (by rw [castV_length, rmatVec_length, hc2, hL2]),
    rdot_radd_right _ _ _ (by rw [castV_length, rmatVec_length, hm, hL1]),
    rdot_rmatVec_eq m L2 v p2 hR2, rdot_rmatVec_eq m L1 v p1 hR1] at key
  -- Cauchy–Schwarz on both support terms, then the squaring trick over `ℝ`
  have bx := rdot_sq_le_of_norm (castV (lincomb m L2 v)) p2 a2 hp2
  have bys := rdot_sq_le_of_norm (castV (lincomb m L1 v)) p1 a1 hp1
  rw [← neg_sq] at bys
  rw [← cast_normSq] at bx bys
  have hg' := (Rat.cast_lt (K := ℝ)).2 hg
  have hh' := (Rat.cast_lt (K := ℝ)).2 hh
  have hAB' := (Rat.cast_lt (K := ℝ)).2 hAB
  push_cast at hg' hh' hAB'
  have fin := sum_lt_of_sq _ _ _ _ _ bx bys hg' hh' hAB'
  rw [cast_dot v (vsub c2 c1), castV_vsub,
    rdot_rsub_right _ _ _ (by rw [castV_length, castV_length, hc2, hm])] at fin
  linarith only [fin, key]

theorem wf_of_sep {W : Mat} {c1 : Vec} {L1 : Mat} {a1 : ℚ} {c2 : Vec} {L2 : Mat} {a2 : ℚ}
    {t lam : Vec} (h : checkEllSep W c1 L1 a1 c2 L2 a2 t lam = true) :
    L1.length = c1.length ∧ c2.length = c1.length ∧ L2.length = c1.length := by
  simp only [checkEllSep, Bool.and_eq_true] at h
  obtain ⟨⟨⟨⟨⟨⟨⟨⟨⟨⟨hE1, hE2⟩, -⟩, -⟩, -⟩, -⟩, -⟩, -⟩, -⟩, -⟩, -⟩ := h
  obtain ⟨-, hL1, -⟩ := (wfEll_iff _ _ _).1 hE1
  obtain ⟨hc2, hL2, -⟩ := (wfEll_iff _ _ _).1 hE2
  exact ⟨hL1, hc2, hL2⟩


/-- **Verdicts from certificates are sound**: `yes` ⇒ coverable, `no` ⇒ not coverable. -/
theorem ellVerdict_sound (W : Mat) (c1 : Vec) (L1 : Mat) (a1 : ℚ) (c2 : Vec) (L2 : Mat) (a2 : ℚ)
    (t u1 u2 lam : Vec) (ht : W.length = t.length) :
    (ellVerdict W c1 L1 a1 c2 L2 a2 t u1 u2 lam = .yes →
      Cov (ell c1 L1 a1) (ell c2 L2 a2) W (zeros c1.length) t) ∧
    (ellVerdict W c1 L1 a1 c2 L2 a2 t u1 u2 lam = .no →
      ¬ Cov (ell c1 L1 a1) (ell c2 L2 a2) W (zeros c1.length) t) := by
  have h : (ellVerdict W c1 L1 a1 c2 L2 a2 t u1 u2 lam).Sound
      (Cov (ell c1 L1 a1) (ell c2 L2 a2) W (zeros c1.length) t) := by
    unfold ellVerdict
    split
    · exact .yes (checkEllWitness_sound W c1 L1 a1 c2 L2 a2 t u1 u2 ht ‹_›)
    · exact .ite_no fun h => checkEllSep_sound W c1 L1 a1 c2 L2 a2 t lam h
  exact h.spec

theorem rsub_radd_cancel (c p : RVec) (h : p.length = c.length) : rsub (radd c p) c = p :=
  List.ext_getElem (by rw [rsub_length, radd_length, h, Nat.min_self, Nat.min_self])
    fun i _ _ => by simp only [rsub, radd, List.getElem_zipWith, add_sub_cancel_left]

theorem radd_rsub_cancel (c z : RVec) (h : z.length = c.length) : radd c (rsub z c) = z :=
  ConeOrd.zipWith_add_sub_cancel c z h.symm

/-- **The ellipsoid in the code's form.**  If `M` is the inverse of `L` (as maps on real
`m`-vectors), then `{c + L u | ‖u‖ ≤ a} = {z | ‖L⁻¹ (z − c)‖ ≤ a}`; with `L Lᵀ = Σ` the right-hand
side is `{z | (z − c)ᵀ Σ⁻¹ (z − c) ≤ a²} = {z | ‖Σ^{-1/2}(z − c)‖ ≤ a}`, the constraint
`EllipsoidalConfidenceRegion.is_covered` hands to the solver. -/
theorem ell_iff_inverse (m : ℕ) (c : Vec) (L M : Mat) (a : ℚ) (hc : c.length = m)
    (hL : L.length = m) (hM : M.length = m)
    (hML : ∀ u : RVec, u.length = m → rmatVec M (rmatVec L u) = u)
    (hLM : ∀ x : RVec, x.length = m → rmatVec L (rmatVec M x) = x) (z : RVec) :
    z ∈ ell c L a ↔
      0 ≤ a ∧ z.length = m ∧ rnormSq (rmatVec M (rsub z (castV c))) ≤ (a : ℝ) ^ 2 := by
  constructor
  · rintro ⟨ha, u, hu, hn, rfl⟩
    refine ⟨ha, by simp [hc, hL], ?_⟩
    rw [rsub_radd_cancel _ _ (by simp [hc, hL]), hML u (hu.trans hc)]
    exact hn
  · rintro ⟨ha, hz, hn⟩
    refine ⟨ha, rmatVec M (rsub z (castV c)), by simp [hM, hc], hn, ?_⟩
    rw [hLM _ (by simp [hz, hc]), radd_rsub_cancel _ _ (by simp [hz, hc])]

/-- a ball is the ellipsoid whose factor acts as the identity -/
theorem ball_eq_ell (m : ℕ) (c : Vec) (I : Mat) (a : ℚ) (hc : c.length = m) (hI : I.length = m)
    (hid : ∀ u : RVec, u.length = m → rmatVec I u = u) : ball c a = ell c I a := by
  ext z
  rw [ell_iff_inverse m c I I a hc hI hI (fun u hu => by rw [hid u hu, hid u hu])
    (fun u hu => by rw [hid u hu, hid u hu]) z]
  constructor
  · rintro ⟨ha, hz, hn⟩
    exact ⟨ha, hz.trans hc, by rwa [hid _ (by simp [hz, hc])]⟩
  · rintro ⟨ha, hz, hn⟩
    exact ⟨ha, hz.trans hc.symm, by rwa [hid _ (by simp [hz, hc])] at hn⟩

theorem rmatVec_identMat (m : ℕ) (u : RVec) (hu : u.length = m) : rmatVec (identMat m) u = u := by
  refine List.ext_getElem (by rw [rmatVec_length, identMat, List.length_map, List.length_range, hu])
    fun i h1 h2 => ?_
  have e : ((fun q : ℚ => (q : ℝ)) ∘ fun j => if i = j then (1 : ℚ) else 0) =
      fun j => if i = j then (1 : ℝ) else 0 := funext fun j => by
    rw [Function.comp_apply, apply_ite (Rat.cast : ℚ → ℝ), Rat.cast_one, Rat.cast_zero]
  simp only [rmatVec, identMat, List.getElem_map, List.getElem_range]
  rw [rdot_eq_gdot, castV, List.map_map, e, ConeOrd.gdot_basis m i u hu.le, List.getD_eq_getElem _ _ h2]

/-- `B(c, a) = {c + I u | ‖u‖ ≤ a}` with the model's identity matrix -/
theorem ball_eq_ell_identMat (c : Vec) (a : ℚ) : ball c a = ell c (identMat c.length) a :=
  ball_eq_ell c.length c _ a rfl (by simp [identMat]) (rmatVec_identMat c.length)


end VOPy.Covered
