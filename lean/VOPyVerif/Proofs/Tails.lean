import Mathlib.Probability.Distributions.Gaussian.Real
import Mathlib.Analysis.SpecialFunctions.Gaussian.GaussianIntegral
import Mathlib.MeasureTheory.Integral.Pi
/-!
# Gaussian and χ²-type tail bounds

Sharp Gaussian tail `P(|X - μ| > c√v) ≤ exp(-c²/2)`: on `[c,∞)` the standard density is at most
`exp(-c²/2)` times the density of `N(c,1)`, whose mass there is `1/2`; then symmetry and an affine map.
χ²-type tail `P(Σ zᵢ² > x) ≤ (√2)^m exp(-x/(4s))`: Markov's inequality for `exp(Σ zᵢ²/4)`, whose mean
is `(√2)^m` coordinate by coordinate.
-/
namespace VOPy.Tails
open MeasureTheory ProbabilityTheory Real Set
open scoped NNReal ENNReal

lemma pdf_le (c x : ℝ) (hc : 0 ≤ c) (hx : c ≤ x) :
    gaussianPDFReal 0 1 x ≤ rexp (-c^2/2) * gaussianPDFReal c 1 x := by
  simp only [gaussianPDFReal, NNReal.coe_one, mul_one, sub_zero]
  rw [mul_left_comm, ← Real.exp_add]
  refine mul_le_mul_of_nonneg_left (Real.exp_le_exp.mpr ?_) (by positivity)
  -- `x² = c² + (x-c)² + 2c(x-c)` and `c(x-c) ≥ 0`
  linarith [mul_nonneg hc (sub_nonneg.mpr hx)]

lemma std_Iio_eq_Ioi (c : ℝ) :
    (gaussianReal 0 1) (Iio (-c)) = (gaussianReal 0 1) (Ioi c) := by
  have h := gaussianReal_map_neg (μ := 0) (v := 1)
  rw [neg_zero] at h
  conv_lhs => rw [← h]
  rw [Measure.map_apply measurable_neg measurableSet_Iio, neg_preimage, neg_Iio, neg_neg]

lemma std_Ioi_zero : (gaussianReal 0 1) (Ioi (0:ℝ)) = 2⁻¹ := by
  have hneg := std_Iio_eq_Ioi 0
  rw [neg_zero] at hneg
  have htot := measure_add_measure_compl (μ := gaussianReal 0 1) (measurableSet_Iio (a := (0:ℝ)))
  have : NullSingletonClass (gaussianReal 0 (1:ℝ≥0)) := nullSingletonClass_gaussianReal one_ne_zero
  rw [compl_Iio, measure_univ, hneg, measure_congr Ioi_ae_eq_Ici.symm, ← two_mul] at htot
  exact ENNReal.eq_inv_of_mul_eq_one_left (by rwa [mul_comm])

/-- Sharp one-sided bound `Q(c) ≤ exp(-c²/2)/2` for the standard normal. -/
theorem std_upper_tail (c : ℝ) (hc : 0 ≤ c) :
    (gaussianReal 0 1) (Ioi c) ≤ ENNReal.ofReal (rexp (-c^2/2) / 2) := by
  have h1 : (1:ℝ≥0) ≠ 0 := one_ne_zero
  rw [gaussianReal_apply_eq_integral 0 h1]
  apply ENNReal.ofReal_le_ofReal
  calc ∫ x in Ioi c, gaussianPDFReal 0 1 x
      ≤ ∫ x in Ioi c, rexp (-c^2/2) * gaussianPDFReal c 1 x := by
        apply setIntegral_mono_on
        · exact (integrable_gaussianPDFReal 0 1).integrableOn
        · exact ((integrable_gaussianPDFReal c 1).const_mul _).integrableOn
        · exact measurableSet_Ioi
        · intro x hx; exact pdf_le c x hc (le_of_lt hx)
    _ = rexp (-c^2/2) * ∫ x in Ioi c, gaussianPDFReal c 1 x := by
        rw [integral_const_mul]
    _ = rexp (-c^2/2) / 2 := by
        have h3 : (gaussianReal c 1) (Ioi c) = 2⁻¹ := by
          have hm := gaussianReal_map_add_const (μ := 0) (v := 1) c
          rw [zero_add] at hm
          rw [← hm, Measure.map_apply (measurable_add_const c) measurableSet_Ioi,
            preimage_add_const_Ioi, sub_self, std_Ioi_zero]
        have h4 := congrArg ENNReal.toReal h3
        rw [gaussianReal_apply_eq_integral c h1,
          ENNReal.toReal_ofReal
            (setIntegral_nonneg measurableSet_Ioi fun x _ => gaussianPDFReal_nonneg _ _ _),
          ENNReal.toReal_inv, ENNReal.toReal_ofNat] at h4
        rw [h4, div_eq_mul_inv (rexp _)]

theorem std_two_sided (c : ℝ) (hc : 0 ≤ c) :
    (gaussianReal 0 1) {x | c < |x|} ≤ ENNReal.ofReal (rexp (-c^2/2)) := by
  have hset : {x : ℝ | c < |x|} = Iio (-c) ∪ Ioi c := by
    ext x
    rw [mem_ofPred_eq, lt_abs, or_comm, lt_neg]
    rfl
  rw [hset]
  calc (gaussianReal 0 1) (Iio (-c) ∪ Ioi c)
      ≤ (gaussianReal 0 1) (Iio (-c)) + (gaussianReal 0 1) (Ioi c) := measure_union_le _ _
    _ = (gaussianReal 0 1) (Ioi c) + (gaussianReal 0 1) (Ioi c) := by rw [std_Iio_eq_Ioi]
    _ ≤ ENNReal.ofReal (rexp (-c^2/2) / 2) + ENNReal.ofReal (rexp (-c^2/2) / 2) :=
        add_le_add (std_upper_tail c hc) (std_upper_tail c hc)
    _ = ENNReal.ofReal (rexp (-c^2/2)) := by
        rw [← ENNReal.ofReal_add (by positivity) (by positivity)]; congr 1; ring

lemma gaussianReal_eq_map_std (μ : ℝ) (v : ℝ≥0) :
    gaussianReal μ v = (gaussianReal 0 1).map (fun x => √(v:ℝ) * x + μ) := by
  have h1 := gaussianReal_map_const_mul (μ := 0) (v := 1) (√(v:ℝ))
  have h2 := gaussianReal_map_add_const (μ := √(v:ℝ) * 0)
    (v := (.mk (√(v:ℝ) ^ 2) (sq_nonneg _) * 1 : ℝ≥0)) μ
  rw [← h1, Measure.map_map (by fun_prop) (by fun_prop)] at h2
  have hv : (.mk (√(v:ℝ) ^ 2) (sq_nonneg _) * 1 : ℝ≥0) = v := by
    ext; simp [Real.sq_sqrt]
  rw [hv, mul_zero, zero_add] at h2
  rw [← h2]; rfl

theorem gauss_two_sided (μ : ℝ) (v : ℝ≥0) (c : ℝ) (hc : 0 ≤ c) :
    (gaussianReal μ v).real {x | c * √(v:ℝ) < |x - μ|} ≤ rexp (-c^2/2) := by
  have hmeas : MeasurableSet {x : ℝ | c * √(v:ℝ) < |x - μ|} :=
    measurableSet_lt measurable_const (by fun_prop)
  by_cases hv : v = 0
  · subst hv
    simp only [NNReal.coe_zero, Real.sqrt_zero, mul_zero] at hmeas
    simp only [gaussianReal_zero_var, NNReal.coe_zero, Real.sqrt_zero, mul_zero, measureReal_def]
    rw [Measure.dirac_apply' _ hmeas]
    simp [Real.exp_nonneg]
  · have hpos : 0 < √(v:ℝ) := Real.sqrt_pos.mpr (by positivity)
    rw [measureReal_def, gaussianReal_eq_map_std μ v, Measure.map_apply (by fun_prop) hmeas]
    have hpre : (fun x => √(v:ℝ) * x + μ) ⁻¹' {x | c * √(v:ℝ) < |x - μ|} = {x | c < |x|} := by
      ext x
      simp only [mem_preimage, mem_ofPred_eq, add_sub_cancel_right, abs_mul, abs_of_pos hpos]
      rw [mul_comm c, mul_lt_mul_iff_right₀ hpos]
    rw [hpre]
    have h := std_two_sided c hc
    have := ENNReal.toReal_mono ENNReal.ofReal_ne_top h
    rwa [ENNReal.toReal_ofReal (Real.exp_nonneg _)] at this

/-- A variance bound `s ≤ 1/n` in place of the variance: `P(|X - μ| > r) ≤ exp(-r²n/2)`.
With `c = r√n`: `c√s ≤ r` and `c² = r²n`. -/
lemma gauss_abs_tail_of_var_le (μ : ℝ) (s : ℝ≥0) {n r : ℝ} (hn : 0 < n) (hs : (s:ℝ) ≤ 1 / n)
    (hr : 0 ≤ r) :
    (gaussianReal μ s).real {x | r < |x - μ|} ≤ rexp (-r^2 * n / 2) := by
  have h := gauss_two_sided μ s (r * √n) (by positivity)
  rw [mul_pow, Real.sq_sqrt hn.le, ← neg_mul] at h
  have hle : r * √n * √(s:ℝ) ≤ r :=
    calc r * √n * √(s:ℝ) = r * √(n * s) := by rw [mul_assoc, ← Real.sqrt_mul hn.le]
      _ ≤ r * 1 :=
          mul_le_mul_of_nonneg_left (Real.sqrt_le_one.mpr ((le_div_iff₀' hn).mp hs)) hr
      _ = r := mul_one r
  exact h.trans' (measureReal_mono (fun x hx => hle.trans_lt hx) (measure_ne_top _ _))

/-! ### χ²-type tail -/

lemma integral_exp_sq_quarter :
    ∫ x, rexp (x^2/4) ∂(gaussianReal 0 1) = √2 := by
  rw [integral_gaussianReal_eq_integral_smul (by norm_num : (1:ℝ≥0) ≠ 0)]
  have h : ∀ x : ℝ, gaussianPDFReal 0 1 x • rexp (x^2/4) = (√(2*π))⁻¹ * rexp (-(1/4) * x^2) := by
    intro x
    simp only [gaussianPDFReal, NNReal.coe_one, mul_one, sub_zero, smul_eq_mul]
    rw [mul_assoc, ← Real.exp_add]; congr 2; ring
  simp_rw [h]
  rw [integral_const_mul, integral_gaussian]
  have h4 : √(2 * 2 * π) = 2 * √π := by
    rw [Real.sqrt_mul (by norm_num), Real.sqrt_mul_self (by norm_num)]
  have h22 : √2 * √2 = 2 := Real.mul_self_sqrt (by norm_num)
  have hs2 : √2 ≠ 0 := by positivity
  have hsp : √π ≠ 0 := by positivity
  rw [show π / (1/4) = 2 * 2 * π by ring, h4, Real.sqrt_mul (by norm_num : (0:ℝ) ≤ 2)]
  field_simp
  linarith [h22]

lemma integrable_exp_sq_quarter :
    Integrable (fun x : ℝ => rexp (x^2/4)) (gaussianReal 0 1) := by
  by_contra h
  have := integral_undef h
  rw [integral_exp_sq_quarter] at this
  have : (0:ℝ) < √2 := by positivity
  linarith

theorem chi2_tail_std (m : ℕ) (x : ℝ) :
    (Measure.pi (fun _ : Fin m => gaussianReal 0 1)).real {z | x < ∑ i, (z i)^2}
      ≤ (√2)^m * rexp (-x/4) := by
  have hf_eq : ∀ z : Fin m → ℝ, ∏ i, rexp ((z i)^2/4) = rexp ((∑ i, (z i)^2)/4) := fun z => by
    rw [← Real.exp_sum, Finset.sum_div]
  have hint : Integrable (fun z : Fin m → ℝ => ∏ i, rexp ((z i)^2/4))
      (Measure.pi fun _ => gaussianReal 0 1) :=
    Integrable.fintype_prod (f := fun _ x => rexp (x^2/4)) (fun _ => integrable_exp_sq_quarter)
  -- Markov's inequality for `exp(Σ zᵢ²/4) = ∏ exp(zᵢ²/4)`, of mean `(√2)^m`
  have hmarkov := mul_meas_ge_le_integral_of_nonneg
    (ae_of_all _ fun z => Finset.prod_nonneg fun i _ => Real.exp_nonneg ((z i)^2/4)) hint (rexp (x/4))
  rw [integral_fintype_prod_eq_pow (ι := Fin m) (fun x : ℝ => rexp (x^2/4)),
    integral_exp_sq_quarter, Fintype.card_fin] at hmarkov
  calc (Measure.pi (fun _ : Fin m => gaussianReal 0 1)).real {z | x < ∑ i, (z i)^2}
      ≤ (Measure.pi fun _ : Fin m => gaussianReal 0 1).real
          {z | rexp (x/4) ≤ ∏ i, rexp ((z i)^2/4)} :=
        measureReal_mono (fun z hz => by
          rw [Set.mem_ofPred_eq, hf_eq]
          exact Real.exp_le_exp.mpr (div_le_div_of_nonneg_right (le_of_lt hz) zero_le_four))
          (measure_ne_top _ _)
    _ ≤ (√2)^m / rexp (x/4) := by rw [le_div_iff₀ (Real.exp_pos _), mul_comm]; exact hmarkov
    _ = (√2)^m * rexp (-x/4) := by rw [div_eq_mul_inv, ← Real.exp_neg, neg_div]

theorem chi2_tail_var (m : ℕ) (s : ℝ≥0) (hs : s ≠ 0) (x : ℝ) :
    (Measure.pi (fun _ : Fin m => gaussianReal 0 s)).real {z | x < ∑ i, (z i)^2}
      ≤ (√2)^m * rexp (-x/(4*s)) := by
  have hpos : 0 < (s:ℝ) := by positivity
  have hmeas : MeasurableSet {z : Fin m → ℝ | x < ∑ i, (z i)^2} :=
    measurableSet_lt measurable_const (by fun_prop)
  have hpi : Measure.pi (fun _ : Fin m => gaussianReal 0 s)
      = (Measure.pi (fun _ : Fin m => gaussianReal 0 1)).map (fun z i => √(s:ℝ) * z i + 0) := by
    have h := Measure.pi_map_pi (μ := fun _ : Fin m => gaussianReal 0 1)
      (f := fun _ (y : ℝ) => √(s:ℝ) * y + 0) (fun i => by fun_prop)
    rw [h]
    congr; funext i; exact gaussianReal_eq_map_std 0 s
  rw [measureReal_def, hpi, Measure.map_apply (by fun_prop) hmeas]
  have hpre : (fun (z : Fin m → ℝ) i => √(s:ℝ) * z i + 0) ⁻¹' {z | x < ∑ i, (z i)^2}
      = {z | x / s < ∑ i, (z i)^2} := by
    ext z
    simp only [mem_preimage, mem_ofPred_eq, add_zero, mul_pow, Real.sq_sqrt hpos.le]
    rw [← Finset.mul_sum, div_lt_iff₀' hpos]
  rw [hpre, ← measureReal_def, mul_comm 4 (s:ℝ), ← div_div, neg_div (s:ℝ)]
  exact chi2_tail_std m (x / s)

/-! ### Norm tail: `‖z‖₂ > r` iff `Σ zᵢ² > r²`, for `r ≥ 0` -/

lemma norm_tail_std (m : ℕ) (r : ℝ) (hr : 0 ≤ r) :
    (Measure.pi (fun _ : Fin m => gaussianReal 0 1)).real {z | r < √(∑ j, (z j)^2)}
      ≤ (√2)^m * rexp (-r^2/4) :=
  (chi2_tail_std m (r^2)).trans'
    (measureReal_mono (fun _ hz => (Real.lt_sqrt hr).mp hz) (measure_ne_top _ _))

lemma norm_tail_var (m : ℕ) (s : ℝ≥0) (hs : s ≠ 0) (r : ℝ) (hr : 0 ≤ r) :
    (Measure.pi (fun _ : Fin m => gaussianReal 0 s)).real {z | r < √(∑ j, (z j)^2)}
      ≤ (√2)^m * rexp (-r^2/(4*s)) :=
  (chi2_tail_var m s hs (r^2)).trans'
    (measureReal_mono (fun _ hz => (Real.lt_sqrt hr).mp hz) (measure_ne_top _ _))

end VOPy.Tails
