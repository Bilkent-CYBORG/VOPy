import VOPyVerif.Proofs.PessimisticComplete
/-!
# C11: completeness for *every* 2-D polyhedral cone (any number of facets)

* `slide_to_edge`: a point `y` of a planar rectangle slides along `−g` (`g ≠ 0`) to the boundary,
  i.e. onto a segment between two vertices;
* `checkDominates_complete_vertices_2d`: `m = 2`, any facet list `W` whose cone contains a non-zero
  `g`: sliding a witness `y ∈ R₂` along `−g` only lowers `W y`, and a witness on a segment between two
  vertices suffices (`isPtIn_of_seg_witness`);
* `cone_vector_2x2`: an invertible 2×2 matrix has such a `g`, namely `W⁻¹(1,1)`.
-/
namespace VOPy.Pess

section TwoD
variable {L : Type} [Field L] [LinearOrder L] [IsStrictOrderedRing L]

/-- From `y ∈ [l0,u0]×[l1,u1]` walk along `−g`, `g ≠ 0`, as far as the rectangle allows
(`exists_tight` on the four bound constraints): the point `y − g τ` reached has one coordinate on a
bound and so lies on the segment between the two vertices with that coordinate. -/
theorem slide_to_edge (l0 l1 u0 u1 g0 g1 : Rat) (hg : g0 ≠ 0 ∨ g1 ≠ 0) (y0 y1 : L)
    (hy0 : (l0 : L) ≤ y0 ∧ y0 ≤ u0) (hy1 : (l1 : L) ≤ y1 ∧ y1 ≤ u1) :
    ∃ τ : L, 0 ≤ τ ∧ ∃ (i j : Nat) (a b : Vec) (s : L), i ≠ j ∧
      (vertices [l0, l1] [u0, u1])[i]? = some a ∧ (vertices [l0, l1] [u0, u1])[j]? = some b ∧
      a.length = b.length ∧ 0 ≤ s ∧ s ≤ 1 ∧
      comb s (castV a) (castV b) = gsub [y0, y1] ((castV [g0, g1]).map (· * τ)) := by
  have sgn : ∀ {g : Rat}, g ≠ 0 → 0 < (g : L) ∨ 0 < -(g : L) := fun h =>
    (lt_or_gt_of_ne (Rat.cast_ne_zero.mpr h)).symm.imp id neg_pos.mpr
  have hpos : 0 < (g0 : L) ∨ 0 < -(g0 : L) ∨ 0 < (g1 : L) ∨ 0 < -(g1 : L) := by
    rcases hg with h | h
    · rcases sgn h with h | h
      · exact .inl h
      · exact .inr (.inl h)
    · exact .inr (.inr (sgn h))
  have key := exists_tight (K := L) Prod.fst Prod.snd
    [((g0 : L), y0 - l0), (-(g0 : L), u0 - y0), ((g1 : L), y1 - l1), (-(g1 : L), u1 - y1)]
  simp only [List.mem_cons, List.not_mem_nil, or_false, forall_eq_or_imp, forall_eq,
    exists_eq_or_imp, exists_eq_left] at key
  obtain ⟨τ, hτ0, ⟨b1, b2, b3, b4⟩, htight⟩ := key
    ⟨sub_nonneg.mpr hy0.1, sub_nonneg.mpr hy0.2, sub_nonneg.mpr hy1.1, sub_nonneg.mpr hy1.2⟩ hpos
  have z0l : (l0 : L) ≤ y0 - g0 * τ := le_sub_comm.mp b1
  have z0u : y0 - g0 * τ ≤ u0 := sub_le_iff_le_add.mpr (neg_le_sub_iff_le_add.mp (neg_mul _ τ ▸ b2))
  have z1l : (l1 : L) ≤ y1 - g1 * τ := le_sub_comm.mp b3
  have z1u : y1 - g1 * τ ≤ u1 := sub_le_iff_le_add.mpr (neg_le_sub_iff_le_add.mp (neg_mul _ τ ▸ b4))
  refine ⟨τ, hτ0, ?_⟩
  rcases htight with ⟨-, e⟩ | ⟨-, e⟩ | ⟨-, e⟩ | ⟨-, e⟩
  · obtain ⟨s, hs0, hs1, hs⟩ := exists_param z1l z1u
    refine ⟨0, 1, [l0, l1], [l0, u1], s, by decide, rfl, rfl, rfl, hs0, hs1, ?_⟩
    show [(l0 : L) + s * (l0 - l0), l1 + s * (u1 - l1)] = [y0 - g0 * τ, y1 - g1 * τ]
    rw [hs, sub_self, mul_zero, add_zero, e, sub_sub_cancel]
  · obtain ⟨s, hs0, hs1, hs⟩ := exists_param z1l z1u
    refine ⟨2, 3, [u0, l1], [u0, u1], s, by decide, rfl, rfl, rfl, hs0, hs1, ?_⟩
    show [(u0 : L) + s * (u0 - u0), l1 + s * (u1 - l1)] = [y0 - g0 * τ, y1 - g1 * τ]
    rw [hs, sub_self, mul_zero, add_zero, sub_eq_add_neg y0, ← neg_mul, e, add_sub_cancel]
  · obtain ⟨s, hs0, hs1, hs⟩ := exists_param z0l z0u
    refine ⟨0, 2, [l0, l1], [u0, l1], s, by decide, rfl, rfl, rfl, hs0, hs1, ?_⟩
    show [(l0 : L) + s * (u0 - l0), l1 + s * (l1 - l1)] = [y0 - g0 * τ, y1 - g1 * τ]
    rw [hs, sub_self, mul_zero, add_zero, e, sub_sub_cancel]
  · obtain ⟨s, hs0, hs1, hs⟩ := exists_param z0l z0u
    refine ⟨1, 3, [l0, u1], [u0, u1], s, by decide, rfl, rfl, rfl, hs0, hs1, ?_⟩
    show [(l0 : L) + s * (u0 - l0), u1 + s * (u1 - u1)] = [y0 - g0 * τ, y1 - g1 * τ]
    rw [hs, sub_self, mul_zero, add_zero, sub_eq_add_neg y1, ← neg_mul, e, add_sub_cancel]

/-- **Completeness at the vertices of `R₁`, every 2-D cone.**  If the cone of `W` contains a
non-zero `g` and every vertex `x` of `R₁` has a witness `y ∈ R₂` (coordinates in any ordered field
`L ⊇ ℚ`) with `w·y ≤ w·x` for every row, the model of `check_dominates` answers `true`. -/
theorem checkDominates_complete_vertices_2d (W : Mat)
    (g0 g1 : Rat) (hg : g0 ≠ 0 ∨ g1 ≠ 0) (hgC : ∀ w ∈ W, 0 ≤ dot w [g0, g1])
    (l1 u1 l2 u2 : Vec) (hl2 : l2.length = 2) (hu2 : u2.length = 2)
    (hsem : ∀ x ∈ vertices l1 u1, ∃ y : List L, GInBox (castV l2) (castV u2) y ∧
      ∀ w ∈ W, gdot (castV w) y ≤ ((dot w x : Rat) : L)) :
    checkDominates W l1 u1 l2 u2 = true := by
  obtain ⟨l20, l21, rfl⟩ := List.length_eq_two.mp hl2
  obtain ⟨u20, u21, rfl⟩ := List.length_eq_two.mp hu2
  simp only [checkDominates, checkDominatesR, List.all_map, List.all_eq_true, Function.comp]
  intro x hx
  obtain ⟨y, hy, hd⟩ := hsem x hx
  obtain ⟨y0, y1, rfl⟩ := List.length_eq_two.mp ((GInBox.length_eq hy).1.trans (castV_length _))
  obtain ⟨τ, hτ0, i, j, a, b, s, hij, hi, hj, hab, hs0, hs1, hz⟩ :=
    slide_to_edge l20 l21 u20 u21 g0 g1 hg y0 y1 ⟨hy.1, hy.2.1⟩ ⟨hy.2.2.1, hy.2.2.2.1⟩
  refine isPtIn_of_seg_witness hi hj hij hab hs0 hs1 fun w hw => ?_
  -- `W (y − g τ) = W y − (W g) τ ≤ W y`
  rw [hz, gdot_gsub (castV w) [y0, y1] ((castV [g0, g1]).map (· * τ)) rfl, gdot_map_mul_right,
    gdot_castV, gdot_eq_dot]
  exact (sub_le_self _ (mul_nonneg (Rat.cast_nonneg.mpr (hgC w hw)) hτ0)).trans (hd w hw)

end TwoD

/-- an invertible 2×2 matrix maps some vector to `(1,1)`: a non-zero vector of its cone -/
theorem cone_vector_2x2 (a b c d : Rat) (hdet : a * d - b * c ≠ 0) :
    ∃ g0 g1 : Rat, (g0 ≠ 0 ∨ g1 ≠ 0) ∧ ∀ w ∈ [[a, b], [c, d]], 0 ≤ dot w [g0, g1] := by
  have h0 : dot [a, b] [(d - b) / (a * d - b * c), (a - c) / (a * d - b * c)] = 1 := by
    simp only [dot]
    rw [add_zero, mul_div_assoc', mul_div_assoc', ← add_div, div_eq_one_iff_eq hdet]
    ring
  have h1 : dot [c, d] [(d - b) / (a * d - b * c), (a - c) / (a * d - b * c)] = 1 := by
    simp only [dot]
    rw [add_zero, mul_div_assoc', mul_div_assoc', ← add_div, div_eq_one_iff_eq hdet]
    ring
  refine ⟨_, _, ?_, List.forall_mem_cons.mpr ⟨h0 ▸ zero_le_one, List.forall_mem_cons.mpr
    ⟨h1 ▸ zero_le_one, List.forall_mem_nil _⟩⟩⟩
  by_contra h
  rw [not_or, not_not, not_not] at h
  rw [h.1, h.2] at h0
  simp [dot] at h0

end VOPy.Pess
