import VOPyVerif.Model.LinCert
import VOPyVerif.Proofs.ConeOrderRat
import Mathlib.Data.Real.Basic
import Mathlib.Data.Rat.Cast.Order
import Mathlib.Tactic.Linarith
import Mathlib.Tactic.Ring
/-!
# Real list vectors and soundness of the three generic checkers of `Model/LinCert.lean`

Real vectors are `List ℝ` (`RVec`) with the same truncating operations as the model's `Vec`
(`rdot`, `radd`, `rsub`, `rsmul`), so that every model quantity casts to its real counterpart
(`cast_dot`, `castV_vadd`, …).  Lemmas about two vectors of equal length go by `eqLen_induction`.

Main results:

* `checkWitness_sound` : `checkWitness n S x` ⇒ the cast of `x` satisfies `S` over `ℝ` (`RSat`);
* `checkFarkas_sound`  : `checkFarkas n S y`  ⇒ no real `x` satisfies `S`;
* `checkKKT_sound`     : `checkKKT n S c x lam` ⇒ `x` satisfies `S` and is a nearest point of
                         `{x | S}` to `c` (squared Euclidean distance), over all *real* points.

The last two rest on the transposition identity `(Aᵀ y) · x = y · (A x)` (`rdot_castV_lincomb`).

Completeness of the searches (they always produce a certificate these checkers accept) is in
`Proofs/LinCertComplete.lean` (Fourier–Motzkin) and `Proofs/LinCertKKT.lean` (active-set projection).
-/
namespace VOPy.LinCert

abbrev RVec := List ℝ

def rdot : RVec → RVec → ℝ
  | a :: as, b :: bs => a * b + rdot as bs
  | _, _ => 0

def radd (a b : RVec) : RVec := List.zipWith (· + ·) a b
def rsub (a b : RVec) : RVec := List.zipWith (· - ·) a b
def rsmul (c : ℝ) (a : RVec) : RVec := a.map (c * ·)
def rnormSq (a : RVec) : ℝ := rdot a a

def castV (v : Vec) : RVec := v.map (fun q : ℚ => (q : ℝ))

/-- induction on two lists of equal length -/
theorem eqLen_induction {α β : Type} {P : ∀ (as : List α) (bs : List β), as.length = bs.length → Prop}
    (nil : P [] [] rfl)
    (cons : ∀ a as b bs (h : as.length = bs.length), P as bs h →
      P (a :: as) (b :: bs) (congrArg Nat.succ h)) :
    ∀ as bs h, P as bs h
  | [], [], _ => nil
  | a :: as, b :: bs, h =>
    cons a as b bs (Nat.succ.inj h) (eqLen_induction nil cons as bs (Nat.succ.inj h))

/-! ### casts -/

@[simp] theorem castV_nil : castV [] = [] := rfl
@[simp] theorem castV_cons (a : ℚ) (v : Vec) : castV (a :: v) = (a : ℝ) :: castV v := rfl
@[simp] theorem castV_length (v : Vec) : (castV v).length = v.length := List.length_map _

theorem castV_append (a b : Vec) : castV (a ++ b) = castV a ++ castV b := List.map_append

@[simp] theorem rdot_nil_left (x : RVec) : rdot [] x = 0 := by simp only [rdot]
@[simp] theorem rdot_nil_right (x : RVec) : rdot x [] = 0 := by cases x <;> simp only [rdot]
@[simp] theorem rdot_cons (a b : ℝ) (as bs : RVec) : rdot (a :: as) (b :: bs) = a * b + rdot as bs :=
  rfl

theorem rdot_eq_gdot (a b : RVec) : rdot a b = ConeOrd.gdot a b := by
  induction a generalizing b with
  | nil => simp
  | cons a as ih => cases b with
    | nil => simp
    | cons b bs => rw [rdot_cons, ConeOrd.gdot_cons, ih]

theorem cast_dot (a b : Vec) : ((dot a b : ℚ) : ℝ) = rdot (castV a) (castV b) := by
  rw [rdot_eq_gdot, ConeOrd.dot_eq_gdot]
  exact (ConeOrd.gdot_cast a b).symm

theorem castV_vadd (a b : Vec) : castV (vadd a b) = radd (castV a) (castV b) := by
  simp only [castV, vadd, radd, List.map_zipWith, List.zipWith_map, Rat.cast_add]

theorem castV_vsub (a b : Vec) : castV (vsub a b) = rsub (castV a) (castV b) := by
  simp only [castV, vsub, rsub, List.map_zipWith, List.zipWith_map, Rat.cast_sub]

theorem castV_smul (c : ℚ) (a : Vec) : castV (smul c a) = rsmul (c : ℝ) (castV a) := by
  simp only [castV, smul, rsmul, List.map_map, Function.comp_def, Rat.cast_mul]

theorem cast_normSq (a : Vec) : ((normSq a : ℚ) : ℝ) = rnormSq (castV a) := cast_dot a a

@[simp] theorem radd_length (a b : RVec) : (radd a b).length = min a.length b.length :=
  List.length_zipWith
@[simp] theorem rsub_length (a b : RVec) : (rsub a b).length = min a.length b.length :=
  List.length_zipWith
@[simp] theorem rsmul_length (c : ℝ) (a : RVec) : (rsmul c a).length = a.length := List.length_map _

/-! The products of real vectors are `ConeOrd.gdot` at `K = ℝ` and take their algebra from there. -/

theorem rdot_comm (a b : RVec) : rdot a b = rdot b a := by
  rw [rdot_eq_gdot, rdot_eq_gdot, ConeOrd.gdot_comm]

theorem rdot_castV_zeros (n : ℕ) (x : RVec) : rdot (castV (zeros n)) x = 0 := by
  rw [rdot_eq_gdot, castV, zeros, List.map_replicate, Rat.cast_zero, ConeOrd.gdot_replicate_zero_left]

theorem rdot_rsmul_left (c : ℝ) (a x : RVec) : rdot (rsmul c a) x = c * rdot a x := by
  rw [rdot_eq_gdot, rdot_eq_gdot]
  exact ConeOrd.gdot_smul_left c a x

theorem rdot_rsmul_right (k : ℝ) (w x : RVec) : rdot w (rsmul k x) = k * rdot w x := by
  rw [rdot_eq_gdot, rdot_eq_gdot]
  exact ConeOrd.gdot_smul k w x

theorem rdot_radd_left (a b x : RVec) (h : a.length = b.length) :
    rdot (radd a b) x = rdot a x + rdot b x := by
  rw [rdot_eq_gdot, rdot_eq_gdot, rdot_eq_gdot]
  exact ConeOrd.gdot_add_left a b x h

theorem rdot_rsub_left (a b x : RVec) (h : a.length = b.length) :
    rdot (rsub a b) x = rdot a x - rdot b x := by
  rw [rdot_eq_gdot, rdot_eq_gdot, rdot_eq_gdot]
  exact ConeOrd.gdot_sub_left a b x h

theorem rdot_radd_right (x a b : RVec) (h : a.length = b.length) :
    rdot x (radd a b) = rdot x a + rdot x b := by
  rw [rdot_eq_gdot, rdot_eq_gdot, rdot_eq_gdot]
  exact ConeOrd.gdot_add x a b h

theorem rdot_rsub_right (x a b : RVec) (h : a.length = b.length) :
    rdot x (rsub a b) = rdot x a - rdot x b := by
  rw [rdot_eq_gdot, rdot_eq_gdot, rdot_eq_gdot]
  exact ConeOrd.gdot_sub x a b h

theorem rnormSq_nonneg (a : RVec) : 0 ≤ rnormSq a := by
  rw [rnormSq, rdot_eq_gdot]
  exact ConeOrd.gdot_self_nonneg a

theorem rnormSq_rsmul (k : ℝ) (a : RVec) : rnormSq (rsmul k a) = k ^ 2 * rnormSq a := by
  rw [rnormSq, rdot_rsmul_left, rdot_rsmul_right, rnormSq, sq, mul_assoc]

theorem rnormSq_radd (u w : RVec) (h : u.length = w.length) :
    rnormSq (radd u w) = rnormSq u + 2 * rdot u w + rnormSq w := by
  simp only [rnormSq, rdot_radd_left _ _ _ h, rdot_radd_right _ _ _ h, rdot_comm w u]; ring

theorem rnormSq_rsub (p q : RVec) (h : p.length = q.length) :
    rnormSq (rsub p q) = rnormSq p - 2 * rdot p q + rnormSq q := by
  simp only [rnormSq, rdot_rsub_left _ _ _ h, rdot_rsub_right _ _ _ h, rdot_comm q p]; ring


/-- `x − c = (p − c) + (x − p)` -/
theorem radd_rsub_rsub (x p c : RVec) (h1 : x.length = p.length) (h2 : p.length = c.length) :
    radd (rsub p c) (rsub x p) = rsub x c :=
  List.ext_getElem (by simp only [radd, rsub, List.length_zipWith, h1, h2, Nat.min_self])
    fun i _ _ => by simp only [radd, rsub, List.getElem_zipWith]; ring

/-! ### linear combinations of rows -/

@[simp] theorem zeros_length (n : ℕ) : (zeros n).length = n := List.length_replicate

theorem lincomb_length (n : ℕ) (R : List Vec) (y : Vec) (h : ∀ r ∈ R, r.length = n) :
    (lincomb n R y).length = n := by
  induction R generalizing y with
  | nil => simp only [lincomb, zeros_length]
  | cons r R ih => cases y with
    | nil => simp only [lincomb, zeros_length]
    | cons y ys =>
      simp only [lincomb, vadd, smul, List.length_zipWith, List.length_map,
        h r List.mem_cons_self, ih ys fun r hr => h r (List.mem_cons_of_mem _ hr), Nat.min_self]

/-- `(Rᵀ y) · x = y · (R x)` for rows with `n` entries -/
theorem rdot_castV_lincomb (n : ℕ) (R : List Vec) (y : Vec) (x : RVec) (h : ∀ r ∈ R, r.length = n) :
    rdot (castV (lincomb n R y)) x = rdot (castV y) (R.map fun r => rdot (castV r) x) := by
  induction R generalizing y with
  | nil => simp only [lincomb, rdot_castV_zeros, List.map_nil, rdot_nil_right]
  | cons r R ih => cases y with
    | nil => simp only [lincomb, rdot_castV_zeros, castV_nil, rdot_nil_left]
    | cons y ys =>
      have hR : ∀ r ∈ R, r.length = n := fun r hr => h r (List.mem_cons_of_mem _ hr)
      simp only [lincomb, castV_vadd, castV_smul, List.map_cons, castV_cons, rdot_cons]
      rw [rdot_radd_left _ _ _ (by simp [lincomb_length n R ys hR, h r List.mem_cons_self]),
        rdot_rsmul_left, ih ys hR]

/-! ### real satisfaction of a system -/

/-- the real vector `x` (with `n` entries) satisfies every inequality of `S` -/
def RSat (n : ℕ) (S : Sys) (x : RVec) : Prop :=
  x.length = n ∧ ∀ r ∈ S, (r.b : ℝ) ≤ rdot (castV r.a) x

theorem wf_iff (n : ℕ) (S : Sys) : wf n S = true ↔ ∀ r ∈ S, r.a.length = n := by
  simp only [wf, List.all_eq_true, decide_eq_true_eq]

theorem satisfies_iff (S : Sys) (x : Vec) :
    satisfies S x = true ↔ ∀ r ∈ S, r.b ≤ dot r.a x := by
  simp only [satisfies, List.all_eq_true, decide_eq_true_eq]

theorem isZero_iff (v : Vec) : isZero v = true ↔ v = zeros v.length := by
  simp only [isZero, List.all_eq_true, decide_eq_true_eq, zeros, List.eq_replicate_iff, true_and]

theorem checkWitness_sound {n : ℕ} {S : Sys} {x : Vec} (h : checkWitness n S x = true) :
    RSat n S (castV x) := by
  simp only [checkWitness, Bool.and_eq_true, decide_eq_true_eq] at h
  obtain ⟨⟨hx, _⟩, hs⟩ := h
  refine ⟨by simpa using hx, fun r hr => ?_⟩
  rw [← cast_dot]
  exact_mod_cast (satisfies_iff S x).1 hs r hr

/-- `Σ yᵢ bᵢ ≤ y · (A x)` for `y ≥ 0` and a real solution `x` of `A x ≥ b` -/
theorem combB_le_rdot (S : Sys) (y : Vec) (x : RVec)
    (hs : ∀ r ∈ S, (r.b : ℝ) ≤ rdot (castV r.a) x) (hy : ∀ v ∈ y, (0 : ℚ) ≤ v) :
    ((combB S y : ℚ) : ℝ) ≤ rdot (castV y) (S.map fun r => rdot (castV r.a) x) := by
  induction S generalizing y with
  | nil => simp [combB]
  | cons r S ih => cases y with
    | nil => simp [combB]
    | cons y ys =>
      have h0 : (0 : ℝ) ≤ (y : ℝ) := by exact_mod_cast hy y List.mem_cons_self
      simp only [combB, List.map_cons, castV_cons, rdot_cons, Rat.cast_add, Rat.cast_mul]
      exact add_le_add (mul_le_mul_of_nonneg_left (hs r List.mem_cons_self) h0)
        (ih ys (fun r hr => hs r (List.mem_cons_of_mem _ hr))
          fun v hv => hy v (List.mem_cons_of_mem _ hv))

/-- `(Aᵀ y) · x = y · (A x)` for a well-formed system -/
theorem rdot_castV_combA {n : ℕ} {S : Sys} (hwf : ∀ r ∈ S, r.a.length = n) (y : Vec) (x : RVec) :
    rdot (castV (combA n S y)) x = rdot (castV y) (S.map fun r => rdot (castV r.a) x) := by
  rw [combA, rdot_castV_lincomb n _ y x (List.forall_mem_map.2 hwf), List.map_map]
  rfl

theorem checkFarkas_sound {n : ℕ} {S : Sys} {y : Vec} (h : checkFarkas n S y = true) :
    ¬ ∃ x : RVec, RSat n S x := by
  simp only [checkFarkas, Bool.and_eq_true, decide_eq_true_eq] at h
  obtain ⟨⟨⟨hwf, hy⟩, hz⟩, hb⟩ := h
  rintro ⟨x, -, hx⟩
  -- 0 = (Aᵀy)·x = y·(Ax) ≥ y·b > 0
  have h1 := combB_le_rdot S y x hx ((allNonneg_iff y).1 hy)
  rw [← rdot_castV_combA ((wf_iff n S).1 hwf), (isZero_iff _).1 hz, rdot_castV_zeros] at h1
  have h3 : (0 : ℝ) < ((combB S y : ℚ) : ℝ) := by exact_mod_cast hb
  linarith

/-- complementary slackness: `lam · (A x) = lam · b` -/
theorem complSlack_rdot (S : Sys) (x lam : Vec) (h : complSlack S x lam = true) :
    rdot (castV lam) (S.map fun r => rdot (castV r.a) (castV x)) = ((combB S lam : ℚ) : ℝ) := by
  induction S generalizing lam with
  | nil => simp [combB]
  | cons r S ih => cases lam with
    | nil => simp [combB]
    | cons l ls =>
      simp only [complSlack, Bool.and_eq_true, decide_eq_true_eq] at h
      have h1 : ((l * (dot r.a x - r.b) : ℚ) : ℝ) = 0 := by rw [h.1, Rat.cast_zero]
      rw [Rat.cast_mul, Rat.cast_sub, cast_dot] at h1
      simp only [List.map_cons, castV_cons, rdot_cons, combB, ih ls h.2, Rat.cast_add, Rat.cast_mul]
      linarith

theorem checkKKT_sound {n : ℕ} {S : Sys} {c x lam : Vec} (h : checkKKT n S c x lam = true) :
    RSat n S (castV x) ∧
    ∀ x' : RVec, RSat n S x' → rnormSq (rsub (castV x) (castV c)) ≤ rnormSq (rsub x' (castV c)) := by
  simp only [checkKKT, Bool.and_eq_true, decide_eq_true_eq] at h
  obtain ⟨⟨⟨⟨⟨hw, hc⟩, -⟩, hl⟩, hst⟩, hcs⟩ := h
  have hsat := checkWitness_sound hw
  refine ⟨hsat, fun x' hx' => ?_⟩
  have hwf : ∀ r ∈ S, r.a.length = n := by
    simp only [checkWitness, Bool.and_eq_true] at hw
    exact (wf_iff n S).1 hw.1.2
  have hlen1 : x'.length = (castV x).length := by rw [hx'.1, hsat.1]
  have hlen2 : (castV x).length = (castV c).length := by rw [hsat.1, castV_length, hc]
  -- (x − c)·(x' − x) = λ·(A x') − λ·(A x) ≥ λ·b − λ·b = 0
  have key : 0 ≤ rdot (rsub (castV x) (castV c)) (rsub x' (castV x)) := by
    rw [rdot_rsub_right _ _ _ hlen1, ← castV_vsub, hst, rdot_castV_combA hwf, rdot_castV_combA hwf,
      complSlack_rdot S x lam hcs]
    linarith [combB_le_rdot S lam x' hx'.2 ((allNonneg_iff lam).1 hl)]
  -- ‖x' − c‖² = ‖x − c‖² + 2 (x − c)·(x' − x) + ‖x' − x‖²
  rw [← radd_rsub_rsub x' (castV x) (castV c) hlen1 hlen2,
    rnormSq_radd _ _ (by simp only [rsub_length, hlen1, hlen2, Nat.min_self])]
  linarith [rnormSq_nonneg (rsub x' (castV x))]

end VOPy.LinCert
