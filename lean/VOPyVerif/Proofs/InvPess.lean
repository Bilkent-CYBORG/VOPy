import VOPyVerif.Proofs.PessimisticComplete
/-!
# Invariances of the pessimistic rectangle comparison (`Model/Pessimistic.lean`, exact instance)

`check_dominates` maps the vertices of both rectangles through `W` and runs the extended-polytope
membership test `isPtIn` in facet space.  A common translation of the rectangles translates every
mapped vertex by `W τ`, a positive scaling scales them.  The test decides `SegWit` (`isPtIn_iff`,
`checkDominates_iff`), and a map that commutes with segments and respects `≤` carries `SegWit`
along (`segWit_map`): that gives the invariance of `isPtIn`, `checkDominates` and the pessimistic
set.  `lineSegAt_translate` and `edgeHit_translate` say the same of the two inner routines directly
(differences, ratios of differences and comparisons only).  Helpers for the invariance section of
`Props/C11.lean`.
-/
namespace VOPy.PessInv
open VOPy VOPy.Inv VOPy.Pess

/-! ## the interpolation step -/

theorem zipWith_interp_vadd (t : ℚ) (a b σ : Vec) (ha : a.length = σ.length) (hb : b.length = σ.length) :
    List.zipWith (fun x y => x + t * (y - x)) (vadd a σ) (vadd b σ) =
      vadd (List.zipWith (fun x y => x + t * (y - x)) a b) σ :=
  zipWith_op_vadd _ (fun _ _ _ => by ring) σ a b ha hb

theorem zipWith_interp_smul (t k : ℚ) (a b : Vec) :
    List.zipWith (fun x y => x + t * (y - x)) (smul k a) (smul k b) =
      smul k (List.zipWith (fun x y => x + t * (y - x)) a b) := by
  simp only [smul, List.zipWith_map, List.map_zipWith]
  congr 1
  funext x y
  ring

theorem lineSegAt_translate (v1 v2 p σ : Vec) (d : Nat) (h1 : v1.length = σ.length)
    (h2 : v2.length = σ.length) (hp : p.length = σ.length) :
    lineSegAt exact false (vadd v1 σ) (vadd v2 σ) (vadd p σ) d =
      (lineSegAt exact false v1 v2 p d).map (fun q => vadd q σ) := by
  by_cases hd : d < σ.length
  · have e : ∀ v : Vec, v.length = σ.length → ∃ x, v[d]? = some x ∧ (vadd v σ)[d]? = some (x + σ[d]) :=
      fun v hv => ⟨v[d]'(hv ▸ hd), List.getElem?_eq_getElem _, by
        rw [getElem?_vadd, List.getElem?_eq_getElem (hv ▸ hd), List.getElem?_eq_getElem hd]⟩
    obtain ⟨a, ha, ha'⟩ := e v1 h1
    obtain ⟨b, hb, hb'⟩ := e v2 h2
    obtain ⟨c, hc, hc'⟩ := e p hp
    rw [lineSegAt_exact ha' hb' hc', lineSegAt_exact ha hb hc, add_sub_add_right_eq_sub,
      add_sub_add_right_eq_sub, zipWith_interp_vadd _ v1 v2 σ h1 h2, apply_ite (Option.map _),
      apply_ite (Option.map _)]
    rfl
  · have n1 : v1[d]? = none := List.getElem?_eq_none (by omega)
    rw [lineSegAt_of_none (.inl n1), lineSegAt_of_none (.inl (by rw [getElem?_vadd, n1]))]
    rfl

/-! ## one edge -/

theorem edgeHit_translate (p v1 v2 σ : Vec) (d : Nat) (hp : p.length = σ.length)
    (h1 : v1.length = σ.length) (h2 : v2.length = σ.length) :
    edgeHit exact false (vadd p σ) d (vadd v1 σ) (vadd v2 σ) = edgeHit exact false p d v1 v2 := by
  unfold edgeHit
  rw [lineSegAt_translate v1 v2 p σ d h1 h2 hp]
  simp only [getElem?_vadd]
  by_cases hd : d < σ.length
  · rw [List.getElem?_eq_getElem (h1 ▸ hd : d < v1.length),
      List.getElem?_eq_getElem (h2 ▸ hd : d < v2.length),
      List.getElem?_eq_getElem (hp ▸ hd : d < p.length), List.getElem?_eq_getElem hd]
    simp only [add_le_add_iff_right]
    congr 1
    cases hq : lineSegAt exact false v1 v2 p d with
    | none => rfl
    | some q => exact vle_vadd q p σ (by rw [lineSegAt_length hq, h1, h2, Nat.min_self]) hp
  · rw [List.getElem?_eq_none (Nat.le_of_not_lt (h1 ▸ hd) : v1.length ≤ d)]

/-! ## the membership test -/

/-- `SegWit` is carried along any map that commutes with segments and respects `≤` -/
theorem segWit_map (g : Vec → Vec) {poly : List Vec} {p : Vec}
    (hc : ∀ t, ∀ a ∈ poly, ∀ b ∈ poly, comb t (g a) (g b) = g (comb t a b))
    (hv : ∀ t, ∀ a ∈ poly, ∀ b ∈ poly, vle (g (comb t a b)) (g p) = vle (comb t a b) p) :
    SegWit (poly.map g) (g p) ↔ SegWit poly p := by
  constructor
  · rintro ⟨_, h1, _, h2, t, h0, h1t, hle⟩
    obtain ⟨a, ha, rfl⟩ := List.mem_map.1 h1
    obtain ⟨b, hb, rfl⟩ := List.mem_map.1 h2
    exact ⟨a, ha, b, hb, t, h0, h1t, by rwa [hc t a ha b hb, hv t a ha b hb] at hle⟩
  · rintro ⟨a, ha, b, hb, t, h0, h1t, hle⟩
    exact ⟨_, List.mem_map_of_mem ha, _, List.mem_map_of_mem hb, t, h0, h1t,
      by rwa [hc t a ha b hb, hv t a ha b hb]⟩

theorem segWit_vadd {poly : List Vec} {p σ : Vec} (hp : p.length = σ.length)
    (hpoly : ∀ v ∈ poly, v.length = σ.length) :
    SegWit (poly.map fun v => vadd v σ) (vadd p σ) ↔ SegWit poly p :=
  segWit_map (fun v => vadd v σ)
    (fun t a ha b hb => zipWith_interp_vadd t a b σ (hpoly a ha) (hpoly b hb))
    (fun t a ha b hb => vle_vadd _ _ _
      (by rw [comb_length _ _ _ ((hpoly a ha).trans (hpoly b hb).symm), hpoly a ha]) hp)

theorem segWit_smul (k : ℚ) (hk : 0 < k) (poly : List Vec) (p : Vec) :
    SegWit (poly.map (smul k)) (smul k p) ↔ SegWit poly p :=
  segWit_map (smul k) (fun t a _ b _ => zipWith_interp_smul t k a b)
    (fun _ _ _ _ _ => vle_smul k hk _ _)

theorem isPtIn_translate (p σ : Vec) (poly : List Vec) (hp : p.length = σ.length)
    (hpoly : ∀ v ∈ poly, v.length = σ.length) :
    isPtIn exact false (vadd p σ) (poly.map (fun v => vadd v σ)) = isPtIn exact false p poly := by
  rw [Bool.eq_iff_iff, isPtIn_iff fun v hv => (hpoly v hv).trans hp.symm, isPtIn_iff fun v hv => by
    obtain ⟨a, ha, rfl⟩ := List.mem_map.1 hv
    simp [hpoly a ha, hp]]
  exact segWit_vadd hp hpoly

/-! ## `check_dominates` and the pessimistic set -/

theorem mapped_vertices_translate (W : Mat) (l u τ : Vec) (hl : l.length = τ.length)
    (hu : u.length = τ.length) :
    (vertices (vadd l τ) (vadd u τ)).map (matVec W) =
      ((vertices l u).map (matVec W)).map (fun v => vadd v (matVec W τ)) := by
  rw [pess_vertices_eq, pess_vertices_eq, rect_vertices_vadd l u τ hl hu, List.map_map, List.map_map]
  apply List.map_congr_left
  intro v hv
  have := rect_vertex_length l u (hl.trans hu.symm) v hv
  simp only [Function.comp_apply]
  exact matVec_vadd W v τ (this.trans hl)

theorem mapped_vertices_scale (W : Mat) (k : ℚ) (l u : Vec) :
    (vertices (smul k l) (smul k u)).map (matVec W) = ((vertices l u).map (matVec W)).map (smul k) := by
  rw [pess_vertices_eq, pess_vertices_eq, rect_vertices_smul, List.map_map, List.map_map]
  apply List.map_congr_left
  intro v _
  simp only [Function.comp_apply]
  exact matVec_smul W k v

theorem checkDominates_translate (W : Mat) (l1 u1 l2 u2 τ : Vec)
    (h1 : l1.length = τ.length) (h2 : u1.length = τ.length) (h3 : l2.length = τ.length)
    (h4 : u2.length = τ.length) :
    checkDominates W (vadd l1 τ) (vadd u1 τ) (vadd l2 τ) (vadd u2 τ) = checkDominates W l1 u1 l2 u2 := by
  rw [Bool.eq_iff_iff, checkDominates_iff, checkDominates_iff,
    mapped_vertices_translate W l2 u2 τ h3 h4, pess_vertices_eq, pess_vertices_eq l1,
    rect_vertices_vadd l1 u1 τ h1 h2, List.forall_mem_map]
  refine forall₂_congr fun x hx => ?_
  rw [matVec_vadd W x τ ((rect_vertex_length l1 u1 (h1.trans h2.symm) x hx).trans h1)]
  refine segWit_vadd (by simp) fun a ha => ?_
  obtain ⟨v, -, rfl⟩ := List.mem_map.1 ha
  simp

theorem checkDominates_scale (W : Mat) (k : ℚ) (hk : 0 < k) (l1 u1 l2 u2 : Vec) :
    checkDominates W (smul k l1) (smul k u1) (smul k l2) (smul k u2) = checkDominates W l1 u1 l2 u2 := by
  rw [Bool.eq_iff_iff, checkDominates_iff, checkDominates_iff, mapped_vertices_scale,
    pess_vertices_eq, pess_vertices_eq l1, rect_vertices_smul, List.forall_mem_map]
  refine forall₂_congr fun x _ => ?_
  rw [matVec_smul]
  exact segWit_smul k hk _ _

theorem pessimisticSet_map (g : Vec × Vec → Vec × Vec) (W : Mat) (regions : List (Vec × Vec))
    (active : List Nat)
    (hg : ∀ rj ∈ regions, ∀ ri ∈ regions,
      checkDominates W (g rj).1 (g rj).2 (g ri).1 (g ri).2 = checkDominates W rj.1 rj.2 ri.1 ri.2) :
    pessimisticSet W (regions.map g) active = pessimisticSet W regions active := by
  unfold pessimisticSet pessimisticSetR
  apply List.filter_congr
  intro i _
  congr 1
  apply any_congr
  intro j _
  congr 1
  simp only [List.getElem?_map]
  cases hj : regions[j]? with
  | none => rfl
  | some rj =>
    cases hi : regions[i]? with
    | none => rfl
    | some ri =>
      simp only [Option.map_some]
      exact hg rj (List.mem_of_getElem? hj) ri (List.mem_of_getElem? hi)

end VOPy.PessInv
