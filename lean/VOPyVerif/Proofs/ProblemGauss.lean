import Mathlib.Probability.Distributions.Gaussian.Multivariate
import Mathlib.Probability.Distributions.Gaussian.CharFun
import Mathlib.Probability.Distributions.Gaussian.Fernique
import Mathlib.Probability.Moments.Covariance
/-! Helper lemmas for C20: the law of `f + x·M` for a standard Gaussian row `x` is the multivariate
Gaussian with mean `f` and covariance `MᵀM`.  The measure theory is done once for the image
`c + A x` of a standard Gaussian under an arbitrary continuous linear map `A` of a Euclidean space;
matrices enter only at the end. -/
namespace VOPy.Problem
open MeasureTheory Matrix WithLp ProbabilityTheory
open scoped RealInnerProductSpace

section Affine
variable {E : Type*} [NormedAddCommGroup E] [InnerProductSpace ℝ E] [FiniteDimensional ℝ E]
  [MeasurableSpace E] [BorelSpace E]

/-- The image of a standard Gaussian under `x ↦ c + A x` is the Gaussian measure with mean `c` and
covariance form `⟪u, A A† v⟫`.  The adjoint of `A` is passed as a second map `B` with its defining
property: stating it with `ContinuousLinearMap.adjoint` would make every use elaborate that term,
which is slow. -/
theorem map_affine_stdGaussian_eq (c : E) (A B : E →L[ℝ] E) (hB : ∀ x y, ⟪B x, y⟫ = ⟪x, A y⟫)
    (ν : Measure E) [IsGaussian ν] (hm : ∫ x, x ∂ν = c)
    (hc : ∀ u v, covarianceBilin ν u v = ⟪u, A (B v)⟫) :
    (stdGaussian E).map (fun x => c + A x) = ν := by
  rw [show (stdGaussian E).map (fun x => c + A x) = ((stdGaussian E).map A).map (fun x => c + x) from
    (Measure.map_map (measurable_const_add c) A.measurable).symm]
  refine IsGaussian.ext ?_ ?_
  · simp only [id_eq]
    rw [integral_map (measurable_const_add c).aemeasurable (by fun_prop),
      integral_add (integrable_const c) IsGaussian.integrable_fun_id, integral_const,
      A.integral_id_map IsGaussian.integrable_id, integral_id_stdGaussian, map_zero, add_zero,
      probReal_univ, one_smul, hm]
  · ext u v
    rw [covarianceBilin_map_const_add, covarianceBilin_map IsGaussian.memLp_two_id,
      covarianceBilin_stdGaussian, innerSL_apply_apply,
      ← (ContinuousLinearMap.eq_adjoint_iff B A).mpr hB, hB, hc]
end Affine

variable {ι : Type*} [Fintype ι]

theorem posSemidef_transpose_mul_self (M : Matrix ι ι ℝ) : (Mᵀ * M).PosSemidef :=
  conjTranspose_eq_transpose_of_trivial M ▸ posSemidef_conjTranspose_mul_self M

theorem posSemidef_self_mul_transpose (M : Matrix ι ι ℝ) : (M * Mᵀ).PosSemidef :=
  conjTranspose_eq_transpose_of_trivial M ▸ posSemidef_self_mul_conjTranspose M

variable [DecidableEq ι]

/-- a multivariate Gaussian determines its (positive semidefinite) covariance matrix -/
theorem multivariateGaussian_inj {μ : EuclideanSpace ℝ ι} {S T : Matrix ι ι ℝ} (hS : S.PosSemidef)
    (hT : T.PosSemidef) : multivariateGaussian μ S = multivariateGaussian μ T ↔ S = T := by
  refine ⟨fun h => ?_, fun h => by rw [h]⟩
  ext i j
  rw [← covariance_eval_multivariateGaussian (μ := μ) hS i j,
    ← covariance_eval_multivariateGaussian (μ := μ) hT i j, h]

/-- The row map `x ↦ x·M` is `toEuclideanCLM Mᵀ`, whose adjoint is `toEuclideanCLM M`; so the covariance
form of the image is `⟪u, Mᵀ M v⟫`, that of `multivariateGaussian f (Mᵀ * M)`. -/
theorem map_add_vecMul_stdGaussian (f : EuclideanSpace ℝ ι) (M : Matrix ι ι ℝ) :
    (stdGaussian (EuclideanSpace ℝ ι)).map (fun x => toLp 2 (ofLp f + ofLp x ᵥ* M)) =
      multivariateGaussian f (Mᵀ * M) := by
  have hmap : (fun x : EuclideanSpace ℝ ι => toLp 2 (ofLp f + ofLp x ᵥ* M)) =
      fun x => f + toEuclideanCLM (𝕜 := ℝ) (n := ι) Mᵀ x := by
    funext x
    rw [← mulVec_transpose]
    rfl
  have hadj : ∀ x y : EuclideanSpace ℝ ι, ⟪toEuclideanCLM (𝕜 := ℝ) (n := ι) M x, y⟫ =
      ⟪x, toEuclideanCLM (𝕜 := ℝ) (n := ι) Mᵀ y⟫ := fun x y => by
    rw [real_inner_comm, inner_toEuclideanCLM, inner_toEuclideanCLM, mulVec_transpose,
      dotProduct_mulVec, dotProduct_comm]
  rw [hmap]
  refine map_affine_stdGaussian_eq f _ _ hadj _ integral_id_multivariateGaussian fun u v => ?_
  rw [covarianceBilin_multivariateGaussian (posSemidef_transpose_mul_self M),
    inner_toEuclideanCLM, ofLp_toEuclideanCLM, mulVec_mulVec]

/-! ## the standard Gaussian has mean 0 and identity second moment -/

variable {d : Nat}

theorem stdGaussian_memLp_coord (i : Fin d) :
    MemLp (fun x : EuclideanSpace ℝ (Fin d) => x i) 2 (stdGaussian (EuclideanSpace ℝ (Fin d))) :=
  (IsGaussian.memLp_two_id (μ := stdGaussian (EuclideanSpace ℝ (Fin d)))).eval_piLp i

theorem stdGaussian_integral_coord (i : Fin d) :
    ∫ x : EuclideanSpace ℝ (Fin d), x i ∂(stdGaussian (EuclideanSpace ℝ (Fin d))) = 0 :=
  integral_strongDual_stdGaussian (E := EuclideanSpace ℝ (Fin d))
    (EuclideanSpace.proj i : EuclideanSpace ℝ (Fin d) →L[ℝ] ℝ)

theorem stdGaussian_integral_coord_mul (i j : Fin d) :
    ∫ x : EuclideanSpace ℝ (Fin d), x i * x j ∂(stdGaussian (EuclideanSpace ℝ (Fin d))) =
      if i = j then 1 else 0 := by
  have hS : (1 : Matrix (Fin d) (Fin d) ℝ).PosSemidef := Matrix.PosSemidef.one
  have h := covariance_eval_multivariateGaussian (μ := (0 : EuclideanSpace ℝ (Fin d))) hS i j
  rw [multivariateGaussian_zero_one, covariance_eq_sub (stdGaussian_memLp_coord i) (stdGaussian_memLp_coord j),
    stdGaussian_integral_coord, stdGaussian_integral_coord] at h
  simp only [Pi.mul_apply, mul_zero, sub_zero] at h
  rw [h, Matrix.one_apply]

end VOPy.Problem
