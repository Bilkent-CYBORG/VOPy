import VOPyVerif.Proofs.AccuracySets
/-!
# C01, Auer: the invariant over rounds, abstractly

`Steps.auerRound` (every width looked up by design; closed forms of its cores in `Proofs/Steps.lean`)
is read through three Boolean relations on design indices computed from the centres and width rows
of the round,

* `dcert i j` — the elimination certificate `np.all(m(c_i, c_j) > β_i + β_j)`,
* `p1brk i j` — stage 1 of `pareto_updating`: `np.all(M(c_i, c_j) < β_i + β_j)` (i is held back by j),
* `p2brk i j` — stage 2: `np.all(M(c_j, c_i) <= β_i + β_j)` (i is left in S because j may need it),

and the invariant `AInv` is shown to be preserved by a round whose relations are sound with
respect to the true means (`ARoundSound`).  The true means enter through `slt` (strictly smaller in
every objective: what a certificate gives), `dom` (weak domination) and `good`.  `ainv_final` reads the
two conclusions off the invariant at termination.
-/
namespace VOPy.Accuracy
open VOPy VOPy.Steps

/-! ### `Steps.auerRound` through relations on indices -/

def dcert (centre width : Nat → Vec) (i j : Nat) : Bool :=
  auerDomCert centre (i, width i) (j, width j)

def p1brk (eps : Rat) (centre width : Nat → Vec) (i j : Nat) : Bool :=
  allLt (bigM eps (centre i) (centre j)) (vadd (width i) (width j))

def p2brk (eps : Rat) (centre width : Nat → Vec) (i j : Nat) : Bool :=
  allLe (bigM eps (centre j) (centre i)) (vadd (width i) (width j))

/-! ### the abstract invariant -/

/-- facts about the true means for Auer's (componentwise) order -/
structure ATruth (K : Nat) (slt dom good : Nat → Nat → Prop) : Prop where
  slt_trans : ∀ i j k, i < K → j < K → k < K → slt i j → slt j k → slt i k
  slt_irrefl : ∀ i, i < K → ¬ slt i i
  slt_dom : ∀ i j, i < K → j < K → slt i j → dom j i
  dom_trans : ∀ i j k, i < K → j < K → k < K → dom i j → dom j k → dom i k
  good_refl : ∀ i, i < K → good i i
  good_mono : ∀ i k j, i < K → k < K → j < K → good i k → dom k j → good i j

structure AInv (K : Nat) (dom good : Nat → Nat → Prop) (S P : List Nat) : Prop where
  nodupS : S.Nodup
  nodupP : P.Nodup
  disj : ∀ x, x ∈ S → x ∉ P
  lt : ∀ x, x ∈ S ∨ x ∈ P → x < K
  covered : ∀ i, i < K → i ∉ S → i ∉ P → ∃ j, (j ∈ S ∨ j ∈ P) ∧ dom j i
  acc : ∀ i, i ∈ P → ∀ j, j < K → good i j
  accS : ∀ s, s ∈ S → ∀ p, p ∈ P → good s p

/-- soundness of one round's three relations with respect to the true means -/
structure ARoundSound (slt good : Nat → Nat → Prop) (dc b1 b2 : Rel) (S : List Nat) : Prop where
  cert_sound : ∀ i, i ∈ S → ∀ j, j ∈ S → j ≠ i → dc i j = true → slt i j
  p1_sound : ∀ i, i ∈ S → ∀ j, j ∈ S → j ≠ i → b1 i j = false → good i j
  p2_sound : ∀ i, i ∈ S → ∀ j, j ∈ S → j ≠ i → b2 i j = false → good j i

theorem ainv_init (K : Nat) (dom good : Nat → Nat → Prop) : AInv K dom good (List.range K) [] where
  nodupS := List.nodup_range
  nodupP := List.nodup_nil
  disj := fun _ _ h => nomatch h
  lt := fun _ hx => hx.elim List.mem_range.mp (fun h => nomatch h)
  covered := fun _ hi hS _ => absurd (List.mem_range.mpr hi) hS
  acc := fun _ h => nomatch h
  accS := fun _ _ _ h => nomatch h

section
variable {K : Nat} {slt dom good : Nat → Nat → Prop} {eps : Rat} {centre width : Nat → Vec}
  {S P : List Nat}

/-- A design discarded in this round lies strictly below a surviving candidate: a witness that is
maximal for the certificates (which are sound for the strict order `slt` of the truth). -/
theorem auer_discarded_dominated (htruth : ATruth K slt dom good) (hinv : AInv K dom good S P)
    (hs : ARoundSound slt good (dcert centre width) (p1brk eps centre width) (p2brk eps centre width) S) :
    ∀ i ∈ S, i ∉ auerDiscard centre width S →
      ∃ k, (k ∈ auerDiscard centre width S ∨ k ∈ P) ∧ dom k i := by
  intro i hiS hi1
  have hmem : ∀ x, x ∈ auerDiscard centre width S ↔
      x ∈ S ∧ ∀ j ∈ S, j ≠ x → dcert centre width x j = false := fun x => mem_auerDiscard hinv.nodupS
  have hltS : ∀ x ∈ S, x < K := fun x hx => hinv.lt x (Or.inl hx)
  have hex : ∃ j ∈ S, (decide (j ≠ i) && dcert centre width i j) = true := by
    apply Classical.byContradiction
    intro hno
    exact hi1 ((hmem i).mpr ⟨hiS, fun j hj hne =>
      Bool.eq_false_iff.mpr fun h => hno ⟨j, hj, by rw [decide_eq_true hne, h]; rfl⟩⟩)
  obtain ⟨k, hkS, hik, hkmax⟩ := exists_maximal_above_of_lt
    (fun a b => decide (b ≠ a) && dcert centre width a b) slt S
    (fun a ha b hb c hc => htruth.slt_trans a b c (hltS a ha) (hltS b hb) (hltS c hc))
    (fun a ha => htruth.slt_irrefl a (hltS a ha))
    (fun a ha b hb h =>
      hs.cert_sound a ha b hb (of_decide_eq_true (Bool.and_eq_true_iff.mp h).1)
        (Bool.and_eq_true_iff.mp h).2)
    i hiS hex
  refine ⟨k, Or.inl ((hmem k).mpr ⟨hkS, fun l hl hne => ?_⟩),
    htruth.slt_dom i k (hltS i hiS) (hltS k hkS) hik⟩
  have := hkmax l hl
  rwa [decide_eq_true hne, Bool.true_and] at this

/-- A candidate among the survivors `S₁` that passes both stages is `good` against every living
design: stage 1 says so for `S₁`, (accS) for `P`. -/
theorem auer_new_good_live (htruth : ATruth K slt dom good) (hinv : AInv K dom good S P)
    (hs : ARoundSound slt good (dcert centre width) (p1brk eps centre width) (p2brk eps centre width) S)
    {S₁ : List Nat} (hsub : ∀ x ∈ S₁, x ∈ S) :
    ∀ i ∈ auerNewParetoCore eps centre (byDesign width S₁), ∀ k, (k ∈ S₁ ∨ k ∈ P) → good i k := by
  intro i hi k hk
  obtain ⟨hi1, hp1⟩ := mem_auerP1.mp (mem_auerNewPareto.mp hi).1
  by_cases hki : k = i
  · subst hki; exact htruth.good_refl k (hinv.lt k (Or.inl (hsub k hi1)))
  · rcases hk with hk1 | hkP
    · exact hs.p1_sound i (hsub i hi1) k (hsub k hk1) hki (hp1 k hk1 hki)
    · exact hinv.accS i (hsub i hi1) k hkP

/-- **One Auer round preserves the invariant.** -/
theorem auer_step (htruth : ATruth K slt dom good) (hinv : AInv K dom good S P)
    (hs : ARoundSound slt good (dcert centre width) (p1brk eps centre width) (p2brk eps centre width) S) :
    AInv K dom good (auerRound eps centre width S P).1 (auerRound eps centre width S P).2 := by
  -- `S₁`: the survivors of discarding
  have hS1nd : (auerDiscard centre width S).Nodup := nodup_removeAll hinv.nodupS
  have hS1sub : ∀ x ∈ auerDiscard centre width S, x ∈ S :=
    fun x hx => ((mem_auerDiscard hinv.nodupS).mp hx).1
  have hsurv := auer_discarded_dominated htruth hinv hs
  show AInv K dom good (removeAll _ _) (addAll _ _)
  generalize auerDiscard centre width S = S₁ at *
  have hNsub : ∀ x ∈ auerNewParetoCore eps centre (byDesign width S₁), x ∈ S₁ :=
    fun x hx => (mem_auerP1.mp (mem_auerNewPareto.mp hx).1).1
  obtain ⟨hcov2, hacc2⟩ := covered_acc_of_move htruth.dom_trans htruth.good_mono hS1nd hS1sub hNsub
    hinv.lt hinv.covered hinv.acc hsurv (auer_new_good_live htruth hinv hs hS1sub)
  refine
    { nodupS := nodup_removeAll hS1nd
      nodupP := nodup_addAll hinv.nodupP
      disj := move_disjoint hS1nd fun x hx => hinv.disj x (hS1sub x hx)
      lt := fun x hx => hinv.lt x ((move_subset hNsub hx).imp_left (hS1sub x))
      covered := hcov2, acc := hacc2, accS := ?_ }
  intro s hs2 p hp2
  obtain ⟨hs1, hsn⟩ := (mem_removeAll hS1nd).mp hs2
  rcases mem_addAll.mp hp2 with h | h
  · exact hinv.accS s (hS1sub s hs1) p h
  · -- `p` is new in `P`, `s` stays: stage 1 if `s` passed it, the hold-back test otherwise
    obtain ⟨hpP1, hq⟩ := mem_auerNewPareto.mp h
    have hp1 := (mem_auerP1.mp hpP1).1
    have hps : p ≠ s := fun hc => hsn (hc ▸ h)
    by_cases hsP1 : s ∈ auerP1 eps centre width S₁
    · exact hs.p1_sound s (hS1sub s hs1) p (hS1sub p hp1) hps ((mem_auerP1.mp hsP1).2 p hp1 hps)
    · exact hs.p2_sound p (hS1sub p hp1) s (hS1sub s hs1) (fun hc => hps hc.symm) (hq s hs1 hsP1)

end

/-- **The invariant holds after every round** of an Auer run all of whose rounds are sound. -/
theorem auer_run_inv {K : Nat} {slt dom good : Nat → Nat → Prop} (htruth : ATruth K slt dom good)
    (eps : Rat) (centre width : Nat → Nat → Vec) (T : Nat)
    (hs : ∀ r, r < T → ARoundSound slt good (dcert (centre r) (width r)) (p1brk eps (centre r) (width r))
      (p2brk eps (centre r) (width r)) (auerRun K eps centre width r).1) :
    AInv K dom good (auerRun K eps centre width T).1 (auerRun K eps centre width T).2 := by
  induction T with
  | zero => exact ainv_init K dom good
  | succ T ih =>
    exact auer_step htruth (ih fun r hr => hs r (Nat.lt_succ_of_lt hr)) (hs T (Nat.lt_succ_self T))

/-- at termination (`S = []`): the conclusions (a), (b) as in `pinv_final` -/
theorem ainv_final {K : Nat} {dom good : Nat → Nat → Prop} {S P : List Nat}
    (h : AInv K dom good S P) (hS : S = []) :
    (∀ i, i < K → i ∉ P → ∃ j ∈ P, dom j i) ∧ (∀ i ∈ P, ∀ j, j < K → good i j) := by
  subst hS
  exact ⟨covered_of_nil h.covered, h.acc⟩

end VOPy.Accuracy
