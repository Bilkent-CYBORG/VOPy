import VOPyVerif.Model.Naive
import VOPyVerif.Proofs.RealInst
import VOPyVerif.Proofs.NaiveTail
import VOPyVerif.Proofs.NaiveDet
import Mathlib.Analysis.SpecialFunctions.Trigonometric.Bounds
import Mathlib.Algebra.Order.Floor.Ring
/-!
# C08 helper: the sample-count formula at `ℝ`, the union bound, and the arithmetic `… ≤ δ`
-/
open MeasureTheory ProbabilityTheory Real
open scoped NNReal ENNReal

namespace VOPy.Naive
open VOPy VOPy.RealLike

open Classical in
noncomputable instance : LtB ℝ := ⟨fun a b => decide (a < b)⟩
noncomputable instance : CeilNat ℝ := ⟨fun x => ⌈x⌉₊⟩

/-! ### the formula terms at `ℝ`, and the sample count -/

theorem coneBeta_real (θdeg : ℝ) :
    coneBeta θdeg
      = if θdeg / 180 * π < π / 2 then 1 / Real.sin (θdeg / 180 * π) else 1 := by
  simp only [coneBeta, LtB.ltb, RealLike.ofNat_real, RealLike.pi_real, RealLike.sin_real,
    decide_eq_true_eq, Nat.cast_ofNat, Nat.cast_one]

theorem naiveC_real : (naiveC : ℝ) = 1 + √2 := by
  simp [naiveC]

/-- the real number handed to `np.ceil`, with the argument of the logarithm as one quotient -/
theorem naiveLreal_real (c s β ε δ : ℝ) (m K : ℕ) :
    naiveLreal c s β ε δ m K
      = 4 * (c * s * β / ε) ^ 2 * Real.log (2 * m * ((K * (K - 1) : ℕ) : ℝ) / δ) := by
  have h : ((4 * m : ℕ) : ℝ) / (2 * δ / ((K * (K - 1) : ℕ) : ℝ))
      = 2 * m * ((K * (K - 1) : ℕ) : ℝ) / δ := by
    rw [div_div_eq_mul_div, Nat.cast_mul 4 m, Nat.cast_ofNat,
      ← mul_div_mul_left (2 * m * ((K * (K - 1) : ℕ) : ℝ)) δ two_ne_zero]
    ring
  simp only [naiveLreal, RealLike.ofNat_real, RealLike.sq_real, RealLike.log_real, Nat.cast_ofNat, h]

theorem le_pairCount {K : ℕ} (hK : 2 ≤ K) : (K : ℝ) ≤ ((K * (K - 1) : ℕ) : ℝ) :=
  Nat.cast_le.mpr (Nat.le_mul_of_pos_right K (Nat.sub_pos_of_lt hK))

theorem four_le_logArg (m K : ℕ) (hK : 2 ≤ K) (hm : 1 ≤ m) (δ : ℝ) (hδ : 0 < δ) (hδ1 : δ ≤ 1) :
    4 ≤ 2 * m * ((K * (K - 1) : ℕ) : ℝ) / δ := by
  have hN : (2 : ℝ) ≤ ((K * (K - 1) : ℕ) : ℝ) := (Nat.ofNat_le_cast.mpr hK).trans (le_pairCount hK)
  have hmN : (4 : ℝ) ≤ 2 * (m : ℝ) * ((K * (K - 1) : ℕ) : ℝ) :=
    calc (4 : ℝ) = 2 * 1 * 2 := by norm_num
      _ ≤ 2 * (m : ℝ) * ((K * (K - 1) : ℕ) : ℝ) :=
        mul_le_mul (mul_le_mul_of_nonneg_left (Nat.one_le_cast.mpr hm) zero_le_two) hN zero_le_two
          (by positivity)
  rw [le_div_iff₀ hδ]
  exact (mul_le_of_le_one_right zero_le_four hδ1).trans hmN

/-- the real number handed to `np.ceil` is positive: the logarithm's argument exceeds `1` -/
theorem naiveLreal_pos_general (c s β ε δ : ℝ) (m K : ℕ) (hK : 2 ≤ K) (hm : 1 ≤ m)
    (hc : 0 < c) (hs : 0 < s) (hβ : 0 < β) (hε : 0 < ε) (hδ : 0 < δ) (hδ1 : δ ≤ 1) :
    0 < naiveLreal c s β ε δ m K := by
  rw [naiveLreal_real]
  exact mul_pos (by positivity)
    (Real.log_pos ((by norm_num : (1 : ℝ) < 4).trans_le (four_le_logArg m K hK hm δ hδ hδ1)))

/-! ### the cone angle and `β` -/

theorem theta_rad_lt_pi {θdeg : ℝ} (h1 : θdeg < 180) : θdeg / 180 * π < π := by
  have hlt : θdeg / 180 < 1 := by rw [div_lt_one (by norm_num)]; exact h1
  exact (mul_lt_mul_of_pos_right hlt Real.pi_pos).trans_eq (one_mul π)

/-- the cone angle in radians lies in `(0, π)`, so its sine is positive -/
theorem sin_theta_pos {θdeg : ℝ} (h0 : 0 < θdeg) (h1 : θdeg < 180) :
    0 < Real.sin (θdeg / 180 * π) :=
  Real.sin_pos_of_pos_of_lt_pi (by positivity) (theta_rad_lt_pi h1)

/-- `β = 1/sin θ` for `θ < 90°`, `1` otherwise; in particular `β ≥ 1 > 0` on `(0°, 180°)`. -/
theorem coneBeta_ge_one {θdeg : ℝ} (h0 : 0 < θdeg) (h1 : θdeg < 180) : 1 ≤ (coneBeta θdeg : ℝ) := by
  rw [coneBeta_real]
  split_ifs with h
  · rw [le_div_iff₀ (sin_theta_pos h0 h1), one_mul]
    exact Real.sin_le_one _
  · exact le_refl _

theorem coneBeta_pos {θdeg : ℝ} (h0 : 0 < θdeg) (h1 : θdeg < 180) : 0 < (coneBeta θdeg : ℝ) :=
  one_pos.trans_le (coneBeta_ge_one h0 h1)

/-- `β² sin²θ = 1` on the acute branch — the hypothesis of the planar lemma for unit normals with
`w₁·w₂ = −cos θ`: `pq = 1 ≤ β² (1 − cos²θ)`; `cos θ ≤ 0` on the other branch. -/
theorem coneBeta_planar {θdeg : ℝ} (h0 : 0 < θdeg) (h1 : θdeg < 180) :
    -Real.cos (θdeg / 180 * π) < 0 →
      (1 : ℝ) ≤ (coneBeta θdeg : ℝ) ^ 2 * (1 - Real.cos (θdeg / 180 * π) ^ 2) := by
  intro hc
  have hacute : θdeg / 180 * π < π / 2 := by
    by_contra hge
    exact (neg_lt_zero.mp hc).not_ge (Real.cos_nonpos_of_pi_div_two_le_of_le (not_lt.mp hge)
      ((theta_rad_lt_pi h1).le.trans (le_add_of_nonneg_right (by positivity))))
  rw [coneBeta_real, if_pos hacute, ← Real.sin_sq, div_pow, one_pow,
    div_mul_cancel₀ _ (pow_ne_zero 2 (sin_theta_pos h0 h1).ne')]

/-! ### union bound over designs and coordinates -/

/-- index of one noise coordinate: (design, round, objective) -/
abbrev NoiseIdx (K L : ℕ) := Fin K × Fin L × Fin 2

/-- deviation of the sample mean of design `i`, objective `c`, from its true mean:
the mean of the `L` noise terms -/
noncomputable def dev {K L : ℕ} (ξ : NoiseIdx K L → ℝ) (i : Fin K) (c : Fin 2) : ℝ :=
  (∑ t : Fin L, ξ (i, t, c)) / L

/-- tail of one coordinate of one design's sample mean, which is `N(0, v/L)` -/
theorem dev_tail {K L : ℕ} (hL : 0 < L) (v : ℝ≥0) (hv : v ≠ 0) (t : ℝ) (ht : 0 ≤ t) (i : Fin K)
    (c : Fin 2) :
    (noiseMeasure (NoiseIdx K L) v).real {ξ | t < (dev ξ i c) ^ 2}
      ≤ rexp (-(t * L) / (2 * v)) := by
  have h := mean_dev_tail v hv (fun t : Fin L => ((i, t, c) : NoiseIdx K L))
    (fun a b h => (Prod.mk.inj (Prod.mk.inj h).2).1) Finset.univ
    (Finset.univ_nonempty_iff.mpr ⟨⟨0, hL⟩⟩) t ht
  rwa [Finset.card_univ, Fintype.card_fin] at h

/-- **Union bound.**  Probability that some design's sample mean deviates (Euclidean norm) by more
than `ρ` from its true mean, under i.i.d. `N(0, v)` noise coordinates and `L ≥ 1` rounds. -/
theorem dev_event_bound (K L : ℕ) (hL : 0 < L) (v : ℝ≥0) (hv : v ≠ 0) (ρ : ℝ) :
    (noiseMeasure (NoiseIdx K L) v).real
        {ξ | ∃ i : Fin K, ρ ^ 2 < ∑ c : Fin 2, (dev ξ i c) ^ 2}
      ≤ 2 * K * rexp (-(ρ ^ 2 * L) / (4 * v)) := by
  -- if the two squared coordinates sum to more than `ρ²`, one of them exceeds `ρ²/2`
  have hsub : {ξ : NoiseIdx K L → ℝ | ∃ i : Fin K, ρ ^ 2 < ∑ c : Fin 2, (dev ξ i c) ^ 2}
      ⊆ ⋃ i : Fin K, ⋃ c : Fin 2, {ξ | ρ ^ 2 / 2 < (dev ξ i c) ^ 2} := by
    rintro ξ ⟨i, hi⟩
    rw [Fin.sum_univ_two] at hi
    simp only [Set.mem_iUnion, Set.mem_ofPred_eq]
    rcases lt_or_ge (ρ ^ 2 / 2) ((dev ξ i 0) ^ 2) with h | h
    · exact ⟨i, 0, h⟩
    · refine ⟨i, 1, ?_⟩
      calc ρ ^ 2 / 2 = ρ ^ 2 - ρ ^ 2 / 2 := (sub_half _).symm
        _ ≤ ρ ^ 2 - (dev ξ i 0) ^ 2 := sub_le_sub_left h _
        _ < (dev ξ i 1) ^ 2 := sub_lt_iff_lt_add'.mpr hi
  have he : -(ρ ^ 2 / 2 * (L : ℝ)) / (2 * v) = -(ρ ^ 2 * L) / (4 * v) := by ring
  calc (noiseMeasure (NoiseIdx K L) v).real
        {ξ | ∃ i : Fin K, ρ ^ 2 < ∑ c : Fin 2, (dev ξ i c) ^ 2}
      ≤ (noiseMeasure (NoiseIdx K L) v).real
          (⋃ i : Fin K, ⋃ c : Fin 2, {ξ | ρ ^ 2 / 2 < (dev ξ i c) ^ 2}) :=
        measureReal_mono hsub (measure_ne_top _ _)
    _ ≤ ∑ i : Fin K, ∑ c : Fin 2,
          (noiseMeasure (NoiseIdx K L) v).real {ξ | ρ ^ 2 / 2 < (dev ξ i c) ^ 2} :=
        (measureReal_iUnion_fintype_le _).trans
          (Finset.sum_le_sum fun i _ => measureReal_iUnion_fintype_le _)
    _ ≤ ∑ _i : Fin K, ∑ _c : Fin 2, rexp (-(ρ ^ 2 / 2 * L) / (2 * v)) :=
        Finset.sum_le_sum fun i _ => Finset.sum_le_sum fun c _ =>
          dev_tail hL v hv (ρ ^ 2 / 2) (div_nonneg (sq_nonneg ρ) zero_le_two) i c
    _ = 2 * K * rexp (-(ρ ^ 2 * L) / (4 * v)) := by
        rw [he]
        simp only [Finset.sum_const, Finset.card_univ, Fintype.card_fin, nsmul_eq_mul]
        push_cast; ring

/-! ### arithmetic: the code's formula (with σ a standard deviation) makes the bound `≤ δ` -/

/-- the rate `(ε/(2β))²/(4σ²)` of the tail bound times the count `4 (cσβ/ε)² l` is `(c²/4)·l` -/
theorem rate_mul_count {c σ β ε : ℝ} (hσ : σ ≠ 0) (hβ : β ≠ 0) (hε : ε ≠ 0) (l : ℝ) :
    (ε / (2 * β)) ^ 2 * (4 * (c * σ * β / ε) ^ 2 * l) / (4 * σ ^ 2) = c ^ 2 / 4 * l := by
  field_simp
  ring

theorem two_le_naiveC : (2 : ℝ) ≤ naiveC := by
  rw [naiveC_real]
  linarith only [Real.one_le_sqrt.mpr (one_le_two (α := ℝ))]

/-- With `L ≥ 4 (cσβ/ε)² log(4·2/(2δ/(K(K−1))))`, `c ≥ 2`, and `ρ = ε/(2β)`:
`2K · exp(−ρ²L/(4σ²)) ≤ δ`, for `K ≥ 2`, `0 < δ ≤ 1`. -/
theorem pac_arith (K : ℕ) (hK : 2 ≤ K) (c σ β ε δ : ℝ) (hc : 2 ≤ c) (hσ : 0 < σ) (hβ : 0 < β)
    (hε : 0 < ε) (hδ : 0 < δ) (hδ1 : δ ≤ 1) (L : ℝ) (hL : naiveLreal c σ β ε δ 2 K ≤ L) :
    2 * K * rexp (-((ε / (2 * β)) ^ 2 * L) / (4 * σ ^ 2)) ≤ δ := by
  rw [naiveLreal_real] at hL
  have hA4 := four_le_logArg 2 K hK one_le_two δ hδ hδ1
  have hApos : 0 < 2 * ((2 : ℕ) : ℝ) * ((K * (K - 1) : ℕ) : ℝ) / δ := four_pos.trans_le hA4
  have hlog : 0 ≤ Real.log (2 * ((2 : ℕ) : ℝ) * ((K * (K - 1) : ℕ) : ℝ) / δ) :=
    Real.log_nonneg ((by norm_num : (1 : ℝ) ≤ 4).trans hA4)
  -- `c² ≥ 4`, so the exponent `(c²/4)·log A` is at least `log A`
  have hc4 : 1 ≤ c ^ 2 / 4 :=
    (one_le_div₀ four_pos).mpr
      ((by norm_num : (4 : ℝ) = 2 ^ 2).trans_le (pow_le_pow_left₀ zero_le_two hc 2))
  have hexp : Real.log (2 * ((2 : ℕ) : ℝ) * ((K * (K - 1) : ℕ) : ℝ) / δ)
      ≤ (ε / (2 * β)) ^ 2 * L / (4 * σ ^ 2) := by
    have h := div_le_div_of_nonneg_right
      (mul_le_mul_of_nonneg_left hL (sq_nonneg (ε / (2 * β)))) (by positivity : 0 ≤ 4 * σ ^ 2)
    rw [rate_mul_count hσ.ne' hβ.ne' hε.ne'] at h
    exact (le_mul_of_one_le_left hlog hc4).trans h
  have hle : rexp (-((ε / (2 * β)) ^ 2 * L) / (4 * σ ^ 2))
      ≤ (2 * ((2 : ℕ) : ℝ) * ((K * (K - 1) : ℕ) : ℝ) / δ)⁻¹ := by
    rw [← Real.exp_log hApos, ← Real.exp_neg, Real.exp_le_exp, neg_div]
    exact neg_le_neg hexp
  -- `2K / A = δ/(2(K−1)) ≤ δ`
  refine (mul_le_mul_of_nonneg_left hle (by positivity)).trans ?_
  rw [mul_inv_le_iff₀ hApos, mul_div_cancel₀ _ hδ.ne', Nat.cast_ofNat]
  linarith only [le_pairCount hK]

end VOPy.Naive
