import VOPyVerif.Proofs.EvalCover
/-!
# C19: the rational evaluation of the gap formula is the formula over any ordered field

The driver evaluates `smallM` / `deltaRow` at `ℚ` (on the exported floats).  Casting is monotone and
commutes with every operation involved, so the rational result, cast to any ordered field `K`, *is*
the value of the same formula at `K` on the cast inputs.
-/
set_option linter.unusedSectionVars false
namespace VOPy.Eval

variable {K : Type} [Field K] [LinearOrder K] [IsStrictOrderedRing K]

theorem castV_prods (vi vj : Vec) (W : Mat) :
    castV (K := K) (prods vi vj W) = prods (castV vi) (castV vj) (castM W) := by
  rw [castV_eq_map]
  simp only [prods, castM, List.map_map]
  refine List.map_congr_left fun w _ => ?_
  simp only [Function.comp_def, relu_cast, gdot_cast, castV_gsub]

theorem smallM_cast (vi vj : Vec) (W : Mat) (α : Vec) :
    (smallM (K := Rat) vi vj W α).map (fun q : Rat => (q : K)) =
      smallM (castV vi) (castV vj) (castM W) (castV α) := by
  unfold smallM
  rw [← castV_prods, castV_length, castM, List.length_map, castV_eq_map, castV_eq_map]
  split_ifs
  · rw [← minL_map Rat.cast_mono, List.map_zipWith, List.zipWith_map]
    simp only [Rat.cast_div]
  · rfl

theorem deltaRow_cast (vi : Vec) (mu W : Mat) (α : Vec) :
    (deltaRow (K := Rat) vi mu W α).map (fun q : Rat => (q : K)) =
      deltaRow (castV vi) (castM mu) (castM W) (castV α) := by
  have h := deltaRowWith_map (φ := (Rat.cast : ℚ → K)) Rat.cast_mono castV
    (sm := fun a b => smallM a b W α) (sm' := fun a b => smallM a b (castM W) (castV α))
    vi mu 0 (fun vj _ => (smallM_cast vi vj W α).symm)
  rw [Rat.cast_zero] at h
  exact h.symm

/-! ### ε = 0: coverage is plain domination -/

theorem covered_zero_iff (W : Mat) (vi vj : Vec) (hlen : vj.length = vi.length) :
    Covered (K := K) W vi vj 0 ↔ InCone (castM W) (gsub (castV vj) (castV (K := K) vi)) := by
  have hl : vi.length = (castV (K := K) vj).length := by rw [castV_length, hlen]
  constructor
  · rintro ⟨z, hz, _, hn, hD⟩
    rw [mul_zero] at hn
    rw [eq_zero_of_gdot_self_nonpos z hn, hz, hl, gadd_replicate_zero] at hD
    exact hD
  · intro h
    refine ⟨List.replicate vi.length 0, List.length_replicate, ?_, ?_, ?_⟩
    · intro w _; rw [gdot_replicate_zero]
    · rw [gdot_replicate_zero, mul_zero]
    · rw [hl, gadd_replicate_zero]; exact h

/-! ### the Boolean `dominates` of `Model/Basic.lean` -/

theorem dot_eq_gdot (a b : Vec) : dot a b = gdot a b := by
  rw [gdot_eq_gdot, ConeOrd.dot_eq_gdot]

theorem castV_rat (v : Vec) : castV (K := ℚ) v = v := by simp [castV_eq_map]

theorem castM_rat (W : Mat) : castM (K := ℚ) W = W := by
  unfold castM
  rw [funext castV_rat, List.map_id']

theorem dominates_iff_rat (W : Mat) (a b : Vec) :
    dominates W a b = true ↔ InCone (K := ℚ) W (gsub a b) := by
  simp only [dominates, VOPy.inCone_iff, dot_eq_gdot, InCone, gsub, vsub]

/-! ### Pareto-optimal designs have gap zero -/

/-- a design that is not strictly dominated (`vj ≽ vk → vk ≽ vj`, the clause C13 proves for every
member of the extracted Pareto set) has no dominator in the interior of the cone -/
theorem not_interior_of_not_strictly_dominated (W : Mat) (hW : W ≠ []) (vk vj : Vec)
    (hlen : vj.length = vk.length)
    (h : dominates W vj vk = true → dominates W vk vj = true) :
    ¬ InInterior (K := ℚ) W (gsub vj vk) := by
  intro hint
  have h1 : dominates W vj vk = true :=
    (dominates_iff_rat W vj vk).mpr (fun w hw => (hint w hw).le)
  have h2 := (dominates_iff_rat W vk vj).mp (h h1)
  obtain ⟨w, hw⟩ := List.exists_mem_of_ne_nil W hW
  have a1 := hint w hw
  have a2 := h2 w hw
  rw [gdot_gsub _ _ _ hlen, sub_pos] at a1
  rw [gdot_gsub _ _ _ hlen.symm, sub_nonneg] at a2
  exact a1.not_ge a2

end VOPy.Eval
