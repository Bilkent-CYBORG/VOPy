import VOPyVerif.Model.RegionUpdate
import VOPyVerif.Proofs.ListBasic
import Mathlib.Algebra.Order.Field.Rat
import Mathlib.Data.Rat.Cast.Order
import Mathlib.Data.List.Forall2
import Mathlib.Algebra.Order.Field.Basic
/-! Helper lemmas for C14: the rectangle update formula entry by entry, validity (`lower ≤ upper`),
the intersection rule as sets over an ordered field, the design-space loop (listed / unlisted
designs), and invariants of call sequences. -/
namespace VOPy.Region

/-! ### scale broadcast and bounds -/

theorem bcast_spec {m : Nat} {s s' : Vec} (h : bcast m s = some s') :
    s'.length = m ∧ ((s.length = m ∧ s' = s) ∨ (∃ a, s = [a] ∧ s' = List.replicate m a)) := by
  unfold bcast at h
  split at h
  · rename_i hl
    simp only [Option.some.injEq] at h
    subst h
    exact ⟨hl, Or.inl ⟨hl, rfl⟩⟩
  · split at h
    · rename_i a _
      simp only [Option.some.injEq] at h
      subst h
      exact ⟨by simp, Or.inr ⟨a, rfl, rfl⟩⟩
    · simp at h

theorem bcast_nonneg {m : Nat} {s s' : Vec} (h : bcast m s = some s') (hs : ∀ a ∈ s, 0 ≤ a) :
    ∀ a ∈ s', 0 ≤ a := by
  obtain ⟨_, h' | ⟨a, rfl, rfl⟩⟩ := bcast_spec h
  · rw [h'.2]; exact hs
  · intro b hb
    rw [List.eq_of_mem_replicate hb]
    exact hs a (by simp)

theorem bcast_isSome {m : Nat} {s : Vec} :
    (∃ s', bcast m s = some s') ↔ s.length = m ∨ s.length = 1 := by
  constructor
  · rintro ⟨s', h⟩
    obtain ⟨_, ⟨h, _⟩ | ⟨a, rfl, _⟩⟩ := bcast_spec h
    · exact Or.inl h
    · exact Or.inr rfl
  · rintro (h | h)
    · exact ⟨s, if_pos h⟩
    · obtain ⟨a, rfl⟩ := List.length_eq_one_iff.mp h
      by_cases hm : [a].length = m
      · exact ⟨_, if_pos hm⟩
      · exact ⟨_, if_neg hm⟩

theorem bounds_spec {mean std scale L U : Vec} (h : bounds mean std scale = some (L, U)) :
    ∃ s', bcast std.length scale = some s' ∧ mean.length = std.length ∧
      L = List.zipWith (· - ·) mean (List.zipWith (· * ·) std s') ∧
      U = List.zipWith (· + ·) mean (List.zipWith (· * ·) std s') := by
  unfold bounds at h
  split at h
  · simp at h
  · rename_i s' hs'
    split at h
    · rename_i hl
      simp only [Option.some.injEq, Prod.mk.injEq] at h
      exact ⟨s', hs', hl, h.1.symm, h.2.symm⟩
    · simp at h

theorem bounds_isSome {mean std scale : Vec} :
    (∃ L U, bounds mean std scale = some (L, U)) ↔
      mean.length = std.length ∧ (scale.length = std.length ∨ scale.length = 1) := by
  rw [← bcast_isSome]
  unfold bounds
  cases bcast std.length scale with
  | none => simp
  | some s' => by_cases h : mean.length = std.length <;> simp [h]

/-- entry `j` of the two corners: `mean_j ∓ std_j · s_j` -/
theorem bounds_entry {mean std scale L U : Vec} (h : bounds mean std scale = some (L, U)) :
    L.length = std.length ∧ U.length = std.length ∧
    ∃ s', bcast std.length scale = some s' ∧
      ∀ (j : Nat) (μ σ a : Rat), mean[j]? = some μ → std[j]? = some σ → s'[j]? = some a →
        L[j]? = some (μ - σ * a) ∧ U[j]? = some (μ + σ * a) := by
  obtain ⟨s', hs', hl, rfl, rfl⟩ := bounds_spec h
  have hlen := (bcast_spec hs').1
  refine ⟨by simp only [List.length_zipWith, hl, hlen, Nat.min_self],
    by simp only [List.length_zipWith, hl, hlen, Nat.min_self], s', hs', ?_⟩
  intro j μ σ a hμ hσ ha
  simp only [List.getElem?_zipWith, hμ, hσ, ha, and_self]

theorem bounds_le (mean : Vec) : ∀ (std s : Vec), (∀ σ ∈ std, 0 ≤ σ) → (∀ a ∈ s, 0 ≤ a) →
    List.Forall₂ (· ≤ ·) (List.zipWith (· - ·) mean (List.zipWith (· * ·) std s))
      (List.zipWith (· + ·) mean (List.zipWith (· * ·) std s)) := by
  induction mean with
  | nil => intro std s _ _; exact .nil
  | cons μ rest ih =>
    intro std s hstd hs
    cases std with
    | nil => exact .nil
    | cons σ std' =>
      cases s with
      | nil => exact .nil
      | cons a s' =>
        have h := mul_nonneg (hstd σ List.mem_cons_self) (hs a List.mem_cons_self)
        exact .cons ((sub_le_self μ h).trans (le_add_of_nonneg_right h))
          (ih std' s' (fun x hx => hstd x (List.mem_cons_of_mem _ hx))
            (fun x hx => hs x (List.mem_cons_of_mem _ hx)))

/-- `lower ≤ upper`, componentwise -/
def Rect.valid (r : Rect) : Prop := List.Forall₂ (· ≤ ·) r.lower r.upper

theorem bounds_valid {mean std scale L U : Vec} (h : bounds mean std scale = some (L, U))
    (hstd : ∀ σ ∈ std, 0 ≤ σ) (hs : ∀ a ∈ scale, 0 ≤ a) : List.Forall₂ (· ≤ ·) L U := by
  obtain ⟨s', hs', _, rfl, rfl⟩ := bounds_spec h
  exact bounds_le mean std s' hstd (bcast_nonneg hs' hs)

/-! ### the intersection test -/

theorem checkIntersection_cons (a b c d : Rat) (l1 u1 l2 u2 : Vec) :
    checkIntersection (a :: l1) (b :: u1) (c :: l2) (d :: u2) = true ↔
      a < d ∧ c < b ∧ checkIntersection l1 u1 l2 u2 = true := by
  simp only [checkIntersection, List.zipWith_cons_cons, List.any_cons, id, Bool.not_eq_true',
    Bool.or_eq_false_iff, decide_eq_false_iff_not, not_le]
  rw [and_and_and_comm, and_assoc]

theorem checkIntersection_nil_left (u1 l2 u2 : Vec) (h : u1 = [] ∨ l2 = []) :
    checkIntersection [] u1 l2 u2 = true := by
  rcases h with rfl | rfl <;> simp [checkIntersection]

theorem intersect_valid {l1 u1 : Vec} (h1 : List.Forall₂ (· ≤ ·) l1 u1) :
    ∀ {l2 u2 : Vec}, List.Forall₂ (· ≤ ·) l2 u2 → checkIntersection l1 u1 l2 u2 = true →
      List.Forall₂ (· ≤ ·) (List.zipWith max l1 l2) (List.zipWith min u1 u2) := by
  induction h1 with
  | nil => intro l2 u2 _ _; simp
  | @cons a b l1 u1 hab _ ih =>
    intro l2 u2 h2 hc
    cases h2 with
    | nil => simp
    | @cons c d l2 u2 hcd h2' =>
      rw [checkIntersection_cons] at hc
      simp only [List.zipWith_cons_cons]
      refine List.Forall₂.cons ?_ (ih h2' hc.2.2)
      apply max_le <;> apply le_min
      · exact hab
      · exact le_of_lt hc.1
      · exact le_of_lt hc.2.1
      · exact hcd

theorem Rect.intersect_valid' {r : Rect} {l u : Vec} (hr : r.valid) (hlu : List.Forall₂ (· ≤ ·) l u) :
    (r.intersect l u).valid := by
  unfold Rect.intersect
  split
  · rename_i hc
    exact Region.intersect_valid hr hlu hc
  · exact hlu

/-- a successful rectangle update: square covariance, well-shaped bounds `[L, U]`, and the new rectangle
is `[L, U]` or its intersection with the old one -/
theorem rect_update_eq_ok {r r' : Rect} {p : Pred} {scale : Vec} :
    r.update p scale = .ok r' ↔ isSquare p.cov = true ∧ ∃ L U, bounds p.mean p.std scale = some (L, U) ∧
      r' = if r.iter then r.intersect L U else { r with lower := L, upper := U } := by
  unfold Rect.update
  cases isSquare p.cov
  · simp
  · cases bounds p.mean p.std scale with
    | none => simp
    | some LU =>
      simp only [Bool.not_true, Bool.false_eq_true, if_false, Except.ok.injEq, true_and, Option.some.injEq]
      exact ⟨fun h => ⟨LU.1, LU.2, rfl, h.symm⟩, fun ⟨L, U, h, h'⟩ => by rw [h', h]⟩

theorem Rect.update_valid {r r' : Rect} {p : Pred} {scale : Vec} (h : r.update p scale = .ok r')
    (hstd : ∀ σ ∈ p.std, 0 ≤ σ) (hs : ∀ a ∈ scale, 0 ≤ a) (hr : r.iter = true → r.valid) : r'.valid := by
  obtain ⟨_, L, U, hb, rfl⟩ := rect_update_eq_ok.1 h
  have hv := bounds_valid hb hstd hs
  split
  · rename_i hi
    exact Rect.intersect_valid' (hr hi) hv
  · exact hv

/-- a successful ellipsoid update: square covariance, a scale of size one, and the new ellipsoid is
`(mean, cov, scale)` -/
theorem ell_update_eq_ok {e e' : Ell} {p : Pred} {scale : Vec} :
    e.update p scale = .ok e' ↔ isSquare p.cov = true ∧ ∃ a, scale = [a] ∧
      e' = { center := p.mean, sigma := p.cov, alpha := a } := by
  unfold Ell.update
  cases isSquare p.cov
  · simp
  · match scale with
    | [a] => simp [eq_comm]
    | [] => simp
    | _ :: _ :: _ => simp

/-- `Region.update` is `Except.map` of the rectangle / ellipsoid update -/
theorem except_map_eq_ok {ε α β : Type} {f : α → β} {x : Except ε α} {b : β} :
    x.map f = .ok b ↔ ∃ a, x = .ok a ∧ b = f a := by
  cases x with
  | error e => exact ⟨fun h => (nomatch h), fun ⟨_, h, _⟩ => (nomatch h)⟩
  | ok a =>
    exact ⟨fun h => ⟨a, rfl, (Except.ok.inj h).symm⟩, fun ⟨_, h, h'⟩ => by rw [h', ← Except.ok.inj h]; rfl⟩

theorem Rect.init_valid (m : Nat) : (Rect.init m).valid := by
  unfold Rect.valid Rect.init
  induction m with
  | zero => simp
  | succ k ih =>
    simp only [List.replicate_succ]
    exact List.Forall₂.cons (by norm_num) ih

/-! ### rectangles as sets over an ordered field -/

section sets
variable (K : Type) [Field K] [LinearOrder K] [IsStrictOrderedRing K]

/-- the closed box `{x | ∀ j, l_j ≤ x_j ≤ u_j}` (points are lists of the same length) -/
def memBox (l u : Vec) (x : List K) : Prop :=
  List.Forall₂ (fun (a : Rat) (y : K) => (a : K) ≤ y) l x ∧ List.Forall₂ (fun (y : K) (b : Rat) => y ≤ (b : K)) x u

/-- the open box `{x | ∀ j, l_j < x_j < u_j}` -/
def memInt (l u : Vec) (x : List K) : Prop :=
  List.Forall₂ (fun (a : Rat) (y : K) => (a : K) < y) l x ∧ List.Forall₂ (fun (y : K) (b : Rat) => y < (b : K)) x u

variable {K}

/-- a relation that splits over `f` entry by entry splits over `zipWith f` -/
theorem forall₂_zipWith_left {α β : Type} {f : α → α → α} {R : α → β → Prop}
    (hf : ∀ a c y, R (f a c) y ↔ R a y ∧ R c y) {l1 : List α} :
    ∀ {l2 : List α} {x : List β}, l1.length = l2.length →
      (List.Forall₂ R (List.zipWith f l1 l2) x ↔ List.Forall₂ R l1 x ∧ List.Forall₂ R l2 x) := by
  induction l1 with
  | nil =>
    intro l2 x h
    rw [List.length_eq_zero_iff.1 h.symm, List.zipWith_nil_left, and_self]
  | cons a l1 ih =>
    intro l2 x h
    obtain ⟨c, l2, rfl⟩ := List.exists_cons_of_length_eq_add_one h.symm
    cases x with
    | nil => simp
    | cons y x =>
      rw [List.zipWith_cons_cons, List.forall₂_cons, List.forall₂_cons, List.forall₂_cons, hf,
        ih (Nat.succ.inj h), and_and_and_comm]

theorem forall₂_zipWith_right {α β : Type} {f : α → α → α} {R : β → α → Prop}
    (hf : ∀ y a c, R y (f a c) ↔ R y a ∧ R y c) {l1 l2 : List α} {x : List β}
    (h : l1.length = l2.length) :
    List.Forall₂ R x (List.zipWith f l1 l2) ↔ List.Forall₂ R x l1 ∧ List.Forall₂ R x l2 := by
  have flip_iff : ∀ l : List α, List.Forall₂ R x l ↔ List.Forall₂ (flip R) l x :=
    fun l => ⟨fun h => List.Forall₂.flip h, List.Forall₂.flip⟩
  rw [flip_iff, flip_iff, flip_iff]
  exact forall₂_zipWith_left (fun a c y => hf y a c) h

/-- The box with corners `max l₁ l₂`, `min u₁ u₂` is the set intersection of the two boxes. -/
theorem memBox_inter {l1 u1 l2 u2 : Vec} (hl : l1.length = l2.length) (hu : u1.length = u2.length)
    (x : List K) :
    memBox K (List.zipWith max l1 l2) (List.zipWith min u1 u2) x ↔ memBox K l1 u1 x ∧ memBox K l2 u2 x := by
  unfold memBox
  rw [forall₂_zipWith_left (fun a c y => by rw [Rat.cast_max, max_le_iff]) hl,
    forall₂_zipWith_right (fun y a c => by rw [Rat.cast_min, le_min_iff]) hu, and_and_and_comm]

/-- A point strictly inside both rectangles makes the code's test say "intersect": if the test says
"no intersection", the rectangles are interior-disjoint. -/
theorem check_of_interiors_meet {x : List K} : ∀ {l1 u1 l2 u2 : Vec},
    memInt K l1 u1 x → memInt K l2 u2 x → checkIntersection l1 u1 l2 u2 = true := by
  induction x with
  | nil =>
    rintro _ _ _ _ ⟨⟨⟩, ⟨⟩⟩ ⟨⟨⟩, ⟨⟩⟩
    rfl
  | cons y x ih =>
    rintro _ _ _ _ ⟨h1, h2⟩ ⟨h3, h4⟩
    cases h1 with | cons hay h1 =>
    cases h2 with | cons hyb h2 =>
    cases h3 with | cons hcy h3 =>
    cases h4 with | cons hyd h4 =>
    exact (checkIntersection_cons _ _ _ _ _ _ _ _).2
      ⟨Rat.cast_lt.1 (hay.trans hyd), Rat.cast_lt.1 (hcy.trans hyb), ih ⟨h1, h2⟩ ⟨h3, h4⟩⟩

/-- If the test says "intersect" and both rectangles have non-empty interior, the midpoint of the
intersection box lies strictly inside both: the interiors meet. -/
theorem interiors_meet_of_check {l1 u1 : Vec} (h1 : List.Forall₂ (· < ·) l1 u1) :
    ∀ {l2 u2 : Vec}, List.Forall₂ (· < ·) l2 u2 → l1.length = l2.length →
      checkIntersection l1 u1 l2 u2 = true →
      ∃ x : List K, memInt K l1 u1 x ∧ memInt K l2 u2 x := by
  induction h1 with
  | nil =>
    intro l2 u2 h2 hl _
    have : l2 = [] := List.length_eq_zero_iff.mp hl.symm
    subst this
    cases h2
    exact ⟨[], ⟨.nil, .nil⟩, ⟨.nil, .nil⟩⟩
  | @cons a b l1 u1 hab _ ih =>
    intro l2 u2 h2 hl hc
    cases h2 with
    | nil => simp at hl
    | @cons c d l2 u2 hcd h2' =>
      rw [checkIntersection_cons] at hc
      obtain ⟨x, ⟨hx1, hx2⟩, ⟨hx3, hx4⟩⟩ := ih h2' (Nat.succ.inj hl) hc.2.2
      -- the midpoint is taken in ℚ and then cast, so that all four comparisons are between rationals
      have hlt : max a c < min b d := max_lt (lt_min hab hc.1) (lt_min hc.2.1 hcd)
      have hy1 : max a c < (max a c + min b d) / 2 := left_lt_add_div_two.2 hlt
      have hy2 : (max a c + min b d) / 2 < min b d := add_div_two_lt_right.2 hlt
      exact ⟨(((max a c + min b d) / 2 : Rat) : K) :: x,
        ⟨.cons (Rat.cast_lt.2 ((le_max_left a c).trans_lt hy1)) hx1,
         .cons (Rat.cast_lt.2 (hy2.trans_le (min_le_left b d))) hx2⟩,
        ⟨.cons (Rat.cast_lt.2 ((le_max_right a c).trans_lt hy1)) hx3,
         .cons (Rat.cast_lt.2 (hy2.trans_le (min_le_right b d))) hx4⟩⟩

end sets

/-! ### the design-space loop -/

/-- one turn of the loop: either it stops with an exception and the regions as they are, or region `i`
is replaced by its update and the loop goes on -/
theorem updLoop_cons (regs : List Region) (i : Nat) (p : Pred) (s : Vec) :
    (∃ e, ∀ T, updLoop regs ((i, p, s) :: T) = (regs, some e)) ∨
    ∃ r r', regs[i]? = some r ∧ r.update p s = .ok r' ∧
      ∀ T, updLoop regs ((i, p, s) :: T) = updLoop (regs.set i r') T := by
  cases hr : regs[i]? with
  | none => exact Or.inl ⟨.indexError, fun T => by simp [updLoop, hr]⟩
  | some r =>
    cases hr' : r.update p s with
    | error e => exact Or.inl ⟨e, fun T => by simp [updLoop, hr, hr']⟩
    | ok r' => exact Or.inr ⟨r, r', rfl, hr', fun T => by simp [updLoop, hr, hr']⟩

theorem updLoop_length (T : List (Nat × Pred × Vec)) : ∀ regs : List Region,
    (updLoop regs T).1.length = regs.length := by
  induction T with
  | nil => intro regs; rfl
  | cons t rest ih =>
    intro regs
    obtain ⟨e, h⟩ | ⟨r, r', _, _, h⟩ := updLoop_cons regs t.1 t.2.1 t.2.2
    · rw [h]
    · rw [h, ih, List.length_set]

/-- designs that are not listed keep their region (also when the loop stops with an exception) -/
theorem updLoop_unlisted (T : List (Nat × Pred × Vec)) : ∀ (regs : List Region) (d : Nat),
    d ∉ T.map (·.1) → (updLoop regs T).1[d]? = regs[d]? := by
  induction T with
  | nil => intro regs d _; rfl
  | cons t rest ih =>
    intro regs d hd
    rw [List.map_cons, List.mem_cons, not_or] at hd
    obtain ⟨e, h⟩ | ⟨r, r', _, _, h⟩ := updLoop_cons regs t.1 t.2.1 t.2.2
    · rw [h]
    · rw [h, ih _ d hd.2, List.getElem?_set_ne (Ne.symm hd.1)]

/-- with pairwise different listed designs and no exception, every listed design ends up with the
update of *its own previous* region by *its own* prediction and scale row -/
theorem updLoop_listed (T : List (Nat × Pred × Vec)) : ∀ regs : List Region,
    (T.map (·.1)).Nodup → (updLoop regs T).2 = none →
    ∀ t ∈ T, ∃ r r', regs[t.1]? = some r ∧ r.update t.2.1 t.2.2 = .ok r' ∧
      (updLoop regs T).1[t.1]? = some r' := by
  induction T with
  | nil => intro regs _ _ t ht; cases ht
  | cons t0 rest ih =>
    intro regs hnd hok t ht
    rw [List.map_cons, List.nodup_cons] at hnd
    obtain ⟨e, h⟩ | ⟨r, r', hr, hr', h⟩ := updLoop_cons regs t0.1 t0.2.1 t0.2.2
    · rw [h] at hok
      cases hok
    · rw [h] at hok ⊢
      rcases List.mem_cons.1 ht with rfl | ht'
      · refine ⟨r, r', hr, hr', ?_⟩
        rw [updLoop_unlisted rest _ _ hnd.1]
        exact List.getElem?_set_self (List.getElem?_eq_some_iff.1 hr).1
      · obtain ⟨q, q', hq, hq', hres⟩ := ih (regs.set t0.1 r') hnd.2 hok t ht'
        have hne : t0.1 ≠ t.1 := fun heq => hnd.1 (heq ▸ List.mem_map_of_mem (f := (·.1)) ht')
        rw [List.getElem?_set_ne hne] at hq
        exact ⟨q, q', hq, hq', hres⟩

/-- sequential composition: the loop over `a ++ b` is the loop over `a`, then (if no exception) over `b`
starting from the regions `a` left — in particular a design listed twice is updated twice, in order -/
theorem updLoop_append (a b : List (Nat × Pred × Vec)) : ∀ regs : List Region,
    updLoop regs (a ++ b) =
      if (updLoop regs a).2 = none then updLoop (updLoop regs a).1 b else updLoop regs a := by
  induction a with
  | nil => intro regs; rfl
  | cons t rest ih =>
    intro regs
    obtain ⟨e, h⟩ | ⟨r, r', _, _, h⟩ := updLoop_cons regs t.1 t.2.1 t.2.2
    · rw [List.cons_append, h, h]
      rfl
    · rw [List.cons_append, h, h, ih]

theorem lookupAll_eq_mapM (table : List Pred) : ∀ idx, lookupAll table idx = idx.mapM (table[·]?)
  | [] => rfl
  | i :: is => by
    rw [lookupAll, mapM_option_cons, lookupAll_eq_mapM table is]
    cases table[i]? <;> rfl

theorem lookupAll_spec (idx : List Nat) (table preds : List Pred)
    (h : lookupAll table idx = some preds) :
    preds.length = idx.length ∧ ∀ (k i : Nat), idx[k]? = some i → preds[k]? = table[i]? ∧ i < table.length := by
  rw [lookupAll_eq_mapM] at h
  refine ⟨mapM_option_length h, fun k i hk => ?_⟩
  have e := mapM_option_getElem? h k
  rw [hk, Option.bind_some] at e
  have hk' : k < preds.length := mapM_option_length h ▸ (List.getElem?_eq_some_iff.1 hk).1
  exact ⟨e, (List.getElem?_eq_some_iff.1 (e.symm.trans (List.getElem?_eq_getElem hk'))).1⟩

theorem lookupAll_mem (idx : List Nat) (table preds : List Pred) (h : lookupAll table idx = some preds) :
    ∀ p ∈ preds, p ∈ table := by
  rw [lookupAll_eq_mapM] at h
  intro p hp
  obtain ⟨k, hk⟩ := List.mem_iff_getElem?.1 hp
  rw [mapM_option_getElem? h k] at hk
  obtain ⟨i, -, hi⟩ := Option.bind_eq_some_iff.1 hk
  exact List.mem_of_getElem? hi

/-- the scale row the broadcast assigns to position `k` of the index list -/
def scaleRow : Scale → Nat → Vec
  | .scalar s, _ => [s]
  | .vec v, _ => v
  | .mat M, k => M.getD k []
  | .other, _ => []

theorem scaleRows_row {sc : Scale} {n : Nat} {rows : List Vec} (h : scaleRows sc n = some rows) :
    rows.length = n ∧ ∀ (k : Nat), k < n → rows[k]? = some (scaleRow sc k) := by
  cases sc with
  | scalar s =>
    obtain rfl := Option.some.inj h
    exact ⟨by simp, fun k hk => by simp [scaleRow, hk]⟩
  | vec v =>
    obtain rfl := Option.some.inj h
    exact ⟨by simp, fun k hk => by simp [scaleRow, hk]⟩
  | mat M =>
    simp only [scaleRows] at h
    split at h
    · rename_i hl
      obtain rfl := Option.some.inj h
      exact ⟨hl, fun k hk => by simp [scaleRow, List.getD, hl ▸ hk]⟩
    · cases h
  | other => cases h

/-- `update` either stops before the loop, leaving the regions as they were, or is the loop over the tuples
`(i, table[i], scaleRow sc k)`, one per position `k` of the index list, `i = idx[k]` -/
theorem update_cases (regs : List Region) (table : List Pred) (sc : Scale) (idx : List Nat) :
    (∃ e, update regs table sc idx = (regs, some e)) ∨
    ∃ T : List (Nat × Pred × Vec), update regs table sc idx = updLoop regs T ∧ T.map (·.1) = idx ∧
      ∀ k t, T[k]? = some t → table[t.1]? = some t.2.1 ∧ t.2.2 = scaleRow sc k := by
  unfold update
  cases hrows : scaleRows sc idx.length with
  | none => exact Or.inl ⟨_, rfl⟩
  | some rows =>
    cases hpreds : lookupAll table idx with
    | none => exact Or.inl ⟨_, rfl⟩
    | some preds =>
      obtain ⟨hpl, hpk⟩ := lookupAll_spec idx table preds hpreds
      obtain ⟨hrl, hrk⟩ := scaleRows_row hrows
      refine Or.inr ⟨_, rfl, List.map_fst_zip (by simp [hpl, hrl]), fun k t ht => ?_⟩
      obtain ⟨h1, h2⟩ := List.getElem?_zip_eq_some.1 ht
      obtain ⟨h3, h4⟩ := List.getElem?_zip_eq_some.1 h2
      exact ⟨(hpk k _ h1).1.symm.trans h3,
        Option.some.inj (h4.symm.trans (hrk k (List.getElem?_eq_some_iff.1 h1).1))⟩

/-- unlisted designs keep their region, whatever happens (duplicates, exceptions) -/
theorem update_unlisted (regs : List Region) (table : List Pred) (sc : Scale) (idx : List Nat) (d : Nat)
    (hd : d ∉ idx) : (update regs table sc idx).1[d]? = regs[d]? := by
  obtain ⟨e, h⟩ | ⟨T, h, hfst, -⟩ := update_cases regs table sc idx
  · rw [h]
  · rw [h]
    exact updLoop_unlisted T regs d (hfst ▸ hd)

theorem update_length (regs : List Region) (table : List Pred) (sc : Scale) (idx : List Nat) :
    (update regs table sc idx).1.length = regs.length := by
  obtain ⟨e, h⟩ | ⟨T, h, -, -⟩ := update_cases regs table sc idx
  · rw [h]
  · rw [h]
    exact updLoop_length _ _

/-- listed designs, duplicate-free index list, no exception -/
theorem update_listed (regs : List Region) (table : List Pred) (sc : Scale) (idx : List Nat)
    (hnd : idx.Nodup) (hok : (update regs table sc idx).2 = none) (k i : Nat) (hk : idx[k]? = some i) :
    ∃ r p r', regs[i]? = some r ∧ table[i]? = some p ∧ r.update p (scaleRow sc k) = .ok r' ∧
      (update regs table sc idx).1[i]? = some r' := by
  obtain ⟨e, h⟩ | ⟨T, h, hfst, hT⟩ := update_cases regs table sc idx
  · rw [h] at hok
    cases hok
  · rw [h] at hok ⊢
    subst hfst
    rw [List.getElem?_map] at hk
    obtain ⟨t, ht, rfl⟩ := Option.map_eq_some_iff.1 hk
    obtain ⟨hp, hs⟩ := hT k t ht
    obtain ⟨r, r', h1, h2, h3⟩ := updLoop_listed T regs hnd hok t (List.mem_of_getElem? ht)
    exact ⟨r, t.2.1, r', h1, hp, hs ▸ h2, h3⟩

/-! ### validity of all rectangles along call sequences -/

def regionValid : Region → Prop
  | .rect r => r.valid
  | .ell _ => True

def AllValid (regs : List Region) : Prop := ∀ r ∈ regs, regionValid r

theorem region_update_valid {r r' : Region} {p : Pred} {s : Vec} (h : r.update p s = .ok r')
    (hstd : ∀ σ ∈ p.std, 0 ≤ σ) (hs : ∀ a ∈ s, 0 ≤ a) (hr : regionValid r) : regionValid r' := by
  cases r with
  | rect q =>
    obtain ⟨q', hq, rfl⟩ := except_map_eq_ok.1 h
    exact Rect.update_valid hq hstd hs (fun _ => hr)
  | ell e =>
    obtain ⟨e', _, rfl⟩ := except_map_eq_ok.1 h
    trivial

theorem updLoop_valid : ∀ (T : List (Nat × Pred × Vec)) (regs : List Region),
    (∀ t ∈ T, (∀ σ ∈ t.2.1.std, 0 ≤ σ) ∧ ∀ a ∈ t.2.2, 0 ≤ a) → AllValid regs →
    AllValid (updLoop regs T).1 := by
  intro T
  induction T with
  | nil => intro regs _ h; exact h
  | cons t rest ih =>
    intro regs hT hv
    obtain ⟨i, p, s⟩ := t
    obtain ⟨e, h⟩ | ⟨r, r', hr, hr', h⟩ := updLoop_cons regs i p s
    · rw [h]
      exact hv
    · rw [h]
      apply ih _ (fun t ht => hT t (List.mem_cons_of_mem _ ht))
      intro q hq
      have h0 := hT (i, p, s) (List.mem_cons_self)
      rcases List.mem_or_eq_of_mem_set hq with hq' | rfl
      · exact hv q hq'
      · exact region_update_valid hr' h0.1 h0.2 (hv r (List.mem_of_getElem? hr))

/-- every entry of the scale argument is non-negative -/
def scaleNonneg : Scale → Prop
  | .scalar s => 0 ≤ s
  | .vec v => ∀ a ∈ v, 0 ≤ a
  | .mat M => ∀ row ∈ M, ∀ a ∈ row, 0 ≤ a
  | .other => True

theorem scaleRow_nonneg {sc : Scale} (hs : scaleNonneg sc) (k : Nat) : ∀ a ∈ scaleRow sc k, 0 ≤ a := by
  cases sc with
  | scalar s =>
    intro a ha
    rw [List.mem_singleton.1 ha]
    exact hs
  | vec v => exact hs
  | mat M =>
    intro a ha
    simp only [scaleRow, List.getD_eq_getElem?_getD] at ha
    cases hM : M[k]? with
    | none =>
      rw [hM] at ha
      cases ha
    | some row =>
      rw [hM] at ha
      exact hs row (List.mem_of_getElem? hM) a ha
  | other =>
    intro a ha
    cases ha

/-- predictions have non-negative standard deviations -/
def tableNonneg (table : List Pred) : Prop := ∀ p ∈ table, ∀ σ ∈ p.std, 0 ≤ σ

theorem update_valid (regs : List Region) (table : List Pred) (sc : Scale) (idx : List Nat)
    (ht : tableNonneg table) (hs : scaleNonneg sc) (hv : AllValid regs) :
    AllValid (update regs table sc idx).1 := by
  obtain ⟨e, h⟩ | ⟨T, h, -, hT⟩ := update_cases regs table sc idx
  · rw [h]
    exact hv
  · rw [h]
    refine updLoop_valid _ _ (fun t htm => ?_) hv
    obtain ⟨k, hk⟩ := List.mem_iff_getElem?.1 htm
    obtain ⟨hp, hsr⟩ := hT k t hk
    exact ⟨ht _ (List.mem_of_getElem? hp), hsr ▸ scaleRow_nonneg hs k⟩

theorem refine_valid {regs regs' : List Region} {i k : Nat} (h : refine regs i k = some regs')
    (hv : AllValid regs) : AllValid regs' := by
  unfold refine at h
  split at h
  · rename_i r hr
    simp only [Option.some.injEq] at h
    subst h
    intro q hq
    rcases List.mem_append.1 hq with hq | hq
    · exact hv q hq
    · rw [List.eq_of_mem_replicate hq]
      exact hv (.rect r) (List.mem_of_getElem? hr)
  · simp at h

theorem setIter_valid (regs : List Region) (idx : List Nat) (b : Bool) (hv : AllValid regs) :
    AllValid (setIter regs idx b) := by
  intro q hq
  unfold setIter at hq
  rw [List.mem_mapIdx] at hq
  obtain ⟨i, hi, rfl⟩ := hq
  have hmem := hv regs[i] (List.getElem_mem hi)
  split
  · cases hreg : regs[i] with
    | rect r => rw [hreg] at hmem; exact hmem
    | ell e => trivial
  · exact hmem

/-- a call with non-negative scale and standard deviations (other calls: no condition) -/
def opNonneg : Op → Prop
  | .upd table sc _ => tableNonneg table ∧ scaleNonneg sc
  | _ => True

theorem step_valid (regs : List Region) (o : Op) (ho : opNonneg o) (hv : AllValid regs) :
    AllValid (step regs o).1 := by
  cases o with
  | upd table sc idx => exact update_valid regs table sc idx ho.1 ho.2 hv
  | refine i k =>
    simp only [step]
    cases h : refine regs i k with
    | none => exact hv
    | some regs' => exact refine_valid h hv
  | setIter b idx => exact setIter_valid regs idx b hv

theorem run_valid (ops : List Op) : ∀ (regs : List Region), (∀ o ∈ ops, opNonneg o) → AllValid regs →
    AllValid (run regs ops) := by
  induction ops with
  | nil => intro regs _ hv; exact hv
  | cons o rest ih =>
    intro regs ho hv
    exact ih _ (fun o' ho' => ho o' (List.mem_cons_of_mem _ ho'))
      (step_valid regs o (ho o (List.mem_cons_self)) hv)

theorem init_valid (n m : Nat) : AllValid (List.replicate n (.rect (Rect.init m))) ∧
    AllValid (List.replicate n (.ell (Ell.init m))) := by
  constructor
  · intro q hq
    rw [List.eq_of_mem_replicate hq]
    exact Rect.init_valid m
  · intro q hq
    rw [List.eq_of_mem_replicate hq]
    trivial

end VOPy.Region
