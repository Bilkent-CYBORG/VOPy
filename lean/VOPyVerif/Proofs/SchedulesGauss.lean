import VOPyVerif.Proofs.Schedules
import Mathlib.Analysis.Complex.ExponentialBounds
/-!
# Per-round union-bound terms of the coordinatewise (hyper-rectangle) schedules, and of PaVeBaGP

For each schedule: the closed form (or an upper bound) of `K·m·exp(-scale_t²/2)` as a multiple of
`1/(t+1)²`, from which the series statements in `Props/C04.lean` follow.  PaVeBaGP is bounded for a
general tail `w·exp(-α_t²/c)` (`pavebagp_term`), which serves its boxes and its ellipsoids.
-/
namespace VOPy.SchedR
open Real VOPy VOPy.Sched

/-- A scale `α ≥ c` with `α ≥ log A + M` entered where its square root was meant, for a tail of
weight `w ≤ e^M`: `w·exp(-α²/c) ≤ A⁻¹`. -/
lemma weight_mul_exp_le {w M A α c : ℝ} (hw : w ≤ rexp M) (hA : 0 < A) (hc : 0 < c)
    (hcα : c ≤ α) (hα : Real.log A + M ≤ α) : w * rexp (-α^2/c) ≤ A⁻¹ := by
  have h := exp_neg_sq_div_le hc hcα hα
  rw [neg_add, Real.exp_add, exp_neg_log hA] at h
  calc w * rexp (-α^2/c) ≤ rexp M * (A⁻¹ * rexp (-M)) :=
        mul_le_mul hw h (Real.exp_nonneg _) (Real.exp_nonneg _)
    _ = A⁻¹ := by rw [mul_left_comm, ← Real.exp_add, add_neg_cancel, Real.exp_zero, mul_one]

/-- The scale `2·log A` with `log A ≥ 1` and `A⁻¹ ≤ c`, for `K·m` coordinates:
`exp(-(2 log A)²/2) ≤ exp(-2 log A) = A⁻¹·A⁻¹`, so `K·m·exp(-(2 log A)²/2) ≤ m·c·(K·A⁻¹)`. -/
lemma mul_exp_neg_half_sq_two_log_le {K m A c : ℝ} (hK : 0 ≤ K) (hm : 0 ≤ m) (hA : 0 < A)
    (hL : 1 ≤ Real.log A) (hc : A⁻¹ ≤ c) :
    K * m * rexp (-(2 * Real.log A)^2/2) ≤ m * c * (K * A⁻¹) := by
  have h : rexp (-(2 * Real.log A)^2/2) ≤ A⁻¹ * A⁻¹ := by
    rw [← exp_neg_log hA, ← Real.exp_add, ← neg_add]
    exact exp_neg_sq_div_le two_pos (by linarith) (by linarith)
  calc K * m * rexp (-(2 * Real.log A)^2/2) ≤ K * m * (A⁻¹ * A⁻¹) :=
        mul_le_mul_of_nonneg_left h (mul_nonneg hK hm)
    _ = m * A⁻¹ * (K * A⁻¹) := by ring
    _ ≤ m * c * (K * A⁻¹) :=
        mul_le_mul_of_nonneg_right (mul_le_mul_of_nonneg_left hc hm)
          (mul_nonneg hK (inv_nonneg.mpr hA.le))

section
variable (t m K : ℕ) (δ : ℝ)

/-! #### VOGP, ε-PAL -/

/-- `β = √(2·log(m·K·π²·(t+1)²/(cδ)))` (VOGP: `c = 3`, ε-PAL: `c = 6`), per round:
`K·m·exp(-β²/2) = (cδ/π²)/(t+1)²` exactly. -/
lemma sqrt_two_log_term (hm : 1 ≤ m) (hK : 1 ≤ K) (h0 : 0 < δ) (h1 : δ < 1) {c : ℝ} (hc : 0 < c)
    (hc9 : c ≤ 9) :
    (K:ℝ) * m * rexp (-(√(2 * Real.log ((m:ℝ) * K * π^2 * ((t:ℝ)+1)^2 / (c*δ))))^2/2)
      = c*δ/π^2 * (1 / ((t:ℝ)+1)^2) := by
  have hs := one_le_cast_succ_sq t
  have hN : (1:ℝ) ≤ K * m :=
    one_le_mul_of_one_le_of_one_le (Nat.one_le_cast.mpr hK) (Nat.one_le_cast.mpr hm)
  have hd : 1 * (c * δ) ≤ π^2 := by
    rw [one_mul]
    exact (mul_le_of_le_one_right hc.le h1.le).trans (hc9.trans pi_sq_gt_nine.le)
  rw [show (m:ℝ) * K * π^2 * ((t:ℝ)+1)^2 = π^2 * (((t:ℝ)+1)^2 * (K * m)) by ring,
    exp_neg_half_sq_sqrt_two_log (le_arg (mul_pos hc h0) pi_sq_pos hd hs hN)]
  exact mul_inv_arg pi_sq_pos hs hN

lemma vogp_term (hm : 1 ≤ m) (hK : 1 ≤ K) (h0 : 0 < δ) (h1 : δ < 1) :
    (K:ℝ) * m * rexp (-(vogpBeta t m K δ (1:ℝ))^2/2) = 3*δ/π^2 * (1 / ((t:ℝ)+1)^2) := by
  rw [vogpBeta_real]
  exact sqrt_two_log_term t m K δ hm hK h0 h1 three_pos (by norm_num)

lemma epal_term (hm : 1 ≤ m) (hK : 1 ≤ K) (h0 : 0 < δ) (h1 : δ < 1) :
    (K:ℝ) * m * rexp (-(epalBeta t m K δ (1:ℝ))^2/2) = 6*δ/π^2 * (1 / ((t:ℝ)+1)^2) := by
  rw [epalBeta_real]
  exact sqrt_two_log_term t m K δ hm hK h0 h1 (by norm_num) (by norm_num)

lemma vogpBeta_nonneg : 0 ≤ vogpBeta t m K δ (1:ℝ) := by
  rw [vogpBeta_real]; exact Real.sqrt_nonneg _

lemma epalBeta_nonneg : 0 ≤ epalBeta t m K δ (1:ℝ) := by
  rw [epalBeta_real]; exact Real.sqrt_nonneg _

/-! #### PaVeBaPartialGP, hyper-rectangle: the code passes `α_t = 2 log A_t`,
`A_t = π²(t+1)²K/(3δ)`, itself as the scale -/

lemma partial_arg_ge (hK : 1 ≤ K) (h0 : 0 < δ) (h1 : δ < 1) :
    π^2/3 ≤ π^2 * (((t:ℝ)+1)^2 * K) / (3*δ) := by
  refine le_arg (mul_pos three_pos h0) pi_sq_pos ?_ (one_le_cast_succ_sq t) (Nat.one_le_cast.mpr hK)
  rw [← mul_assoc, div_mul_cancel₀ _ three_ne_zero]
  exact mul_le_of_le_one_right pi_sq_pos.le h1.le

lemma three_le_partial_arg (hK : 1 ≤ K) (h0 : 0 < δ) (h1 : δ < 1) :
    3 ≤ π^2 * (((t:ℝ)+1)^2 * K) / (3*δ) :=
  (by linarith only [pi_sq_gt_nine] : 3 ≤ π^2/3).trans (partial_arg_ge t K δ hK h0 h1)

lemma one_le_log_partial_arg (hK : 1 ≤ K) (h0 : 0 < δ) (h1 : δ < 1) :
    1 ≤ Real.log (π^2 * (((t:ℝ)+1)^2 * K) / (3*δ)) := by
  have hA := three_le_partial_arg t K δ hK h0 h1
  exact (Real.le_log_iff_exp_le (three_pos.trans_le hA)).mpr (Real.exp_one_lt_three.le.trans hA)

lemma two_le_partialGpAlpha (hK : 1 ≤ K) (h0 : 0 < δ) (h1 : δ < 1) :
    2 ≤ partialGpAlpha (t+1) K δ (1:ℝ) := by
  rw [partialGpAlpha_real]; push_cast
  exact le_mul_of_one_le_right zero_le_two (one_le_log_partial_arg t K δ hK h0 h1)

/-- PaVeBaPartialGP (rectangle), per round: `K·m·exp(-α_t²/2) ≤ m·(3/π²)·(K·A_t⁻¹)`, since
`A_t ≥ π²/3`; that is `((9mδ/π²)/π²)/(t+1)²`. -/
lemma partialgp_rect_term (hK : 1 ≤ K) (h0 : 0 < δ) (h1 : δ < 1) :
    (K:ℝ) * m * rexp (-(partialGpAlpha (t+1) K δ (1:ℝ))^2/2)
      ≤ 9*m*δ/π^2/π^2 * (1 / ((t:ℝ)+1)^2) := by
  rw [partialGpAlpha_real]; push_cast
  have hs := one_le_cast_succ_sq t
  have hK' : (1:ℝ) ≤ K := Nat.one_le_cast.mpr hK
  have hc : (π^2 * (((t:ℝ)+1)^2 * K) / (3*δ))⁻¹ ≤ 3/π^2 :=
    (inv_anti₀ (div_pos pi_sq_pos three_pos) (partial_arg_ge t K δ hK h0 h1)).trans_eq (inv_div _ _)
  refine (mul_exp_neg_half_sq_two_log_le K.cast_nonneg m.cast_nonneg
    (three_pos.trans_le (three_le_partial_arg t K δ hK h0 h1))
    (one_le_log_partial_arg t K δ hK h0 h1) hc).trans_eq ?_
  rw [mul_inv_arg pi_sq_pos hs hK']
  ring

/-! #### PaVeBaGP, both region types: the code passes `α_t = 8 m log 6 + 4 log A_t`,
`A_t = π²(t+1)²K/(6δ)`, itself as the scale (boxes) resp. the radius (ellipsoids) -/

lemma one_le_log_six : 1 ≤ Real.log 6 :=
  (Real.le_log_iff_exp_le (by norm_num)).mpr (Real.exp_one_lt_three.le.trans (by norm_num))

lemma one_le_pavebagp_arg (hK : 1 ≤ K) (h0 : 0 < δ) (h1 : δ < 1) :
    1 ≤ π^2 * (((t:ℝ)+1)^2 * K) / (6*δ) :=
  le_arg (mul_pos (by norm_num) h0) pi_sq_pos (by linarith only [h1, pi_sq_gt_nine])
    (one_le_cast_succ_sq t) (Nat.one_le_cast.mpr hK)

/-- `α_t ≥ 8` and `α_t ≥ log A_t + m` (`m ≥ 1`): the quantitative facts that make passing `α_t`
(instead of `√α_t`) as the scale harmless. -/
lemma pavebaGpAlpha_ge (hm : 1 ≤ m) (hK : 1 ≤ K) (h0 : 0 < δ) (h1 : δ < 1) :
    8 ≤ pavebaGpAlpha (t+1) m K δ (1:ℝ) ∧
    Real.log (π^2 * (((t:ℝ)+1)^2 * K) / (6*δ)) + m ≤ pavebaGpAlpha (t+1) m K δ (1:ℝ) := by
  have hL := Real.log_nonneg (one_le_pavebagp_arg t K δ hK h0 h1)
  have hm' : (1:ℝ) ≤ m := Nat.one_le_cast.mpr hm
  have h6 : (m:ℝ) ≤ m * Real.log 6 := le_mul_of_one_le_right m.cast_nonneg one_le_log_six
  rw [pavebaGpAlpha_real]; push_cast
  generalize Real.log (π^2 * (((t:ℝ)+1)^2 * K) / (6*δ)) = L at hL ⊢
  constructor <;> linarith only [hL, hm', h6]

lemma pavebaGpAlpha_nonneg (hm : 1 ≤ m) (hK : 1 ≤ K) (h0 : 0 < δ) (h1 : δ < 1) :
    0 ≤ pavebaGpAlpha (t+1) m K δ (1:ℝ) :=
  (by norm_num : (0:ℝ) ≤ 8).trans (pavebaGpAlpha_ge t m K δ hm hK h0 h1).1

/-- PaVeBaGP, both region types, per round: `K` designs, a tail `w·exp(-α_t²/c)` with `w ≤ e^m`
(`w = m`, `c = 2` for boxes; `w = (√2)^m`, `c = 4` for ellipsoids) and `c ≤ 8 ≤ α_t`. -/
lemma pavebagp_term {w c : ℝ} (hw : w ≤ rexp m) (hc : 0 < c) (hc8 : c ≤ 8)
    (hm : 1 ≤ m) (hK : 1 ≤ K) (h0 : 0 < δ) (h1 : δ < 1) :
    (K:ℝ) * (w * rexp (-(pavebaGpAlpha (t+1) m K δ (1:ℝ))^2 / c))
      ≤ 6*δ/π^2 * (1 / ((t:ℝ)+1)^2) := by
  obtain ⟨h8, hα⟩ := pavebaGpAlpha_ge t m K δ hm hK h0 h1
  exact (mul_le_mul_of_nonneg_left
    (weight_mul_exp_le hw (zero_lt_one.trans_le (one_le_pavebagp_arg t K δ hK h0 h1)) hc
      (hc8.trans h8) hα) K.cast_nonneg).trans_eq
    (mul_inv_arg pi_sq_pos (one_le_cast_succ_sq t) (Nat.one_le_cast.mpr hK))

/-! #### Auer (original β): means of `t+1` samples of variance ≤ 1, identity covariance in the region -/

lemma auerBeta_nonneg : 0 ≤ auerBeta (t+1) m K δ (1:ℝ) := by
  rw [auerBeta_real]; exact Real.sqrt_nonneg _

lemma auer_term (hm : 1 ≤ m) (hK : 1 ≤ K) (h0 : 0 < δ) (h1 : δ < 1) :
    (K:ℝ) * m * rexp (-(auerBeta (t+1) m K δ (1:ℝ))^2 * ((t:ℝ)+1) / 2)
      = δ/4 * (1 / ((t:ℝ)+1)^2) := by
  rw [auerBeta_real]; push_cast
  have hs := one_le_cast_succ_sq t
  have hN : (1:ℝ) ≤ K * m :=
    one_le_mul_of_one_le_of_one_le (Nat.one_le_cast.mpr hK) (Nat.one_le_cast.mpr hm)
  have hA1 : 1 ≤ 4 * (((t:ℝ)+1)^2 * ((K:ℝ) * m)) / δ :=
    le_arg h0 four_pos (by linarith only [h1]) hs hN
  have ht : (0:ℝ) < (t:ℝ)+1 := t.cast_add_one_pos
  rw [Real.sq_sqrt (div_nonneg (mul_nonneg zero_le_two (Real.log_nonneg hA1)) ht.le),
    neg_mul, div_mul_cancel₀ _ ht.ne', neg_div, mul_div_cancel_left₀ _ two_ne_zero,
    exp_neg_log (zero_lt_one.trans_le hA1)]
  exact mul_inv_arg four_pos hs hN

end

end VOPy.SchedR
