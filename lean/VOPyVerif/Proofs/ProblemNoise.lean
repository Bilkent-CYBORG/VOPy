import VOPyVerif.Proofs.Problem
import VOPyVerif.Proofs.ListFin
import Mathlib.LinearAlgebra.Matrix.RowCol
import Mathlib.Data.Matrix.Basic
import Mathlib.Algebra.Module.BigOperators
/-! Helper lemmas for C20: the list-of-rows model of the noise map agrees with Mathlib's `Matrix`
operations (`toRows` encoding), and the second-moment algebra of `x ↦ x · M`. -/
namespace VOPy.Problem
open Matrix

/-- the list-of-rows encoding of a matrix, as the driver receives it -/
def toRows {r c : Nat} (M : Matrix (Fin r) (Fin c) ℚ) : Mat :=
  List.ofFn (fun i => List.ofFn (fun j => M i j))

theorem toRows_length {r c : Nat} (M : Matrix (Fin r) (Fin c) ℚ) : (toRows M).length = r := by
  simp [toRows]

theorem toRows_getElem {r c : Nat} (M : Matrix (Fin r) (Fin c) ℚ) (i : Nat) (hi : i < r) :
    (toRows M)[i]'(by rw [toRows_length]; exact hi) = List.ofFn (fun j => M ⟨i, hi⟩ j) := by
  simp [toRows]

theorem toRows_injective {r c : Nat} : Function.Injective (toRows (r := r) (c := c)) :=
  fun _ _ h => Matrix.ext fun i j =>
    congrFun (List.ofFn_injective (congrFun (List.ofFn_injective h) i)) j

theorem map_range_eq_ofFn {α : Type} (n : Nat) (g : Nat → α) :
    (List.range n).map g = List.ofFn (fun i : Fin n => g i) := by
  apply List.ext_getElem
  · rw [List.length_map, List.length_range, List.length_ofFn]
  · intro i _ _
    rw [List.getElem_map, List.getElem_range, List.getElem_ofFn]

theorem transposeN_toRows {r c : Nat} (M : Matrix (Fin r) (Fin c) ℚ) :
    transposeN c (toRows M) = toRows Mᵀ := by
  rw [transposeN, map_range_eq_ofFn]
  refine congrArg List.ofFn (funext fun j => ?_)
  rw [toRows, List.map_ofFn]
  refine congrArg List.ofFn (funext fun i => ?_)
  rw [Function.comp, List.getD_eq_getElem?_getD, List.getElem?_ofFn, dif_pos j.2]
  rfl

theorem transpose_toRows {r c : Nat} (hr : 0 < r) (M : Matrix (Fin r) (Fin c) ℚ) :
    VOPy.Problem.transpose (toRows M) = toRows Mᵀ := by
  unfold VOPy.Problem.transpose
  have : ((toRows M).headD []).length = c := by
    obtain ⟨k, rfl⟩ : ∃ k, r = k + 1 := ⟨r - 1, by omega⟩
    simp [toRows, List.ofFn_succ]
  rw [this, transposeN_toRows]

theorem vecMat_toRows {r c : Nat} (hr : 0 < r) (z : Fin r → ℚ) (M : Matrix (Fin r) (Fin c) ℚ) :
    vecMat (List.ofFn z) (toRows M) = List.ofFn (z ᵥ* M) := by
  rw [vecMat, transpose_toRows hr, toRows, List.map_ofFn]
  congr 1
  funext j
  rw [Function.comp, dot_ofFn]
  rfl

theorem matMul_toRows {n r c : Nat} (hr : 0 < r) (A : Matrix (Fin n) (Fin r) ℚ)
    (B : Matrix (Fin r) (Fin c) ℚ) : matMul (toRows A) (toRows B) = toRows (A * B) := by
  show (List.ofFn fun i => List.ofFn (A i)).map (fun a => vecMat a (toRows B)) = _
  simp only [List.map_ofFn, Function.comp_def, vecMat_toRows hr]
  rfl

theorem gram_toRows {r c : Nat} (hr : 0 < r) (M : Matrix (Fin r) (Fin c) ℚ) :
    gram (toRows M) = toRows (Mᵀ * M) := by
  unfold gram
  rw [transpose_toRows hr, matMul_toRows hr]

theorem llt_toRows {r c : Nat} (hr : 0 < r) (hc : 0 < c) (L : Matrix (Fin r) (Fin c) ℚ) :
    llt (toRows L) = toRows (L * Lᵀ) := by
  unfold llt
  rw [transpose_toRows hr, matMul_toRows hc]

theorem matAdd_toRows {r c : Nat} (A B : Matrix (Fin r) (Fin c) ℚ) :
    matAdd (toRows A) (toRows B) = toRows (A + B) := by
  simp only [matAdd, toRows, vadd, zipWith_ofFn]
  rfl

theorem noisy_toRows {n d m : Nat} (hd : 0 < d) (F : Matrix (Fin n) (Fin m) ℚ)
    (Z : Matrix (Fin n) (Fin d) ℚ) (M : Matrix (Fin d) (Fin m) ℚ) :
    noisy (toRows F) (toRows Z) (toRows M) = toRows (F + Z * M) := by
  unfold noisy
  rw [matMul_toRows hd, matAdd_toRows]

theorem covOK_toRows {d : Nat} (hd : 0 < d) (M L : Matrix (Fin d) (Fin d) ℚ) :
    covOK (toRows M) (toRows L) = true ↔ Mᵀ * M = L * Lᵀ := by
  unfold covOK
  rw [gram_toRows hd, llt_toRows hd hd, beq_iff_eq]
  exact toRows_injective.eq_iff

/-! ## second-moment algebra -/

section Moments
variable {R : Type} [CommRing R] {d m : Nat}

theorem vecMulVec_vecMul (v : Fin d → R) (M : Matrix (Fin d) (Fin m) R) :
    vecMulVec (v ᵥ* M) (v ᵥ* M) = Mᵀ * vecMulVec v v * M := by
  rw [vecMulVec_eq (Fin 1), vecMulVec_eq (Fin 1), replicateCol_vecMul, replicateRow_vecMul,
    transpose_mul, transpose_replicateRow, Matrix.mul_assoc, Matrix.mul_assoc, Matrix.mul_assoc]

theorem second_moment_vecMul {ι : Type} [Fintype ι] (p : ι → R) (x : ι → Fin d → R)
    (M : Matrix (Fin d) (Fin m) R) :
    ∑ k, p k • vecMulVec (x k ᵥ* M) (x k ᵥ* M) = Mᵀ * (∑ k, p k • vecMulVec (x k) (x k)) * M := by
  rw [Matrix.mul_sum, Matrix.sum_mul]
  apply Finset.sum_congr rfl
  intro k _
  rw [vecMulVec_vecMul, Matrix.mul_smul, Matrix.smul_mul]

theorem first_moment_vecMul {ι : Type} [Fintype ι] (p : ι → R) (x : ι → Fin d → R)
    (M : Matrix (Fin d) (Fin m) R) :
    ∑ k, p k • (x k ᵥ* M) = (∑ k, p k • x k) ᵥ* M := by
  rw [Matrix.sum_vecMul]
  apply Finset.sum_congr rfl
  intro k _
  rw [Matrix.smul_vecMul]

end Moments

end VOPy.Problem
