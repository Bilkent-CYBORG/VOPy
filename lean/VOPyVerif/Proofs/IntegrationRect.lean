import VOPyVerif.Proofs.IntegrationBall
import VOPyVerif.Proofs.AccuracyAuerGeom
/-!
# Integration, rectangles: the computed oracles are sound — from C09 and C10

For `Core.rectDom` / `Core.rectCov` (the executable rectangular `is_dominated` / `is_covered` with an
objective-space slack passed through the size guard), at real points of the boxes first:

* `rectDom_iff` — `C09.rect_isDominated_iff`: the vertex-pair loop answers `true` exactly when every
  real point of the second box, shifted by the broadcast slack `s`, dominates every real point of the
  first; `rectDom_zero_iff`: for zero slack that is `RegDom`;
* `rectCov_sound_real` — `C10.rect_isCovered_iff`: `rectCov … = false` ⇒ no real point `y` of the
  second box dominates `x + s` for a real point `x` of the first;
* `rectDom_sound`, `rectCov_sound` — the same two at rational points (list level), for any slack;
* `rect_oracleSound_real`, `rect_oracleSound` — the four facts for boxes with positive widths
  (`oracleSound_of_regDom`, `oracleSound_comap`); `rect_vroundSound_real` — the two facts of a VOGP /
  ε-PAL round.
-/
namespace VOPy.Core
open VOPy

variable {m N : ℕ}

/-! ### membership -/

/-- a real point of the box `[l, u]` with rational bounds -/
def RBoxMem (l u : Fin m → ℚ) (x : Fin m → ℝ) : Prop := ∀ d, (l d : ℝ) ≤ x d ∧ x d ≤ (u d : ℝ)

theorem rboxMem_le {l u : Fin m → ℚ} {x : Fin m → ℝ} (h : RBoxMem l u x) : ∀ d, l d ≤ u d :=
  fun d => Rat.cast_le.1 (le_trans (h d).1 (h d).2)

theorem rboxMem_lower (l u : Fin m → ℚ) (h : ∀ d, l d ≤ u d) : RBoxMem l u fun d => (l d : ℝ) :=
  fun d => ⟨le_refl _, Rat.cast_le.2 (h d)⟩

/-- the lower corner moved to the upper bound in coordinate `i` -/
theorem rboxMem_shift (l u : Fin m → ℚ) (h : ∀ d, l d ≤ u d) (i : Fin m) :
    RBoxMem l u (Function.update (fun d => (l d : ℝ)) i ((l i : ℝ) + ((u i : ℝ) - (l i : ℝ)))) := by
  intro d
  by_cases hd : d = i
  · subst hd
    rw [Function.update_self, add_sub_cancel]
    exact ⟨Rat.cast_le.2 (h d), le_refl _⟩
  · rw [Function.update_of_ne hd]
    exact rboxMem_lower l u h d

/-- membership of a rational point in a rational box, coordinate-wise -/
theorem box_mem_toVec_iff (l u x : Fin m → ℚ) :
    Box.mem ⟨toVec l, toVec u⟩ (toVec x) = true ↔ ∀ i, l i ≤ x i ∧ x i ≤ u i := by
  simp only [Box.mem, Accuracy.inBox_iff, toVec_length, true_and, getElem_toVec]
  exact ⟨fun h i => h i.1 i.2 i.2 i.2, fun h n h1 _ _ => h ⟨n, h1⟩⟩

theorem Box.mem_length {b : Box} {x : Vec} (h : b.mem x = true) :
    b.l.length = x.length ∧ b.u.length = x.length := by
  simp only [Box.mem, Accuracy.inBox_iff] at h
  exact ⟨h.1, h.2.1⟩

theorem Box.exists_toVec (b : Box) (hl : b.l.length = m) (hu : b.u.length = m) :
    ∃ l u : Fin m → ℚ, b = ⟨toVec l, toVec u⟩ := by
  obtain ⟨l, hl'⟩ := VOPy.C09.vec_wellformed b.l hl
  obtain ⟨u, hu'⟩ := VOPy.C09.vec_wellformed b.u hu
  exact ⟨l, u, by rw [← hl', ← hu']⟩

/-- a rational point of a box of dimension `m` is a real point of it (`Fin`-indexed forms) -/
theorem Box.exists_point (b : Box) (x : Vec) (hl : b.l.length = m) (hx : b.mem x = true) :
    ∃ l u x' : Fin m → ℚ, b = ⟨toVec l, toVec u⟩ ∧ x = toVec x' ∧ RBoxMem l u fun d => (x' d : ℝ) := by
  obtain ⟨h1, h2⟩ := Box.mem_length hx
  obtain ⟨l, u, rfl⟩ := b.exists_toVec hl (h2.trans (h1.symm.trans hl))
  obtain ⟨x', rfl⟩ := VOPy.C09.vec_wellformed x (h1.symm.trans hl)
  rw [box_mem_toVec_iff] at hx
  exact ⟨l, u, x', rfl, rfl, fun d => ⟨Rat.cast_le.2 (hx d).1, Rat.cast_le.2 (hx d).2⟩⟩

theorem Box.wfB_iff (m : Nat) (b : Box) : b.wfB m = true ↔
    b.l.length = m ∧ b.u.length = m ∧
      ∀ d, ∀ h1 : d < b.l.length, ∀ h2 : d < b.u.length, b.l[d] < b.u[d] := by
  simp only [Box.wfB, Bool.and_eq_true, decide_eq_true_eq, Accuracy.sltB_iff, and_assoc]

/-- a well-formed box of dimension `m`: `Fin`-indexed bounds with `l < u` in every coordinate -/
theorem Box.exists_of_wfB (b : Box) (h : b.wfB m = true) :
    ∃ l u : Fin m → ℚ, b = ⟨toVec l, toVec u⟩ ∧ ∀ d, l d < u d := by
  obtain ⟨hl, hu, hlt⟩ := (Box.wfB_iff m b).1 h
  obtain ⟨l, u, rfl⟩ := b.exists_toVec hl hu
  refine ⟨l, u, rfl, fun d => ?_⟩
  have := hlt d.1 (by simp) (by simp)
  rwa [getElem_toVec, getElem_toVec] at this

/-! ### domination (C09) -/

theorem rect_expandSlack_eq (k : ℕ) (s : Vec) : Rect.expandSlack k s = Covered.expandSlack k s := by
  match s with
  | [] => rfl
  | [_] => rfl
  | _ :: _ :: _ => rfl

theorem rectDom_eq (W : Mat) (slack s : Vec) (a b : Box)
    (hs : Covered.expandSlack a.l.length slack = some s) :
    rectDom W slack a b = Rect.isDominated W a.l a.u b.l b.u s := by
  simp [rectDom, Rect.isDominatedChecked, rect_expandSlack_eq, hs]

/-- **C09 for boxes** (any objective-space slack, broadcast to `s`; non-empty boxes): the executable
vertex-pair loop answers `true` exactly when every real point of the second box, shifted by `s`,
dominates every real point of the first. -/
theorem rectDom_iff (W : Fin N → Fin m → ℚ) (slack : Vec) (s : Fin m → ℚ)
    (hs : Covered.expandSlack m slack = some (toVec s)) (l1 u1 l2 u2 : Fin m → ℚ)
    (h1 : ∀ d, l1 d ≤ u1 d) (h2 : ∀ d, l2 d ≤ u2 d) :
    rectDom (toMat W) slack ⟨toVec l1, toVec u1⟩ ⟨toVec l2, toVec u2⟩ = true ↔
      ∀ x, RBoxMem l1 u1 x → ∀ y, RBoxMem l2 u2 y → RDom W (fun d => y d + (s d : ℝ)) x := by
  rw [rectDom_eq (toMat W) slack (toVec s) _ _ (by rw [toVec_length]; exact hs)]
  exact VOPy.C09.rect_isDominated_iff W l1 u1 l2 u2 s h1 h2

/-- zero scalar slack (`[0]`, what the PaVeBa-GP variants pass) -/
theorem rectDom_zero_iff (W : Fin N → Fin m → ℚ) (l1 u1 l2 u2 : Fin m → ℚ)
    (h1 : ∀ d, l1 d ≤ u1 d) (h2 : ∀ d, l2 d ≤ u2 d) :
    rectDom (toMat W) [0] ⟨toVec l1, toVec u1⟩ ⟨toVec l2, toVec u2⟩ = true ↔
      RegDom W (RBoxMem l1 u1) (RBoxMem l2 u2) := by
  rw [rectDom_iff W [0] (fun _ => 0) (by rw [toVec_const]; rfl) l1 u1 l2 u2 h1 h2]
  simp only [Rat.cast_zero, add_zero, RegDom]

/-! ### covering (C10) -/

theorem ncols_eq (W : Mat) (m : ℕ) (hW : ∀ w ∈ W, w.length = m) (hne : W ≠ []) :
    Covered.ncols W = m := by
  cases W with
  | nil => exact absurd rfl hne
  | cons w _ => exact hW w (by simp)

section lists
open VOPy.LinCert VOPy.Covered

/-- a real point of a rational box, as a point of the real box of C10 -/
theorem ofFn_mem_box (l u : Fin m → ℚ) (x : Fin m → ℝ) (h : RBoxMem l u x) :
    List.ofFn x ∈ Covered.box (toVec l) (toVec u) := by
  show InBox (toVec l) (toVec u) (List.ofFn x)
  rw [inBox_iff_getD]
  refine ⟨by simp, by simp, ?_⟩
  intro i hi
  have hi' : i < m := by simpa using hi
  have e : ∀ f : Fin m → ℚ, (toVec f).getD i 0 = f ⟨i, hi'⟩ := fun f => by
    rw [List.getD_eq_getElem _ _ (by simpa using hi')]
    exact getElem_toVec f i _
  have ex : (List.ofFn x).getD i 0 = x ⟨i, hi'⟩ := by
    rw [List.getD_eq_getElem _ _ (by simpa using hi')]
    simp
  rw [e l, e u, ex]
  exact h ⟨i, hi'⟩

/-- **`rectCov` is sound at real points** (C10, `rect_isCovered_iff`): if the executable rectangular
covering test (objective-space slack, broadcast to `s`) does not answer `1`, no real point `y` of
the second box dominates `x + s` for a real point `x` of the first. -/
theorem rectCov_sound_real (W : Fin N → Fin m → ℚ) (hN : 0 < N) (slack : Vec) (s : Fin m → ℚ)
    (hs : Covered.expandSlack m slack = some (toVec s))
    (l1 u1 l2 u2 : Fin m → ℚ) (x y : Fin m → ℝ) (hx : RBoxMem l1 u1 x) (hy : RBoxMem l2 u2 y)
    (h : rectCov (toMat W) slack ⟨toVec l1, toVec u1⟩ ⟨toVec l2, toVec u2⟩ = false) :
    ∃ n, ∑ d, (W n d : ℝ) * (y d - x d - (s d : ℝ)) < 0 := by
  by_contra hng
  have hyes : rectIsCovered (toMat W) (toVec l1) (toVec u1) (toVec l2) (toVec u2) slack =
      some Verdict.yes := by
    apply (VOPy.C10.rect_isCovered_iff (toMat W) (toVec l1) (toVec u1) (toVec l2) (toVec u2) slack
      (by simp) (by simp) (by simp)
      (by rw [ncols_eq _ m (toMat_rows W) (toMat_ne_nil W hN), toVec_length])
      (by simpa using toMat_rows W)).1.2
    refine ⟨toVec s, by simpa using hs, List.ofFn x, ofFn_mem_box l1 u1 x hx, List.ofFn y,
      ofFn_mem_box l2 u2 y hy, ?_⟩
    intro w hw
    obtain ⟨n, rfl⟩ := mem_toMat.1 hw
    rw [castV_toVec, castV_toVec, rsub_ofFn, rsub_ofFn, rdot_ofFn]
    exact not_lt.1 fun hlt => hng ⟨n, hlt⟩
  simp [rectCov, hyes] at h

end lists

/-- an objective-space slack `s` is the facet-threshold vector `W·s` -/
theorem rgood_of_shift (W : Fin N → Fin m → ℚ) (s : Fin m → ℚ) (x y : Fin m → ℝ)
    (h : ∃ n, ∑ d, (W n d : ℝ) * (y d - x d - (s d : ℝ)) < 0) :
    RGood W (fun n => ∑ d, W n d * s d) x y := by
  obtain ⟨n, hn⟩ := h
  refine ⟨n, ?_⟩
  have e : ∑ d, (W n d : ℝ) * (y d - x d - (s d : ℝ)) =
      ∑ d, (W n d : ℝ) * (y d - x d) - ((∑ d, W n d * s d : ℚ) : ℝ) := by
    push_cast
    rw [← Finset.sum_sub_distrib]
    exact Finset.sum_congr rfl fun d _ => by ring
  rw [e] at hn
  exact sub_neg.1 hn

/-! ### list level -/

/-- **`rectDom` is sound** (any objective-space slack): if the executable vertex-pair loop answers
`true` for two boxes of dimension `m`, every rational point of the second, shifted by the broadcast
slack `s`, dominates every rational point of the first. -/
theorem rectDom_sound (W : Mat) (m : ℕ) (hW : ∀ w ∈ W, w.length = m) (slack s : Vec)
    (hs : Covered.expandSlack m slack = some s) (a b : Box) (x y : Vec)
    (hal : a.l.length = m) (hbl : b.l.length = m) (hx : a.mem x = true) (hy : b.mem y = true)
    (h : rectDom W slack a b = true) : dominates W (vadd y s) x = true := by
  obtain ⟨N, W, rfl⟩ := exists_toMat W hW
  obtain ⟨la, ua, x, rfl, rfl, mx⟩ := a.exists_point x hal hx
  obtain ⟨lb, ub, y, rfl, rfl, my⟩ := b.exists_point y hbl hy
  obtain ⟨s, rfl⟩ := VOPy.C09.vec_wellformed s (Covered.expandSlack_length hs)
  have hd := (rectDom_iff W slack s hs la ua lb ub (rboxMem_le mx) (rboxMem_le my)).1 h _ mx _ my
  rw [vadd_toVec, ← rdom_cast]
  intro n
  push_cast
  exact hd n

/-- **`rectCov` is sound.**  If the executable rectangular covering test (objective-space slack,
broadcast to `s`) does not answer `1` for two boxes of dimension `m`, then no rational point `y` of
the second box dominates `x + s` for a rational point `x` of the first. -/
theorem rectCov_sound (W : Mat) (m : ℕ) (hW : ∀ w ∈ W, w.length = m) (hne : W ≠ []) (slack s : Vec)
    (hs : Covered.expandSlack m slack = some s) (a b : Box) (x y : Vec)
    (hal : a.l.length = m) (hbl : b.l.length = m) (hx : a.mem x = true) (hy : b.mem y = true)
    (h : rectCov W slack a b = false) : dominates W y (vadd x s) = false := by
  obtain ⟨N, W, rfl⟩ := exists_toMat W hW
  obtain ⟨la, ua, x, rfl, rfl, mx⟩ := a.exists_point x hal hx
  obtain ⟨lb, ub, y, rfl, rfl, my⟩ := b.exists_point y hbl hy
  obtain ⟨s, rfl⟩ := VOPy.C09.vec_wellformed s (Covered.expandSlack_length hs)
  have hN : 0 < N := by
    rw [← toMat_length W]
    exact List.length_pos_of_ne_nil hne
  obtain ⟨n, hn⟩ := rectCov_sound_real W hN slack s hs la ua lb ub _ _ mx my h
  rw [← Bool.not_eq_true, vadd_toVec, ← rdom_cast]
  intro hd
  have := hd n
  push_cast at this
  rw [Finset.sum_congr rfl fun d _ => by rw [← sub_sub]] at this
  exact absurd this (not_le.2 hn)

/-- the four facts for boxes of dimension `m` with positive widths, at real points: `rectDom_zero_iff`
(C09), the lower corner and the lower corner moved to the upper bound in one coordinate,
`rectCov_sound_real` (C10); the slack of `is_covered` is an objective-space shift `s`, i.e. the facet
thresholds are `W·s` -/
theorem rect_oracleSound_real (W : Fin N → Fin m → ℚ) (hWne : ∃ n d, W n d ≠ 0) (slack : Vec)
    (s : Fin m → ℚ) (hs : Covered.expandSlack m slack = some (toVec s)) :
    OracleSound (rectDom (toMat W) [0]) (rectCov (toMat W) slack) (fun b => b.wfB m = true)
      (fun b (x : Fin m → ℝ) => ∃ l u : Fin m → ℚ, b = ⟨toVec l, toVec u⟩ ∧ RBoxMem l u x)
      (RDom W) (RGood W fun n => ∑ d, W n d * s d) := by
  obtain ⟨n, i, hw⟩ := hWne
  -- the box with bounds `toVec l`, `toVec u` has the points `RBoxMem l u`
  have e : ∀ (l u : Fin m → ℚ) (x : Fin m → ℝ),
      (∃ l' u' : Fin m → ℚ, (⟨toVec l, toVec u⟩ : Box) = ⟨toVec l', toVec u'⟩ ∧ RBoxMem l' u' x) ↔
        RBoxMem l u x :=
    fun l u x => ⟨fun ⟨l', u', h, hx⟩ => by
      obtain ⟨h1, h2⟩ := Box.mk.inj h
      rwa [List.ofFn_injective h1, List.ofFn_injective h2], fun hx => ⟨l, u, rfl, hx⟩⟩
  refine oracleSound_of_regDom _ ?_ ?_ ?_
  · intro a b wa wb
    obtain ⟨la, ua, rfl, hla⟩ := a.exists_of_wfB wa
    obtain ⟨lb, ub, rfl, hlb⟩ := b.exists_of_wfB wb
    rw [rectDom_zero_iff W _ _ _ _ (fun d => (hla d).le) (fun d => (hlb d).le)]
    exact ⟨fun h x hx y hy => h x ((e ..).1 hx) y ((e ..).1 hy),
      fun h x hx y hy => h x ((e ..).2 hx) y ((e ..).2 hy)⟩
  · intro a wa
    obtain ⟨l, u, rfl, hlt⟩ := a.exists_of_wfB wa
    exact ⟨n, i, hw, _, (u i : ℝ) - (l i : ℝ), sub_ne_zero.2 (Rat.cast_lt.2 (hlt i)).ne',
      ⟨l, u, rfl, rboxMem_lower l u fun d => (hlt d).le⟩,
      ⟨l, u, rfl, rboxMem_shift l u (fun d => (hlt d).le) i⟩⟩
  · rintro _ _ x y _ _ ⟨la, ua, rfl, mx⟩ ⟨lb, ub, rfl, my⟩ h
    exact rgood_of_shift W s x y (rectCov_sound_real W (Fin.pos n) slack s hs la ua lb ub x y mx my h)

/-- … and at rational points (list level) -/
theorem rect_oracleSound (W : Mat) (m : ℕ) (hW : ∀ w ∈ W, w.length = m)
    (hWne : ∃ w ∈ W, ∃ x ∈ w, x ≠ 0) (slack s : Vec) (hs : Covered.expandSlack m slack = some s) :
    OracleSound (rectDom W [0]) (rectCov W slack) (fun b => b.wfB m = true)
      (fun b x => b.mem x = true) (fun y x => dominates W y x = true)
      (fun x y => Accuracy.notCovers W (matVec W s) x y = true) := by
  obtain ⟨N, W, rfl⟩ := exists_toMat W hW
  obtain ⟨s, rfl⟩ := VOPy.C09.vec_wellformed s (Covered.expandSlack_length hs)
  rw [matVec_toMat]
  refine oracleSound_comap (rect_oracleSound_real W ((exists_ne_zero_toMat W).1 hWne) slack s hs)
    CastOf ?_ ?_ ?_
  · intro a x' wa mx
    obtain ⟨l, u, q, rfl, rfl, h⟩ := a.exists_point x' ((Box.wfB_iff m a).1 wa).1 mx
    exact ⟨_, ⟨q, rfl, rfl⟩, l, u, rfl, h⟩
  · rintro _ _ _ _ ⟨x, rfl, rfl⟩ ⟨y, rfl, rfl⟩ h
    exact (rdom_cast W y x).1 h
  · rintro _ _ _ _ ⟨x, rfl, rfl⟩ ⟨y, rfl, rfl⟩ h
    exact (rgood_cast W _ x y).1 h

/-- the two facts of a VOGP / ε-PAL round whose boxes contain the real true values of `S ∪ P`: the
slack enters `is_dominated` as `μ_j + s ≽ μ_i` and `is_covered` as `μ_j ≽ μ_i + s` -/
theorem rect_vroundSound_real (W : Fin N → Fin m → ℚ) (hN : 0 < N) (slack : Vec) (s : Fin m → ℚ)
    (hs : Covered.expandSlack m slack = some (toVec s)) (mu : ℕ → Fin m → ℝ) (l u : ℕ → Fin m → ℚ)
    {S P : List ℕ} (hvalid : ∀ i, i ∈ S ∨ i ∈ P → RBoxMem (l i) (u i) (mu i)) :
    Accuracy.VRoundSound (fun j i => ∀ n, 0 ≤ ∑ d, (W n d : ℝ) * (mu j d + (s d : ℝ) - mu i d))
      (fun j i => ∀ n, 0 ≤ ∑ d, (W n d : ℝ) * (mu j d - mu i d - (s d : ℝ)))
      (relOf (rectDom (toMat W) slack) fun i => ⟨toVec (l i), toVec (u i)⟩)
      (relOf (rectCov (toMat W) slack) fun i => ⟨toVec (l i), toVec (u i)⟩) S P where
  dom_sound i hi j hj _ hij :=
    (rectDom_iff W slack s hs _ _ _ _ (rboxMem_le (hvalid i (Or.inl hi))) (rboxMem_le (hvalid j hj))).1
      hij _ (hvalid i (Or.inl hi)) _ (hvalid j hj)
  cov_sound i hi j hj _ hij hsd := by
    obtain ⟨n, hn⟩ := rectCov_sound_real W hN slack s hs _ _ _ _ _ _ (hvalid i (Or.inl hi))
      (hvalid j hj) hij
    exact absurd (hsd n) (not_le.2 hn)

end VOPy.Core
