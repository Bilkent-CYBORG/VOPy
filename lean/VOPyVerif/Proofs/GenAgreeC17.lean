import VOPyVerif.Gen.C17
import VOPyVerif.Model.ConeConst
/-!
# Source agreement, C17: generated `ConeTheta2D.beta` = hand-written `ConeConst.coneBeta`

`Gen/C17.lean` is regenerated by `harness/translate.py` from the source text of the property
`ConeTheta2D.beta` (`vopy/ordering_cone.py`) on every `./check C17`.  The agreement is proved at the
polymorphic level (`∀ α [RealLike α] [LtB α]`) by `rfl`, so the driver's `Float` evaluation and the
`ℝ` theorems of `Props/C17.lean` (`beta_theta2D`, …) are about literally the term read
off the current source (import-free: no Mathlib).
-/
namespace VOPy.GenAgree.C17
open VOPy VOPy.Gen.C17

/-- `ConeTheta2D.beta` (source: `cone_rad = (deg/180)·π`, the branch test `cone_rad < π/2`, the two
returned values) = `ConeConst.coneBeta`; polymorphic, `rfl`. -/
theorem gen_coneBeta_eq {α : Type} [RealLike α] [ConeConst.LtB α] (deg : α) :
    gen_coneBeta deg = ConeConst.coneBeta deg := rfl

end VOPy.GenAgree.C17
