import VOPyVerif.Proofs.Acq
/-! The decoupled optimiser of C07: its candidates are cells of the table, each at most once, the
selection among them keeps that, and the top-`q` of the per-objective top-`q` lists is the top-`q`
of the whole table. -/
namespace VOPy.Acq

/-- the entries of one row of the table (`r.2` = its objective), `f` choosing among the row's
(position, value) pairs -/
def rowEntries (f : List Rat → List (Nat × Rat)) (r : List Rat × Nat) : List Entry :=
  (f r.1).map fun p => ⟨p.1, r.2, p.2⟩

/-- all cells of the table as entries, objective by objective (objectives counted from `j`) -/
def cellsFrom (j : Nat) (rows : List (List Rat)) : List Entry :=
  (rows.zipIdx j).flatMap (rowEntries indexed)

theorem decoupledCandidates_eq (q : Nat) : ∀ (j : Nat) (rows : List (List Rat)),
    decoupledCandidates j rows q = (rows.zipIdx j).flatMap (rowEntries (optimizeDiscrete · q))
  | _, [] => rfl
  | j, row :: rows => by
    rw [decoupledCandidates, decoupledCandidates_eq q (j + 1) rows, List.zipIdx_cons,
      List.flatMap_cons]
    rfl

theorem flatMap_rowEntries_vals (f : List Rat → List (Nat × Rat)) :
    ∀ (rows : List (List Rat)) (j : Nat),
    ((rows.zipIdx j).flatMap (rowEntries f)).map (·.val) =
      (rows.map fun r => (f r).map (·.2)).flatten
  | [], _ => rfl
  | row :: rows, j => by
    rw [List.zipIdx_cons, List.flatMap_cons, List.map_append, flatMap_rowEntries_vals f rows,
      List.map_cons, List.flatten_cons, rowEntries, List.map_map]
    rfl

theorem decoupledCandidates_vals (j : Nat) (rows : List (List Rat)) (q : Nat) :
    (decoupledCandidates j rows q).map (·.val) =
      (rows.map (fun r => (sortDesc r).take q)).flatten := by
  rw [decoupledCandidates_eq, flatMap_rowEntries_vals]
  simp only [optimizeDiscrete_values]

theorem cellsFrom_vals (j : Nat) (rows : List (List Rat)) :
    (cellsFrom j rows).map (·.val) = rows.flatten := by
  rw [cellsFrom, flatMap_rowEntries_vals]
  simp only [indexed_map_snd, List.map_id']

theorem decoupledCandidates_subperm (j : Nat) (rows : List (List Rat)) (q : Nat) :
    (decoupledCandidates j rows q).Subperm (cellsFrom j rows) := by
  rw [decoupledCandidates_eq]
  exact subperm_flatMap (fun r : List Rat × Nat => subperm_map _ (optimizeDiscrete_subperm r.1 q)) _

theorem tableAt_eq_some_iff {table : List (List Rat)} {i j : Nat} {v : Rat} :
    tableAt table i j = some v ↔
      ∃ (hj : j < table.length) (hi : i < table[j].length), table[j][i] = v := by
  rw [tableAt]
  constructor
  · intro h
    split at h
    · cases h
    · rename_i row hr
      obtain ⟨hj, rfl⟩ := List.getElem?_eq_some_iff.mp hr
      obtain ⟨hi, hv⟩ := List.getElem?_eq_some_iff.mp h
      exact ⟨hj, hi, hv⟩
  · rintro ⟨hj, hi, rfl⟩
    rw [List.getElem?_eq_getElem hj]
    exact List.getElem?_eq_getElem hi

theorem mem_cells_iff (table : List (List Rat)) (e : Entry) :
    e ∈ cellsFrom 0 table ↔ tableAt table e.pos e.obj = some e.val := by
  rw [cellsFrom, List.mem_flatMap, tableAt]
  constructor
  · rintro ⟨⟨row, j⟩, hr, hm⟩
    obtain ⟨p, hp, rfl⟩ := List.mem_map.mp hm
    rw [List.mem_zipIdx_iff_getElem?.mp hr]
    exact mem_indexed.mp hp
  · intro h
    cases hr : table[e.obj]? with
    | none => rw [hr] at h; cases h
    | some row =>
      rw [hr] at h
      exact ⟨(row, e.obj), List.mem_zipIdx_iff_getElem?.mpr hr,
        List.mem_map.mpr ⟨(e.pos, e.val), mem_indexed.mpr h, rfl⟩⟩

theorem cellsFrom_keys_nodup (j : Nat) (rows : List (List Rat)) :
    ((cellsFrom j rows).map (fun e => (e.pos, e.obj))).Nodup := by
  rw [cellsFrom, List.map_flatMap, List.nodup_flatMap]
  constructor
  · intro r _
    have h : ((indexed r.1).map (·.1)).map (fun i => (i, r.2)) =
        (rowEntries indexed r).map (fun e => (e.pos, e.obj)) := by
      rw [rowEntries, List.map_map, List.map_map]; rfl
    rw [← h]
    exact (indexed_pos_nodup r.1).map (fun a b h => (Prod.mk.inj h).1)
  · -- entries of different rows differ in the objective
    have h : (rows.zipIdx j).Pairwise (fun a b => a.2 ≠ b.2) := by
      have := List.nodup_range' (s := j) (n := rows.length)
      rwa [← List.zipIdx_map_snd, List.Nodup, List.pairwise_map] at this
    refine h.imp fun {a b} hab k ha hb => ?_
    obtain ⟨e, he, rfl⟩ := List.mem_map.mp ha
    obtain ⟨e', he', hk⟩ := List.mem_map.mp hb
    obtain ⟨p, -, rfl⟩ := List.mem_map.mp he
    obtain ⟨p', -, rfl⟩ := List.mem_map.mp he'
    exact hab (Prod.mk.inj hk).2.symm

/-- every candidate is a cell of the table carrying its own value; objectives are counted from `j` -/
theorem decoupledCandidates_mem {q j : Nat} {rows : List (List Rat)} {e : Entry}
    (h : e ∈ decoupledCandidates j rows q) :
    j ≤ e.obj ∧ ∃ row, rows[e.obj - j]? = some row ∧ row[e.pos]? = some e.val := by
  rw [decoupledCandidates_eq, List.mem_flatMap] at h
  obtain ⟨⟨row, i⟩, hr, hm⟩ := h
  obtain ⟨p, hp, rfl⟩ := List.mem_map.mp hm
  obtain ⟨hji, hrow⟩ := List.mem_zipIdx_iff_le_and_getElem?_sub.mp hr
  exact ⟨hji, row, hrow, optimizeDiscrete_mem hp⟩

theorem decoupledCandidates_keys_nodup (j : Nat) (rows : List (List Rat)) (q : Nat) :
    ((decoupledCandidates j rows q).map (fun e => (e.pos, e.obj))).Nodup :=
  nodup_of_subperm (subperm_map _ (decoupledCandidates_subperm j rows q))
    (cellsFrom_keys_nodup j rows)

/-! ## the selection stage -/

/-- reading a list at all its positions gives it back -/
theorem filterMap_indexed_getElem? {α : Type} (val : α → Rat) (l : List α) :
    (indexed (l.map val)).filterMap (fun p => l[p.1]?) = l := by
  rw [indexed, List.filterMap_map, List.zipIdx_map, List.filterMap_map,
    List.filterMap_congr (g := fun x => some x.1) fun x hx => List.mem_zipIdx_iff_getElem?.mp hx,
    List.filterMap_eq_map', List.zipIdx_map_fst]

/-- The picks of `optimizeDiscrete` on the values of `cands`, looked up in `cands`, are members of
`cands`, each at most once, and carry the picked values. -/
theorem lookup_picks {α : Type} (val : α → Rat) (cands : List α) (q : Nat) :
    ((optimizeDiscrete (cands.map val) q).filterMap (fun p => cands[p.1]?)).Subperm cands ∧
    ((optimizeDiscrete (cands.map val) q).filterMap (fun p => cands[p.1]?)).map val =
      (optimizeDiscrete (cands.map val) q).map (·.2) := by
  constructor
  · obtain ⟨l, hp, hs⟩ := optimizeDiscrete_subperm (cands.map val) q
    have h := hs.filterMap (fun p => cands[p.1]?)
    rw [filterMap_indexed_getElem?] at h
    exact ⟨_, hp.filterMap _, h⟩
  · rw [List.map_filterMap]
    exact List.filterMap_eq_map_iff_forall_eq_some.mpr fun p hp =>
      (List.getElem?_map ..).symm.trans (optimizeDiscrete_mem hp)

/-! ## `optimizeDecoupled` -/

/-- values of the decoupled batch: the first `q` entries of the descending sort of all cells -/
theorem optimizeDecoupled_values (table : List (List Rat)) (q : Nat) :
    (optimizeDecoupled table q).map (·.val) = (sortDesc table.flatten).take q := by
  rw [optimizeDecoupled, (lookup_picks _ _ q).2, optimizeDiscrete_values, decoupledCandidates_vals,
    take_sortDesc_flatten]

/-- the selected entries are cells of the table, each at most once -/
theorem optimizeDecoupled_subperm (table : List (List Rat)) (q : Nat) :
    (optimizeDecoupled table q).Subperm (cellsFrom 0 table) :=
  (lookup_picks _ _ q).1.trans (decoupledCandidates_subperm 0 table q)

theorem optimizeDecoupled_mem {table : List (List Rat)} {q : Nat} {e : Entry}
    (he : e ∈ optimizeDecoupled table q) : tableAt table e.pos e.obj = some e.val :=
  (mem_cells_iff table e).mp ((optimizeDecoupled_subperm table q).subset he)

theorem optimizeDecoupled_keys_nodup (table : List (List Rat)) (q : Nat) :
    ((optimizeDecoupled table q).map (fun e => (e.pos, e.obj))).Nodup :=
  nodup_of_subperm (subperm_map _ (optimizeDecoupled_subperm table q)) (cellsFrom_keys_nodup 0 table)

theorem optimizeDecoupled_pairwise (table : List (List Rat)) (q : Nat) :
    (optimizeDecoupled table q).Pairwise (fun a b => b.val ≤ a.val) := by
  have hs : ((sortDesc table.flatten).take q).Pairwise (· ≥ ·) :=
    (sortDesc_pairwise _).sublist (List.take_sublist _ _)
  rwa [← optimizeDecoupled_values, List.pairwise_map] at hs

theorem optimizeDecoupled_length (table : List (List Rat)) (q : Nat) :
    (optimizeDecoupled table q).length = min q table.flatten.length := by
  have h := congrArg List.length (optimizeDecoupled_values table q)
  rwa [List.length_map, List.length_take, sortDesc_length] at h

end VOPy.Acq
