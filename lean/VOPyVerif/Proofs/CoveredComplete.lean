import VOPyVerif.Proofs.CoveredGeom
import VOPyVerif.Proofs.LinCertKKT
/-!
# Totality of the ball verdict

`ballVerdict` projects `c₂ − c₁` on the polyhedron `{d | W d ≥ t}` by enumerating active sets
(`LinCert.nearest`), and asks `LinCert.feasibleC` for a Farkas certificate if that finds nothing.
With `Proofs/LinCertKKT.lean` (the enumeration finds the KKT point of every non-empty polyhedron)
and `Proofs/LinCertComplete.lean` (Fourier–Motzkin is complete) the verdict is never
`inconclusive` once the guard (radii `≥ 0`, equal dimensions, cone rows of the right length) holds,
hence it *decides* `Cov (ball …) (ball …)`.
-/
namespace VOPy.Covered
open VOPy.LinCert

theorem coneSys_wf (m : ℕ) (W : Mat) (t : Vec) (hW : ∀ w ∈ W, w.length = m) :
    wf m (coneSys W t) = true := by
  rw [wf_iff]
  intro r hr
  simp only [coneSys] at hr
  obtain ⟨i, hi, rfl⟩ := List.mem_iff_getElem.1 hr
  simp only [List.getElem_zipWith]
  exact hW _ (List.getElem_mem _)

/-- **The ball verdict is total**: radii `≥ 0`, centres of equal dimension `m` and cone rows with
`m` entries ⇒ never `inconclusive`. -/
theorem ballVerdict_total {W : Mat} {c1 c2 t : Vec} {a1 a2 : ℚ} (ha1 : 0 ≤ a1) (ha2 : 0 ≤ a2)
    (hc : c2.length = c1.length) (hW : ∀ w ∈ W, w.length = c1.length) :
    ballVerdict W c1 a1 c2 a2 t ≠ .inconclusive := by
  have hwf := coneSys_wf c1.length W t hW
  unfold ballVerdict
  simp only
  split
  · rename_i hg
    simp only [Bool.or_eq_true, decide_eq_true_eq, bne_iff_ne, ne_eq] at hg
    rcases hg with (h | h) | h
    · exact absurd ha1 (not_le.2 h)
    · exact absurd ha2 (not_le.2 h)
    · exact absurd hc h
  · split
    · split <;> simp
    · rename_i hn
      rcases feasibleC_complete _ _ hwf with h | h
      · exfalso
        obtain ⟨x, lam, hx⟩ := nearest_complete c1.length (coneSys W t) (vsub c2 c1) hwf
          (by simp [hc]) (rat_solution_of_real hwf ((feasibleC_sound _ _).of_yes (Verdict.ofOpt_eq_yes.2 h)))
        rw [hx] at hn; cases hn
      · rw [h]; simp

/-- **The ball verdict decides** `Cov`: `yes ↔ Cov`, `no ↔ ¬Cov`. -/
theorem ballVerdict_iff {W : Mat} {c1 c2 t : Vec} {a1 a2 : ℚ} (ha1 : 0 ≤ a1) (ha2 : 0 ≤ a2)
    (hc : c2.length = c1.length) (hW : ∀ w ∈ W, w.length = c1.length) (ht : W.length = t.length) :
    (ballVerdict W c1 a1 c2 a2 t = .yes ↔ Cov (ball c1 a1) (ball c2 a2) W (zeros c1.length) t) ∧
    (ballVerdict W c1 a1 c2 a2 t = .no ↔ ¬ Cov (ball c1 a1) (ball c2 a2) W (zeros c1.length) t) :=
  (ballVerdict_sound ht).decides (ballVerdict_total ha1 ha2 hc hW)

end VOPy.Covered
