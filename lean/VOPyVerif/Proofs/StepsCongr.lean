import VOPyVerif.Proofs.AccuracySets
import VOPyVerif.Proofs.ConeOrderRat
/-!
# The rounds of `Steps.lean` only consult their oracles on the designs they hold

Congruence lemmas (each phase is a `filter` whose test scans a list, so agreement of the oracles
on the members is all that is used): if two families of oracles agree on the designs `0 … K-1`, the whole trajectories
`(S, P, U)` of `Accuracy.pavebaRun` / `vogpRun` are identical — the statement behind the harness's
`translation_twin_check` (a translated twin run whose geometry oracles are translation invariant must
visit exactly the same sets).  For Auer, whose oracles are computed inside `Steps.lean` from centres
and widths, the invariance under a common translation of the centres is proved outright.
-/
namespace VOPy.Accuracy
open VOPy VOPy.Steps

/-! ### PaVeBa family -/

theorem pavebaToDiscard_congr {dom dom' : Rel} {S U : List Nat}
    (h : ∀ i ∈ S, ∀ j, (j ∈ S ∨ j ∈ U) → dom' i j = dom i j) :
    pavebaToDiscard dom' S U = pavebaToDiscard dom S U :=
  List.filter_congr fun i hi => anyOther_congr fun j hj => h i hi j (mem_union.mp hj)

theorem pavebaNewPareto_congr {cov cov' : Rel} {S U : List Nat}
    (h : ∀ i ∈ S, ∀ j, (j ∈ S ∨ j ∈ U) → cov' i j = cov i j) :
    pavebaNewPareto cov' S U = pavebaNewPareto cov S U :=
  List.filter_congr fun i hi => by rw [anyOther_congr fun j hj => h i hi j (mem_union.mp hj)]

theorem pavebaUseful_congr {cov cov' : Rel} {S P : List Nat}
    (h : ∀ s ∈ S, ∀ p ∈ P, cov' s p = cov s p) : pavebaUseful cov' S P = pavebaUseful cov S P :=
  List.filter_congr fun p hp => any_congr fun s hs => h s hs p hp

/-- **One PaVeBa round consults its oracles only on `S ∪ P ∪ U`.** -/
theorem pavebaRound_congr {dom dom' cov cov' : Rel} {S P U : List Nat}
    (h : ∀ i j, (i ∈ S ∨ i ∈ P ∨ i ∈ U) → (j ∈ S ∨ j ∈ P ∨ j ∈ U) →
      dom' i j = dom i j ∧ cov' i j = cov i j) :
    pavebaRound dom' cov' S P U = pavebaRound dom cov S P U := by
  have hS1 : ∀ y ∈ pavebaDiscard dom S U, y ∈ S := fun _ => removeAll_subset
  have e1 : pavebaDiscard dom' S U = pavebaDiscard dom S U :=
    congrArg (removeAll S) (pavebaToDiscard_congr fun i hi j hj =>
      (h i j (Or.inl hi) (hj.imp_right Or.inr)).1)
  have e2 : pavebaNewPareto cov' (pavebaDiscard dom S U) U = pavebaNewPareto cov (pavebaDiscard dom S U) U :=
    pavebaNewPareto_congr fun i hi j hj =>
      (h i j (Or.inl (hS1 i hi)) (hj.elim (fun hs => Or.inl (hS1 j hs)) fun hu => Or.inr (Or.inr hu))).2
  simp only [pavebaRound, pavebaPareto, e1, e2]
  congr 2
  refine pavebaUseful_congr fun s hs p hp => ?_
  have hpSP := (move_subset (fun _ h' => (mem_pavebaNewPareto.mp h').1) (Or.inr hp)).imp_left (hS1 p)
  exact (h s p (Or.inl (hS1 s (removeAll_subset hs))) (hpSP.imp_right Or.inl)).2

theorem pavebaRun_lt (K : Nat) (isDom isCov : Nat → Rel) : ∀ t x,
    (x ∈ (pavebaRun K isDom isCov t).1 ∨ x ∈ (pavebaRun K isDom isCov t).2.1 ∨
      x ∈ (pavebaRun K isDom isCov t).2.2) → x < K := by
  intro t
  induction t with
  | zero => exact fun x hx => hx.elim List.mem_range.mp fun h => h.elim nofun nofun
  | succ t ih =>
    exact fun x hx => ih x ((pavebaRound_subset (isDom t) (isCov t) _ _ _ hx).imp_right Or.inl)

/-- **Twin runs of the PaVeBa family.**  If two families of oracles agree on the designs `< K` in every
round `< T`, the trajectories `(S, P, U)` coincide up to round `T`. -/
theorem pavebaRun_congr (K : Nat) (isDom isDom' isCov isCov' : Nat → Rel) (T : Nat)
    (h : ∀ r, r < T → ∀ i, i < K → ∀ j, j < K →
      isDom' r i j = isDom r i j ∧ isCov' r i j = isCov r i j) :
    ∀ t, t ≤ T → pavebaRun K isDom' isCov' t = pavebaRun K isDom isCov t := by
  intro t
  induction t with
  | zero => intro _; rfl
  | succ t ih =>
    intro ht
    have e := ih (Nat.le_of_succ_le ht)
    simp only [pavebaRun, e]
    apply pavebaRound_congr
    intro i j hi hj
    exact h t (Nat.lt_of_succ_le ht) i (pavebaRun_lt K isDom isCov t i hi) j
      (pavebaRun_lt K isDom isCov t j hj)

/-! ### VOGP / ε-PAL -/

theorem pessimisticSet_congr {pd pd' : Rel} {S P : List Nat}
    (h : ∀ i j, (i ∈ S ∨ i ∈ P) → (j ∈ S ∨ j ∈ P) → pd' j i = pd j i) :
    pessimisticSet pd' S P = pessimisticSet pd S P :=
  List.filter_congr fun i hi => by
    rw [anyOther_congr fun j hj => h i j (mem_union.mp hi) (mem_union.mp hj)]

/-- **One VOGP / ε-PAL round consults its three oracles only on `S ∪ P`.** -/
theorem vogpRound_congr {dom dom' cov cov' pd pd' : Rel} {S P : List Nat}
    (h : ∀ i j, (i ∈ S ∨ i ∈ P) → (j ∈ S ∨ j ∈ P) →
      dom' i j = dom i j ∧ cov' i j = cov i j ∧ pd' i j = pd i j) :
    vogpRound dom' cov' pd' S P = vogpRound dom cov pd S P := by
  have ep : pessimisticSet pd' S P = pessimisticSet pd S P :=
    pessimisticSet_congr fun i j hi hj => (h j i hj hi).2.2
  have e1 : vogpDiscard dom' pd' S P = vogpDiscard dom pd S P := by
    unfold vogpDiscard vogpToDiscard
    rw [ep]
    exact congrArg (removeAll S) (List.filter_congr fun i hi => any_congr fun j hj =>
      (h i j (Or.inl (List.mem_filter.mp hi).1) (mem_pessimisticSet.mp hj).1).1)
  have hS1 : ∀ y ∈ vogpDiscard dom pd S P, y ∈ S := fun _ => removeAll_subset
  have e2 : coverNew cov' (vogpDiscard dom pd S P) P = coverNew cov (vogpDiscard dom pd S P) P :=
    pavebaNewPareto_congr fun i hi j hj => (h i j (Or.inl (hS1 i hi)) (hj.imp_left (hS1 j))).2.1
  simp only [vogpRound, epsilonCovering, e1, e2]

theorem vogpRun_lt (K : Nat) (isDom isCov pd : Nat → Rel) : ∀ t x,
    (x ∈ (vogpRun K isDom isCov pd t).1 ∨ x ∈ (vogpRun K isDom isCov pd t).2) → x < K := by
  intro t
  induction t with
  | zero => exact fun x hx => hx.elim List.mem_range.mp nofun
  | succ t ih => exact fun x hx => ih x (vogpRound_subset (isDom t) (isCov t) (pd t) _ _ hx)

/-- **Twin runs of VOGP / ε-PAL.** -/
theorem vogpRun_congr (K : Nat) (isDom isDom' isCov isCov' pd pd' : Nat → Rel) (T : Nat)
    (h : ∀ r, r < T → ∀ i, i < K → ∀ j, j < K →
      isDom' r i j = isDom r i j ∧ isCov' r i j = isCov r i j ∧ pd' r i j = pd r i j) :
    ∀ t, t ≤ T → vogpRun K isDom' isCov' pd' t = vogpRun K isDom isCov pd t := by
  intro t
  induction t with
  | zero => intro _; rfl
  | succ t ih =>
    intro ht
    have e := ih (Nat.le_of_succ_le ht)
    simp only [vogpRun, e]
    apply vogpRound_congr
    intro i j hi hj
    exact h t (Nat.lt_of_succ_le ht) i (vogpRun_lt K isDom isCov pd t i hi) j
      (vogpRun_lt K isDom isCov pd t j hj)

/-! ### Auer: the rules see the centres through `m(·,·)` and `M(·,·)` only -/

theorem auerRound_congr (eps : Rat) (c c' : Nat → Vec) (width : Nat → Vec) (S P : List Nat)
    (h : ∀ i ∈ S, ∀ j ∈ S, smallM (c' i) (c' j) = smallM (c i) (c j) ∧
      bigM eps (c' i) (c' j) = bigM eps (c i) (c j)) :
    auerRound eps c' width S P = auerRound eps c width S P := by
  have e1 : auerDiscard c' width S = auerDiscard c width S := by
    unfold auerDiscard
    rw [auerToDiscardCore_byDesign, auerToDiscardCore_byDesign]
    exact congrArg (removeAll S) (List.filter_congr fun i hi => anyOther_congr fun j hj => by
      rw [auerDomCert, auerDomCert, (h i hi j hj).1])
  have e2 : ∀ S₁ : List Nat, (∀ y ∈ S₁, y ∈ S) →
      auerNewParetoCore eps c' (byDesign width S₁) = auerNewParetoCore eps c (byDesign width S₁) := by
    intro S₁ hS1
    have eP1 : auerP1 eps c' width S₁ = auerP1 eps c width S₁ :=
      List.filter_congr fun i hi => by
        rw [anyOther_congr fun j hj => by rw [(h i (hS1 i hi) j (hS1 j hj)).2]]
    rw [auerNewParetoCore_byDesign, auerNewParetoCore_byDesign, eP1]
    exact List.filter_congr fun i hi => by
      rw [any_congr fun j hj => by
        rw [(h j (hS1 j hj) i (hS1 i (List.mem_filter.mp hi).1)).2]]
  simp only [auerRound, auerPareto, e1]
  rw [e2 (auerDiscard c width S) fun _ => removeAll_subset]

theorem auerRun_lt (K : Nat) (eps : Rat) (centre width : Nat → Nat → Vec) : ∀ t x,
    x ∈ (auerRun K eps centre width t).1 → x < K := by
  intro t
  induction t with
  | zero => exact fun x hx => List.mem_range.mp hx
  | succ t ih => exact fun x hx => ih x (auerRound_subset _ _ _ _ _ hx)

theorem vsub_shift_translate (eps : Rat) (a b t : Vec) (ha : a.length = t.length)
    (hb : b.length = t.length) :
    vsub ((vadd a t).map (· + eps)) (vadd b t) = vsub (a.map (· + eps)) b := by
  have hshift : (vadd a t).map (· + eps) = vadd (a.map (· + eps)) t := by
    simp only [vadd, List.map_zipWith, List.zipWith_map_left]
    exact congrArg (fun f => List.zipWith f a t) (funext fun x => funext fun z => add_right_comm x z eps)
  rw [hshift, vsub_vadd_vadd _ b t (by rw [List.length_map, ha]) hb]

/-- **Auer's whole trajectory is invariant under a common translation of all displayed centres**
(centres of the designs `< K` of the length of `t`; widths untouched). -/
theorem auerRun_translate (K : Nat) (eps : Rat) (centre width : Nat → Nat → Vec) (t : Vec) (T : Nat)
    (h : ∀ r, r < T → ∀ i, i < K → (centre r i).length = t.length) :
    ∀ k, k ≤ T → auerRun K eps (fun r i => vadd (centre r i) t) width k = auerRun K eps centre width k := by
  intro k
  induction k with
  | zero => intro _; rfl
  | succ k ih =>
    intro hk
    have e := ih (Nat.le_of_succ_le hk)
    simp only [auerRun, e]
    apply auerRound_congr
    intro i hi j hj
    have hi' := h k (Nat.lt_of_succ_le hk) i (auerRun_lt K eps centre width k i hi)
    have hj' := h k (Nat.lt_of_succ_le hk) j (auerRun_lt K eps centre width k j hj)
    constructor
    · simp only [smallM, vsub_vadd_vadd _ _ t hj' hi']
    · simp only [bigM, vsub_shift_translate eps _ _ t hi' hj']

end VOPy.Accuracy
