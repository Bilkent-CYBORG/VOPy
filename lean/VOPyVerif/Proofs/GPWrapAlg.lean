import Mathlib.LinearAlgebra.Matrix.NonsingularInverse
import Mathlib.LinearAlgebra.Matrix.SchurComplement
import Mathlib.LinearAlgebra.Matrix.PosDef
import Mathlib.Data.Matrix.Block
/-!
GP-posterior algebra over Mathlib's `Matrix`.

`quad A k r = k ⬝ᵥ A⁻¹ *ᵥ r` is the only non-trivial ingredient of the posterior:
`mean = mean₀* + quad (K+N) k* (y − mean₀)`, `cov i j = k**ᵢⱼ − quad (K+N) k*ᵢ k*ⱼ`.
-/
namespace VOPy.GPWrap.Alg
open Matrix

variable {𝕜 : Type*} [Field 𝕜]
variable {n n' p : Type*} [Fintype n] [DecidableEq n] [Fintype n'] [DecidableEq n']
  [Fintype p] [DecidableEq p]

/-- `kᵀ A⁻¹ r` -/
noncomputable def quad (A : Matrix n n 𝕜) (k r : n → 𝕜) : 𝕜 := k ⬝ᵥ (A⁻¹ *ᵥ r)

theorem quad_reindex (e : n' ≃ n) (A : Matrix n n 𝕜) (k r : n → 𝕜) :
    quad (A.submatrix e e) (k ∘ e) (r ∘ e) = quad A k r := by
  unfold quad
  rw [Matrix.inv_submatrix_equiv, Matrix.submatrix_mulVec_equiv]
  have : (r ∘ e) ∘ e.symm = r := by
    funext i; simp
  rw [this, comp_equiv_dotProduct_comp_equiv]

/-- no training data: `kᵀ A⁻¹ r = 0`, i.e. the posterior is the prior -/
theorem quad_of_isEmpty [IsEmpty n] (A : Matrix n n 𝕜) (k r : n → 𝕜) : quad A k r = 0 :=
  dotProduct_of_isEmpty ..

/-- uniqueness: any solution of `A x = r` computes `kᵀ A⁻¹ r` when `A` is non-singular -/
theorem quad_eq_of_mulVec_eq (A : Matrix n n 𝕜) (hA : IsUnit A.det) (k r x : n → 𝕜)
    (hx : A *ᵥ x = r) : k ⬝ᵥ x = quad A k r := by
  unfold quad
  rw [← hx, Matrix.mulVec_mulVec, Matrix.nonsing_inv_mul A hA, Matrix.one_mulVec]

/-! ### block-diagonal structure (model list; independent model with diagonal noise) -/

section Block
variable {o : Type*} [Fintype o] [DecidableEq o] {m' : o → Type*} [∀ j, Fintype (m' j)]
  [∀ j, DecidableEq (m' j)]

theorem blockDiagonal'_inv (A : ∀ j, Matrix (m' j) (m' j) 𝕜) (hA : ∀ j, IsUnit (A j).det) :
    (blockDiagonal' A)⁻¹ = blockDiagonal' (fun j => (A j)⁻¹) := by
  apply Matrix.inv_eq_right_inv
  rw [← blockDiagonal'_mul]
  have : (fun j => A j * (A j)⁻¹) = fun _ => 1 := by
    funext j; exact Matrix.mul_nonsing_inv _ (hA j)
  rw [this]
  exact blockDiagonal'_one

omit [∀ j, DecidableEq (m' j)] in
theorem blockDiagonal'_mulVec (M : ∀ j, Matrix (m' j) (m' j) 𝕜) (v : (Σ j, m' j) → 𝕜)
    (j : o) (a : m' j) :
    (blockDiagonal' M *ᵥ v) ⟨j, a⟩ = (M j *ᵥ fun b => v ⟨j, b⟩) a := by
  simp only [mulVec, dotProduct]
  rw [Fintype.sum_sigma, Finset.sum_eq_single j]
  · simp only [blockDiagonal'_apply_eq]
  · intro j' _ hne
    simp only [blockDiagonal'_apply_ne M _ _ hne.symm, zero_mul, Finset.sum_const_zero]
  · intro h
    exact absurd (Finset.mem_univ j) h

end Block

/-! ### enlarged systems: Schur complement -/

omit [DecidableEq n] [DecidableEq p] in
/-- a solution of the block system `[[A, b], [c, C]] x = (k, κ)` from `A u = k`, `A Y = b` and a
solution `v` of the Schur-complement system -/
theorem fromBlocks_mulVec_schur (A : Matrix n n 𝕜) (b : Matrix n p 𝕜) (c : Matrix p n 𝕜)
    (C : Matrix p p 𝕜) (Y : Matrix n p 𝕜) (k u : n → 𝕜) (κ v : p → 𝕜) (hY : A * Y = b)
    (hu : A *ᵥ u = k) (hv : (C - c * Y) *ᵥ v = κ - c *ᵥ u) :
    fromBlocks A b c C *ᵥ Sum.elim (u - Y *ᵥ v) v = Sum.elim k κ := by
  rw [fromBlocks_mulVec, Sum.elim_comp_inl, Sum.elim_comp_inr]
  congr 1
  · rw [mulVec_sub, hu, mulVec_mulVec, hY, sub_add_cancel]
  · rw [sub_mulVec, ← mulVec_mulVec] at hv
    rw [mulVec_sub, sub_add_eq_add_sub, add_sub_assoc, hv, add_sub_cancel]

/-- **Adding training points.**  For the enlarged system `A' = [[A, b], [c, C]]`:
`(k, κ)ᵀ A'⁻¹ (r, ρ) = kᵀ A⁻¹ r + (κ − bᵀ A⁻ᵀ k)ᵀ S⁻¹ (ρ − c A⁻¹ r)` with the Schur complement
`S = C − c A⁻¹ b`. -/
theorem quad_fromBlocks (A : Matrix n n 𝕜) (b : Matrix n p 𝕜) (c : Matrix p n 𝕜)
    (C : Matrix p p 𝕜) (hA : IsUnit A.det) (hA' : IsUnit (fromBlocks A b c C).det)
    (k r : n → 𝕜) (κ ρ : p → 𝕜) :
    quad (fromBlocks A b c C) (Sum.elim k κ) (Sum.elim r ρ) =
      quad A k r + quad (C - c * A⁻¹ * b) (κ - bᵀ *ᵥ (A⁻¹ᵀ *ᵥ k)) (ρ - c *ᵥ (A⁻¹ *ᵥ r)) := by
  have iA : Invertible A := (A.isUnit_iff_isUnit_det.mpr hA).invertible
  have hS := hA'
  rw [det_fromBlocks₁₁, invOf_eq_nonsing_inv, IsUnit.mul_iff] at hS
  have hsol := fromBlocks_mulVec_schur A b c C (A⁻¹ * b) r (A⁻¹ *ᵥ r) ρ
    ((C - c * A⁻¹ * b)⁻¹ *ᵥ (ρ - c *ᵥ (A⁻¹ *ᵥ r))) (mul_nonsing_inv_cancel_left _ _ hA)
    (by rw [mulVec_mulVec, mul_nonsing_inv _ hA, one_mulVec])
    (by rw [← Matrix.mul_assoc, mulVec_mulVec, mul_nonsing_inv _ hS.2, one_mulVec])
  rw [← quad_eq_of_mulVec_eq _ hA' _ _ _ hsol, sumElim_dotProduct_sumElim, dotProduct_sub,
    dotProduct_mulVec k (A⁻¹ * b), ← vecMul_vecMul, ← mulVec_transpose, ← mulVec_transpose,
    sub_add_eq_add_sub, add_sub_assoc, ← sub_dotProduct]
  rfl

section Order
variable {R : Type*} [Field R] [PartialOrder R] [StarRing R]

/-- `quad_fromBlocks` for a symmetric enlarged system `[[A, b], [bᵀ, C]]`, `(k, κ)` on both sides:
`k'ᵀ A'⁻¹ k' = kᵀ A⁻¹ k + wᵀ S⁻¹ w` with `S = C − bᵀ A⁻¹ b`, `w = κ − bᵀ A⁻¹ k`. -/
theorem quad_add_points [TrivialStar R] (A : Matrix n n R) (b : Matrix n p R) (C : Matrix p p R)
    (hA : A.PosDef) (hA' : (fromBlocks A b bᵀ C).PosDef) (k : n → R) (κ : p → R) :
    quad (fromBlocks A b bᵀ C) (Sum.elim k κ) (Sum.elim k κ) =
      quad A k k + quad (C - bᵀ * A⁻¹ * b) (κ - bᵀ *ᵥ (A⁻¹ *ᵥ k)) (κ - bᵀ *ᵥ (A⁻¹ *ᵥ k)) := by
  have hT : Aᵀ = A := by
    rw [← conjTranspose_eq_transpose_of_trivial]; exact hA.1
  rw [quad_fromBlocks A b bᵀ C ((isUnit_iff_isUnit_det A).mp hA.isUnit)
    ((isUnit_iff_isUnit_det _).mp hA'.isUnit), transpose_nonsing_inv, hT]

/-! ### positivity -/

variable [StarOrderedRing R] [AddLeftMono R] {t : Type*} [Fintype t]

theorem posterior_cov_posSemidef (Kt : Matrix n n R) (B : Matrix n t R)
    (D : Matrix t t R) (N : Matrix n n R)
    (hG : (fromBlocks Kt B Bᴴ D).PosSemidef) (hN : N.PosDef) :
    (D - Bᴴ * (Kt + N)⁻¹ * B).PosSemidef := by
  have hK : (fromBlocks Kt B Bᴴ D).toBlocks₁₁.PosSemidef := hG.submatrix Sum.inl
  rw [toBlocks_fromBlocks₁₁] at hK
  have hA : (Kt + N).PosDef := hN.posSemidef_add hK
  have : Invertible (Kt + N) := hA.isUnit.invertible
  have : Invertible N := hN.isUnit.invertible
  -- `[[K+N, B], [Bᴴ, D]] = [[K, B], [Bᴴ, D]] + [[N, 0], [0, 0]]`, both positive semidefinite
  have hN0 :
      (fromBlocks N (0 : Matrix n t R) (0 : Matrix n t R)ᴴ (0 : Matrix t t R)).PosSemidef := by
    rw [Matrix.PosDef.fromBlocks₁₁ _ _ hN, Matrix.mul_zero, sub_zero]
    exact PosSemidef.zero
  have h := hG.add hN0
  rwa [fromBlocks_add, conjTranspose_zero, add_zero, add_zero, add_zero,
    Matrix.PosDef.fromBlocks₁₁ B D hA] at h

variable [TrivialStar R]

/-- diagonal entry `i` of `posterior_cov_posSemidef`, for one Gram matrix `G` over training ⊕ test
outputs: the explained variance at a test output never exceeds its prior variance -/
theorem quad_le_diag (G : Matrix (n ⊕ t) (n ⊕ t) R) (N : Matrix n n R) (hG : G.PosSemidef)
    (hN : N.PosDef) (i : t) :
    quad (G.toBlocks₁₁ + N) (fun a => G (.inr i) (.inl a)) (fun a => G (.inr i) (.inl a)) ≤
      G (.inr i) (.inr i) := by
  have hsym (a : n ⊕ t) (b : n ⊕ t) : G a b = G b a := by
    rw [← hG.1.apply a b, star_trivial]
  have h21 : G.toBlocks₁₂ᴴ = G.toBlocks₂₁ := by
    ext a b; exact hG.1.apply (.inr a) (.inl b)
  have hG' : (fromBlocks G.toBlocks₁₁ G.toBlocks₁₂ G.toBlocks₁₂ᴴ G.toBlocks₂₂).PosSemidef := by
    rw [h21, fromBlocks_toBlocks]; exact hG
  have h := (posterior_cov_posSemidef _ _ _ N hG' hN).diag_nonneg (i := i)
  rw [h21, Matrix.sub_apply, Matrix.mul_assoc, sub_nonneg] at h
  have hk : (fun a => G (.inr i) (.inl a)) = fun a => G (.inl a) (.inr i) :=
    funext fun a => hsym ..
  conv_lhs => arg 3; rw [hk]
  exact h

/-- **More data never increases the variance**: the explained variance `k'ᵀ A'⁻¹ k'` never
decreases when training points are added. -/
theorem quad_le_quad_add_points (A : Matrix n n R) (b : Matrix n p R) (C : Matrix p p R)
    (hA : A.PosDef) (hA' : (fromBlocks A b bᵀ C).PosDef) (k : n → R) (κ : p → R) :
    quad A k k ≤ quad (fromBlocks A b bᵀ C) (Sum.elim k κ) (Sum.elim k κ) := by
  have iA : Invertible A := hA.isUnit.invertible
  have hS : (C - bᵀ * A⁻¹ * b).PosSemidef := by
    rw [← conjTranspose_eq_transpose_of_trivial, ← Matrix.PosDef.fromBlocks₁₁ b C hA,
      conjTranspose_eq_transpose_of_trivial]
    exact hA'.posSemidef
  have h := (posSemidef_iff_dotProduct_mulVec.mp hS.inv).2 (κ - bᵀ *ᵥ (A⁻¹ *ᵥ k))
  rw [star_trivial] at h
  rw [quad_add_points A b C hA hA' k κ]
  exact le_add_of_nonneg_right h

/-- the same for any sub-family `f` of the training points of a positive-definite system -/
theorem quad_submatrix_le (A : Matrix n' n' R) (hA : A.PosDef) (f : n → n')
    (hf : Function.Injective f) (k : n' → R) :
    quad (A.submatrix f f) (k ∘ f) (k ∘ f) ≤ quad A k k := by
  classical
  -- split the index set into the range of `f` and the rest
  let e : n ⊕ ↥(Set.range f)ᶜ ≃ n' :=
    (Equiv.sumCongr (Equiv.ofInjective f hf) (Equiv.refl _)).trans (Equiv.Set.sumCompl _)
  have hB : (A.submatrix e e).PosDef := hA.submatrix e.injective
  have h21 : (A.submatrix e e).toBlocks₁₂ᵀ = (A.submatrix e e).toBlocks₂₁ := by
    ext a b
    have := hA.1.apply (e (.inr a)) (e (.inl b))
    rwa [star_trivial] at this
  have h := quad_le_quad_add_points (A.submatrix e e).toBlocks₁₁ (A.submatrix e e).toBlocks₁₂
    (A.submatrix e e).toBlocks₂₂ (hB.submatrix Sum.inl_injective)
    (by rw [h21, fromBlocks_toBlocks]; exact hB) (k ∘ e ∘ Sum.inl) (k ∘ e ∘ Sum.inr)
  rw [h21, fromBlocks_toBlocks, ← Function.comp_assoc, ← Function.comp_assoc,
    Sum.elim_comp_inl_inr, quad_reindex] at h
  exact h

end Order

end VOPy.GPWrap.Alg
