import VOPyVerif.Proofs.GPWrapPerm
import Mathlib.Logic.Equiv.Fin.Basic
/-!
The joint (multitask) executable posterior `GPWrap.jointPost`
(correlated model; independent model with a noise matrix): closed form over the index type
`Fin N × Fin m` (sample position × task) and invariance under permutations of the samples.
-/
namespace VOPy.GPWrap
open Matrix VOPy.GPWrap.Alg

/-- entries of a `flatMap` whose blocks all have length `m` -/
theorem getElem?_flatMap_const {α β : Type} (f : α → List β) (m : Nat) (l : List α)
    (hf : ∀ x ∈ l, (f x).length = m) (a i : Nat) (hi : i < m) :
    (l.flatMap f)[a * m + i]? = l[a]?.bind (fun x => (f x)[i]?) := by
  induction l generalizing a with
  | nil => rfl
  | cons x l ih =>
    obtain ⟨hx, hl⟩ := List.forall_mem_cons.mp hf
    rw [List.flatMap_cons]
    cases a with
    | zero =>
      rw [Nat.zero_mul, Nat.zero_add, List.getElem?_append_left (hx.symm ▸ hi)]
      rfl
    | succ a =>
      rw [Nat.succ_mul, Nat.add_assoc, Nat.add_left_comm, ← hx,
        List.getElem?_append_right (Nat.le_add_right ..), Nat.add_sub_cancel_left, hx]
      exact ih hl a

theorem length_flatMap_const {α β : Type} (f : α → List β) (m : Nat) (l : List α)
    (hf : ∀ x ∈ l, (f x).length = m) : (l.flatMap f).length = l.length * m := by
  induction l with
  | nil => exact (Nat.zero_mul m).symm
  | cons x l ih =>
    obtain ⟨hx, hl⟩ := List.forall_mem_cons.mp hf
    rw [List.flatMap_cons, List.length_append, ih hl, hx, List.length_cons, Nat.succ_mul,
      Nat.add_comm]

theorem getElem?_jointIdx (m : Nat) (pids : List Nat) (a i : Nat) (hi : i < m) :
    (jointIdx m pids)[a * m + i]? = pids[a]?.map (fun pid => (a, pid, i)) := by
  unfold jointIdx
  rw [getElem?_flatMap_const _ m _ (by intro x _; simp) a i hi, List.getElem?_zipIdx]
  cases pids[a]? with
  | none => rfl
  | some pid => simp [List.getElem?_range hi]

theorem length_jointIdx (m : Nat) (pids : List Nat) : (jointIdx m pids).length = pids.length * m := by
  unfold jointIdx
  rw [length_flatMap_const _ m _ (by intro x _; simp)]
  simp

theorem vsub_zeros (y : Vec) : vsub y (y.map fun _ => 0) = y := by
  rw [vsub, List.zipWith_map_right, List.zipWith_self]
  simp

/-- an answer of `jointPost` unpacked -/
theorem jointPost_eq_some (m : Nat) (kfun : Nat → Nat → Nat → Nat → Option ℚ) (Sg : Mat)
    (data : List (Nat × Vec)) (p : Nat) (q : Post) (h : jointPost m kfun Sg data p = some q) :
    (∀ d ∈ data, d.2.length = m) ∧ ∃ K N kT kss,
      (jointIdx m (data.map (·.1))).mapM (fun u => (jointIdx m (data.map (·.1))).mapM
        (fun v => kfun u.2.1 u.2.2 v.2.1 v.2.2)) = some K ∧
      (jointIdx m (data.map (·.1))).mapM (fun u => (jointIdx m (data.map (·.1))).mapM
        (fun v => if u.1 = v.1 then lookup Sg u.2.2 v.2.2 else some 0)) = some N ∧
      (List.range m).mapM (fun j => (jointIdx m (data.map (·.1))).mapM
        (fun u => kfun p j u.2.1 u.2.2)) = some kT ∧
      (List.range m).mapM (fun i => (List.range m).mapM (fun j => kfun p i p j)) = some kss ∧
      posterior K N kT kss (data.flatMap (·.2)) ((data.flatMap (·.2)).map fun _ => 0)
        ((List.range m).map fun _ => 0) = some q := by
  unfold jointPost at h
  simp only at h
  split at h
  · rename_i K N kT kss hK hN hkT hkss
    split at h
    · rename_i hall
      simp only [List.all_eq_true, beq_iff_eq] at hall
      exact ⟨hall, K, N, kT, kss, hK, hN, hkT, hkss, h⟩
    · exact absurd h (by simp)
  · exact absurd h (by simp)

theorem jointPost_shapes (m : Nat) (kfun : Nat → Nat → Nat → Nat → Option ℚ) (Sg : Mat)
    (data : List (Nat × Vec)) (p : Nat) (q : Post) (h : jointPost m kfun Sg data p = some q) :
    q.mean.length = m ∧ q.cov.length = m ∧ ∀ row ∈ q.cov, row.length = m := by
  obtain ⟨-, K, N, kT, kss, -, -, -, -, h⟩ := jointPost_eq_some m kfun Sg data p q h
  have := posterior_shapes _ _ _ _ _ _ _ q h
  rwa [List.length_map, List.length_range] at this

section Joint
variable (m : Nat) (kfun : Nat → Nat → Nat → Nat → Option ℚ) (Sg : Mat)

/-- joint system matrix over (sample position, task): prior covariance + `I ⊗ Σ` -/
def AJ (data : List (Nat × Vec)) :
    Matrix (Fin data.length × Fin m) (Fin data.length × Fin m) ℚ :=
  fun u v => (kfun (data.get u.1).1 u.2 (data.get v.1).1 v.2).getD 0 +
    if u.1 = v.1 then (lookup Sg u.2 v.2).getD 0 else 0

/-- cross-covariances of task `j` at the test point `p` with all training outputs -/
def kJ (data : List (Nat × Vec)) (p j : Nat) : Fin data.length × Fin m → ℚ :=
  fun u => (kfun p j (data.get u.1).1 u.2).getD 0

/-- training outputs (zero prior mean) -/
def yJ (data : List (Nat × Vec)) : Fin data.length × Fin m → ℚ :=
  fun u => ((data.get u.1).2).getD u.2 0

theorem finProd_val (N : Nat) (x : Fin N × Fin m) :
    (finProdFinEquiv x).1 = x.1.1 * m + x.2.1 := by
  simp [finProdFinEquiv, Nat.mul_comm, Nat.add_comm]

/-- the entry of the interleaved index at the flattened position of (sample position, task) -/
theorem getElem?_jointIdx_fin (data : List (Nat × Vec)) (x : Fin data.length × Fin m) :
    (jointIdx m (data.map (·.1)))[(finProdFinEquiv x).1]? =
      some (x.1.1, (data.get x.1).1, x.2.1) := by
  rw [finProd_val, getElem?_jointIdx m _ _ _ x.2.2, getElem?_map_fin]
  rfl

/-- closed form of the joint executable posterior -/
theorem jointPost_spec (data : List (Nat × Vec)) (p : Nat) (q : Post)
    (h : jointPost m kfun Sg data p = some q) (hdet : IsUnit (AJ m kfun Sg data).det) :
    q.mean = List.ofFn (fun j : Fin m =>
      quad (AJ m kfun Sg data) (kJ m kfun data p j) (yJ m data)) ∧
    q.cov = List.ofFn (fun i : Fin m => List.ofFn fun j : Fin m => (kfun p i p j).getD 0 -
      quad (AJ m kfun Sg data) (kJ m kfun data p i) (kJ m kfun data p j)) := by
  obtain ⟨hall, K, N, kT, kss, hK, hN, hkT, hkss, h⟩ := jointPost_eq_some m kfun Sg data p q h
  have hil : (jointIdx m (data.map (·.1))).length = data.length * m := by
    rw [length_jointIdx, List.length_map]
  have hyl : (data.flatMap (·.2)).length = data.length * m := length_flatMap_const _ m data hall
  obtain ⟨hK1, hK2, hK3⟩ := mapM2_spec _ _ _ K hK
  obtain ⟨hN1, hN2, hN3⟩ := mapM2_spec _ _ _ N hN
  obtain ⟨-, -, hk3⟩ := mapM2_spec _ _ _ kT hkT
  obtain ⟨-, -, hs3⟩ := mapM2_spec _ _ _ kss hkss
  rw [hil] at hK1 hK2 hN1 hN2
  have hrange (j : Fin m) : (List.range m)[j.1]? = some j.1 := List.getElem?_range j.2
  have hA : (toMatN (data.length * m) (data.length * m) (madd K N)).submatrix
      finProdFinEquiv finProdFinEquiv = AJ m kfun Sg data := by
    rw [toMatN_madd _ _ K N hK1 hN1 hK2 hN2]
    funext x x'
    have hk := hK3 _ _ _ _ (getElem?_jointIdx_fin m data x) (getElem?_jointIdx_fin m data x')
    have hn := hN3 _ _ _ _ (getElem?_jointIdx_fin m data x) (getElem?_jointIdx_fin m data x')
    rw [Matrix.submatrix_apply, Matrix.add_apply]
    refine (congrArg₂ (· + ·) hk hn).trans ?_
    simp only [AJ, Fin.ext_iff]
    by_cases hxx : x.1.1 = x'.1.1 <;> simp [hxx]
  have hkv (j : Fin m) : toVecN (data.length * m) (kT.getD j []) ∘ finProdFinEquiv =
      kJ m kfun data p j :=
    funext fun x => hk3 _ _ _ _ (hrange j) (getElem?_jointIdx_fin m data x)
  have hyv : toVecN (data.length * m) (vsub (data.flatMap (·.2))
      ((data.flatMap (·.2)).map fun _ => 0)) ∘ finProdFinEquiv = yJ m data := by
    funext x
    rw [vsub_zeros, Function.comp_apply, toVecN, finProd_val, List.getD_eq_getElem?_getD,
      getElem?_flatMap_const (fun d : Nat × Vec => d.2) m data hall _ _ x.2.2,
      List.getElem?_eq_getElem x.1.2, Option.bind_some, ← List.getD_eq_getElem?_getD]
    rfl
  have hdet' : IsUnit (toMatN (data.length * m) (data.length * m) (madd K N)).det := by
    rw [← Matrix.det_submatrix_equiv_self finProdFinEquiv, hA]; exact hdet
  obtain ⟨hmean, hcov⟩ := posterior_spec (data.length * m) m _ _ _ _ _ _ _ q h hyl
    (by rw [List.length_map, List.length_range]) hdet'
  rw [hmean, hcov]
  constructor
  · refine congrArg List.ofFn (funext fun j => ?_)
    rw [← hA, ← hkv j, ← hyv, quad_reindex, List.getD_eq_getElem?_getD, List.getElem?_map,
      hrange j]
    exact zero_add _
  · refine congrArg List.ofFn (funext fun i => congrArg List.ofFn (funext fun j => ?_))
    rw [← hA, ← hkv i, ← hkv j, quad_reindex, hs3 _ _ _ _ (hrange i) (hrange j)]

/-- **The joint executable posterior is a function of the multiset of samples.** -/
theorem jointPost_perm (data data' : List (Nat × Vec)) (p : Nat) (q q' : Post)
    (hperm : data.Perm data') (h : jointPost m kfun Sg data p = some q)
    (h' : jointPost m kfun Sg data' p = some q') (hdet : IsUnit (AJ m kfun Sg data').det) :
    q.mean = q'.mean ∧ q.cov = q'.cov := by
  obtain ⟨e, he⟩ := perm_exists_equiv hperm
  obtain ⟨e', he'⟩ : ∃ e' : Fin data.length × Fin m ≃ Fin data'.length × Fin m,
      ∀ u, e' u = (e u.1, u.2) := ⟨Equiv.prodCongr e (Equiv.refl _), fun _ => rfl⟩
  have hA : AJ m kfun Sg data = (AJ m kfun Sg data').submatrix e' e' := by
    funext u v
    simp only [AJ, Matrix.submatrix_apply, he', he, e.injective.eq_iff]
  have hk (j : Nat) : kJ m kfun data p j = kJ m kfun data' p j ∘ e' := by
    funext u
    simp only [kJ, Function.comp_apply, he', he]
  have hy : yJ m data = yJ m data' ∘ e' := by
    funext u
    simp only [yJ, Function.comp_apply, he', he]
  have hdet0 : IsUnit (AJ m kfun Sg data).det := by
    rw [hA, Matrix.det_submatrix_equiv_self]; exact hdet
  obtain ⟨m1, c1⟩ := jointPost_spec m kfun Sg data p q h hdet0
  obtain ⟨m2, c2⟩ := jointPost_spec m kfun Sg data' p q' h' hdet
  rw [m1, m2, c1, c2, hA]
  simp only [hk, hy, quad_reindex, and_self]

/-- a training output `(sample position, task)` or a test output `task at p`, as (point, task) -/
def ptJ (data : List (Nat × Vec)) (p : Nat) : (Fin data.length × Fin m) ⊕ Fin m → Nat × Nat :=
  Sum.elim (fun u => ((data.get u.1).1, u.2.1)) (fun j => (p, j.1))

/-- prior Gram of all training outputs and the `m` test outputs -/
def jointGramJ (data : List (Nat × Vec)) (p : Nat) :
    Matrix ((Fin data.length × Fin m) ⊕ Fin m) ((Fin data.length × Fin m) ⊕ Fin m) ℚ :=
  fun a b => (kfun (ptJ m data p a).1 (ptJ m data p a).2 (ptJ m data p b).1 (ptJ m data p b).2).getD 0

/-- the noise part `I_N ⊗ Σ` of the joint system -/
def NJ (data : List (Nat × Vec)) :
    Matrix (Fin data.length × Fin m) (Fin data.length × Fin m) ℚ :=
  fun u v => if u.1 = v.1 then (lookup Sg u.2 v.2).getD 0 else 0

end Joint

/-- an answer of the correlated model is an answer of `jointPost` -/
theorem corrPost_eq_some (cfg : Cfg) (data : List (Nat × Vec)) (p : Nat) (q : Post)
    (h : corrPost cfg data p = some q) :
    ∃ Sg, cfg.taskNoise = some Sg ∧ jointPost cfg.m (corrK cfg) Sg data p = some q := by
  unfold corrPost at h
  split at h
  · exact ⟨_, ‹_›, h⟩
  · exact absurd h (by simp)

/-- so is an answer of the independent model with a noise matrix -/
theorem indepPost_matrix_eq_some (cfg : Cfg) (hs : cfg.scalarNoise = none)
    (data : List (Nat × Vec)) (p : Nat) (q : Post) (h : indepPost cfg data p = some q) :
    ∃ Sg, cfg.taskNoise = some Sg ∧ jointPost cfg.m (indepK cfg) Sg data p = some q := by
  unfold indepPost indepJoint at h
  simp only [hs] at h
  split at h
  · split at h
    · exact ⟨_, ‹_›, h⟩
    · exact absurd h (by simp)
  · exact absurd h (by simp)

theorem corrPost_shapes (cfg : Cfg) (data : List (Nat × Vec)) (p : Nat) (q : Post)
    (h : corrPost cfg data p = some q) :
    q.mean.length = cfg.m ∧ q.cov.length = cfg.m ∧ ∀ row ∈ q.cov, row.length = cfg.m := by
  obtain ⟨Sg, -, h⟩ := corrPost_eq_some cfg data p q h
  exact jointPost_shapes _ _ _ _ _ q h

theorem indepPost_shapes (cfg : Cfg) (data : List (Nat × Vec)) (p : Nat) (q : Post)
    (h : indepPost cfg data p = some q) :
    q.mean.length = cfg.m ∧ q.cov.length = cfg.m ∧ ∀ row ∈ q.cov, row.length = cfg.m := by
  cases hs : cfg.scalarNoise with
  | some s =>
    obtain ⟨hT, ps, hps, rfl⟩ := indepPost_eq_some cfg s hs data p q h
    have hl : ps.length = cfg.m := by
      rw [mapM_option_length hps, List.length_zipIdx, hT]
    rw [← hl]
    exact assembleDiag_shapes ps
  | none =>
    obtain ⟨Sg, -, h⟩ := indepPost_matrix_eq_some cfg hs data p q h
    exact jointPost_shapes _ _ _ _ _ q h

end VOPy.GPWrap
