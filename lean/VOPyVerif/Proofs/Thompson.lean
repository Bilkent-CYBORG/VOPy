import VOPyVerif.Model.Thompson
import VOPyVerif.Proofs.RealInst
import Mathlib.Analysis.SpecialFunctions.BinaryEntropy
import Mathlib.Analysis.Convex.Jensen
import Mathlib.Algebra.BigOperators.Field
import Mathlib.Data.List.Perm.Subperm
import Mathlib.Data.Nat.Choose.Basic
/-!
# The Thompson-entropy acquisition (`Model/Thompson.lean`)

Counting over the index tuples, probability bounds, the `ℝ` reading of `binaryEntropy`
(= `Real.binEntropy / log 2`), and Jensen's inequality for the information gain.
-/
namespace VOPy.Thompson
open VOPy.RealLike

/-! ## tuples -/

theorem mem_tuples {n m : Nat} {t : List Nat} :
    t ∈ tuples n m ↔ t.length = m ∧ ∀ a ∈ t, a < n := by
  induction m generalizing t with
  | zero =>
    rw [tuples, List.mem_singleton]
    constructor
    · rintro rfl; exact ⟨rfl, fun _ h => nomatch h⟩
    · rintro ⟨h, _⟩; exact List.length_eq_zero_iff.mp h
  | succ m ih =>
    simp only [tuples, List.mem_flatMap, List.mem_range, List.mem_map]
    constructor
    · rintro ⟨a, ha, t', ht', rfl⟩
      obtain ⟨h1, h2⟩ := ih.mp ht'
      exact ⟨congrArg (· + 1) h1, List.forall_mem_cons.mpr ⟨ha, h2⟩⟩
    · rintro ⟨hl, hb⟩
      cases t with
      | nil => exact nomatch hl
      | cons a t' =>
        obtain ⟨ha, hb'⟩ := List.forall_mem_cons.mp hb
        exact ⟨a, ha, t', ih.mpr ⟨Nat.succ.inj hl, hb'⟩, rfl⟩

theorem length_tuples (n m : Nat) : (tuples n m).length = n ^ m := by
  induction m with
  | zero => simp [tuples]
  | succ m ih =>
    simp only [tuples, List.length_flatMap, List.length_map, ih, List.map_const', List.length_range,
      List.sum_replicate_nat]
    rw [pow_succ, Nat.mul_comm]

theorem sum_map_range {M : Type} [AddCommMonoid M] (f : Nat → M) (n : Nat) :
    ((List.range n).map f).sum = ∑ a ∈ Finset.range n, f a := rfl

/-- the tuples with a prescribed entry on axis `j` number `n^(m-1)` -/
theorem count_coord {n m j s : Nat} (hj : j < m) (hs : s < n) :
    (tuples n m).countP (fun t => t[j]? == some s) = n ^ (m - 1) := by
  induction m generalizing j with
  | zero => exact absurd hj (Nat.not_lt_zero j)
  | succ m ih =>
    rw [tuples, List.countP_flatMap, sum_map_range, Nat.add_sub_cancel]
    simp only [Function.comp_def, List.countP_map]
    cases j with
    | zero =>
      -- only the block of tuples starting with `s` counts, and it counts in full
      rw [Finset.sum_eq_single_of_mem s (Finset.mem_range.mpr hs), ← length_tuples n m]
      · exact List.countP_eq_length.mpr fun t _ => beq_self_eq_true _
      · exact fun a _ hne => List.countP_eq_zero.mpr fun t _ h =>
          hne (Option.some.inj (beq_iff_eq.mp h))
    | succ j' =>
      have hj' : j' < m := Nat.lt_of_succ_lt_succ hj
      simp only [List.getElem?_cons_succ, ih hj']
      rw [Finset.sum_const, Finset.card_range, smul_eq_mul, ← pow_succ',
        Nat.sub_add_cancel (Nat.one_le_of_lt hj')]

/-- splitting a count along axis `j` -/
theorem sum_count_split (n j : Nat) (q : List Nat → Bool) (L : List (List Nat))
    (hL : ∀ t ∈ L, ∃ s, s < n ∧ t[j]? = some s) :
    ∑ s ∈ Finset.range n, L.countP (fun t => t[j]? == some s && q t) = L.countP q := by
  induction L with
  | nil => exact Finset.sum_const_zero
  | cons t L ih =>
    obtain ⟨s0, hs0, hts⟩ := hL t List.mem_cons_self
    simp only [List.countP_cons, hts]
    -- the head of the list is counted for its own entry `s0` only
    rw [Finset.sum_add_distrib, ih fun t' ht' => hL t' (List.mem_cons_of_mem _ ht'),
      Finset.sum_eq_single_of_mem s0 (Finset.mem_range.mpr hs0), beq_self_eq_true, Bool.true_and]
    intro s _ hne
    rw [if_neg]
    rw [Bool.and_eq_true, beq_iff_eq, Option.some.injEq]
    exact fun h => hne h.1.symm

theorem tuples_coord {n m j : Nat} (hj : j < m) {t : List Nat} (ht : t ∈ tuples n m) :
    ∃ s, s < n ∧ t[j]? = some s := by
  obtain ⟨hl, hb⟩ := mem_tuples.mp ht
  have hjl : j < t.length := hl ▸ hj
  exact ⟨t[j], hb _ (List.getElem_mem hjl), List.getElem?_eq_getElem hjl⟩

/-! ## counts and probabilities -/

theorem priorCount_le (n m : Nat) (mem : Mask) (i : Nat) : priorCount n m mem i ≤ n ^ m :=
  (List.countP_le_length).trans (length_tuples n m).le

theorem postCount_le (n m j s : Nat) (mem : Mask) (i : Nat) :
    postCount n m j s mem i ≤ n ^ (m - 1) := by
  have hle : postCount n m j s mem i ≤ (tuples n m).countP (fun t => t[j]? == some s) :=
    List.countP_mono_left fun t _ h => (Bool.and_eq_true _ _ ▸ h).1
  by_cases hjs : j < m ∧ s < n
  · exact hle.trans (count_coord hjs.1 hjs.2).le
  · -- no tuple has an entry `s ≥ n`, or an entry on an axis `j ≥ m`
    refine (hle.trans_eq (List.countP_eq_zero.mpr fun t ht h => hjs ?_)).trans (Nat.zero_le _)
    obtain ⟨hl, hb⟩ := mem_tuples.mp ht
    obtain ⟨hjl, rfl⟩ := List.getElem?_eq_some_iff.mp (beq_iff_eq.mp h)
    exact ⟨hl ▸ hjl, hb _ (List.getElem_mem hjl)⟩

theorem sum_postCount {n m j : Nat} (hj : j < m) (mem : Mask) (i : Nat) :
    ∑ s ∈ Finset.range n, postCount n m j s mem i = priorCount n m mem i :=
  sum_count_split n j (fun t => mem t i) (tuples n m) (fun _ ht => tuples_coord hj ht)

theorem priorProb_nonneg (n m : Nat) (mem : Mask) (i : Nat) : 0 ≤ priorProb n m mem i :=
  div_nonneg (Nat.cast_nonneg _) (Nat.cast_nonneg _)

theorem priorProb_le_one {n : Nat} (hn : 0 < n) (m : Nat) (mem : Mask) (i : Nat) :
    priorProb n m mem i ≤ 1 :=
  (div_le_one (Nat.cast_pos.mpr (Nat.pow_pos hn))).mpr (Nat.cast_le.mpr (priorCount_le n m mem i))

theorem postProb_nonneg (n m j s : Nat) (mem : Mask) (i : Nat) : 0 ≤ postProb n m j s mem i :=
  div_nonneg (Nat.cast_nonneg _) (Nat.cast_nonneg _)

theorem postProb_le_one {n : Nat} (hn : 0 < n) (m j s : Nat) (mem : Mask) (i : Nat) :
    postProb n m j s mem i ≤ 1 :=
  (div_le_one (Nat.cast_pos.mpr (Nat.pow_pos hn))).mpr (Nat.cast_le.mpr (postCount_le n m j s mem i))

/-- the prior probability is the average of the posterior probabilities over the evaluated
objective's Thompson sample -/
theorem priorProb_eq_avg {n m j : Nat} (hj : j < m) (mem : Mask) (i : Nat) :
    priorProb n m mem i = (∑ s ∈ Finset.range n, postProb n m j s mem i) / n := by
  unfold priorProb postProb
  rw [← sum_postCount hj mem i, ← Finset.sum_div, div_div, ← Nat.cast_mul, ← pow_succ,
    Nat.sub_add_cancel (Nat.one_le_of_lt hj), Nat.cast_sum]

/-! ## the `ℝ` reading of the entropy term -/

@[simp] theorem ofRat_real (r : ℚ) : (ofRat r : ℝ) = (r : ℝ) := by
  unfold ofRat
  simp only [ofNat_real]
  rw [Rat.cast_def]
  split
  · rename_i h
    congr 1
    rw [← Int.cast_natCast, Int.natCast_natAbs, abs_of_neg h]; push_cast; ring
  · rename_i h
    congr 1
    rw [← Int.cast_natCast, Int.natCast_natAbs, abs_of_nonneg (not_lt.mp h)]

/-- over `ℝ` the guard of `xlogy` is invisible (`Real.log 0 = 0`) -/
theorem xlogy_real (p : ℚ) : (xlogy p : ℝ) = (p : ℝ) * Real.log p := by
  unfold xlogy
  split
  · rename_i h; subst h; simp
  · simp

theorem binaryEntropy_real (p : ℚ) :
    (binaryEntropy p : ℝ) = Real.binEntropy (p : ℝ) / Real.log 2 := by
  unfold binaryEntropy
  simp only [xlogy_real, log_real, ofNat_real]
  rw [Real.binEntropy, Real.log_inv, Real.log_inv]
  push_cast
  ring

@[simp] theorem sumL_real (l : List ℝ) : sumL l = l.sum := by
  rw [List.sum_eq_foldl, sumL, ofNat_real, Nat.cast_zero]

theorem log_two_pos : 0 < Real.log 2 := Real.log_pos (by norm_num)

theorem binaryEntropy_nonneg {p : ℚ} (h0 : 0 ≤ p) (h1 : p ≤ 1) : (0 : ℝ) ≤ binaryEntropy p := by
  rw [binaryEntropy_real]
  exact div_nonneg (Real.binEntropy_nonneg (Rat.cast_nonneg.mpr h0)
    ((Rat.cast_le.mpr h1).trans_eq Rat.cast_one)) log_two_pos.le

theorem binaryEntropy_le_one (p : ℚ) : (binaryEntropy p : ℝ) ≤ 1 := by
  rw [binaryEntropy_real, div_le_one log_two_pos]
  exact Real.binEntropy_le_log_two

theorem meanPostEntropy_real (n m j : Nat) (mem : Mask) (i : Nat) :
    (meanPostEntropy n m j mem i : ℝ) =
      (∑ s ∈ Finset.range n, Real.binEntropy ((postProb n m j s mem i : ℚ) : ℝ) / Real.log 2) / n := by
  unfold meanPostEntropy
  simp only [sumL_real, ofNat_real]
  rw [sum_map_range]
  congr 1
  exact Finset.sum_congr rfl (fun s _ => binaryEntropy_real _)

theorem meanPostEntropy_nonneg {n : Nat} (hn : 0 < n) (m j : Nat) (mem : Mask) (i : Nat) :
    (0 : ℝ) ≤ meanPostEntropy n m j mem i := by
  rw [meanPostEntropy_real]
  refine div_nonneg (Finset.sum_nonneg fun s _ => ?_) n.cast_nonneg
  rw [← binaryEntropy_real]
  exact binaryEntropy_nonneg (postProb_nonneg n m j s mem i) (postProb_le_one hn m j s mem i)

/-- Jensen for the concave binary entropy: the mean entropy is at most the entropy of the mean -/
theorem avg_binEntropy_le {n : Nat} (hn : 0 < n) (p : Nat → ℝ) (hp : ∀ s, p s ∈ Set.Icc (0 : ℝ) 1) :
    (∑ s ∈ Finset.range n, Real.binEntropy (p s)) / n ≤
      Real.binEntropy ((∑ s ∈ Finset.range n, p s) / n) := by
  have hn' : (n : ℝ) ≠ 0 := Nat.cast_ne_zero.mpr hn.ne'
  have key := Real.strictConcave_binEntropy.concaveOn.le_map_sum (t := Finset.range n)
    (w := fun _ => (n : ℝ)⁻¹) (p := p) (fun _ _ => inv_nonneg.mpr n.cast_nonneg)
    (by rw [Finset.sum_const, Finset.card_range, nsmul_eq_mul, mul_inv_cancel₀ hn'])
    (fun s _ => hp s)
  simp only [smul_eq_mul, inv_mul_eq_div, ← Finset.sum_div] at key
  exact key

/-- the mean posterior entropy does not exceed the prior entropy: the prior probability is the
average of the posterior probabilities -/
theorem meanPostEntropy_le_prior {n m j : Nat} (hn : 0 < n) (hj : j < m) (mem : Mask) (i : Nat) :
    (meanPostEntropy n m j mem i : ℝ) ≤ binaryEntropy (priorProb n m mem i) := by
  rw [meanPostEntropy_real, binaryEntropy_real, ← Finset.sum_div, div_right_comm,
    priorProb_eq_avg hj mem i]
  push_cast
  exact div_le_div_of_nonneg_right (avg_binEntropy_le hn _ fun s =>
    ⟨Rat.cast_nonneg.mpr (postProb_nonneg n m j s mem i),
      (Rat.cast_le.mpr (postProb_le_one hn m j s mem i)).trans_eq Rat.cast_one⟩) log_two_pos.le

/-! ## combinations and the filled mask -/

theorem mem_combsFrom {n r lo : Nat} {t : List Nat} :
    t ∈ combsFrom n r lo ↔ t.length = r ∧ t.Pairwise (· < ·) ∧ ∀ a ∈ t, lo ≤ a ∧ a < n := by
  induction r generalizing lo t with
  | zero =>
    rw [combsFrom, List.mem_singleton]
    constructor
    · rintro rfl; exact ⟨rfl, List.Pairwise.nil, fun _ h => nomatch h⟩
    · rintro ⟨h, _⟩; exact List.length_eq_zero_iff.mp h
  | succ r ih =>
    simp only [combsFrom, List.mem_flatMap, List.mem_range'_1, List.mem_map]
    constructor
    · rintro ⟨a, ⟨hlo, hhi⟩, t', ht', rfl⟩
      obtain ⟨h1, h2, h3⟩ := ih.mp ht'
      refine ⟨congrArg (· + 1) h1, List.pairwise_cons.mpr ⟨fun b hb => (h3 b hb).1, h2⟩,
        List.forall_mem_cons.mpr ⟨⟨hlo, by omega⟩,
          fun b hb => ⟨by have := (h3 b hb).1; omega, (h3 b hb).2⟩⟩⟩
    · rintro ⟨hl, hp, hb⟩
      cases t with
      | nil => exact nomatch hl
      | cons a t' =>
        obtain ⟨hp1, hp2⟩ := List.pairwise_cons.mp hp
        obtain ⟨ha, hb'⟩ := List.forall_mem_cons.mp hb
        exact ⟨a, ⟨ha.1, by omega⟩, t',
          ih.mpr ⟨Nat.succ.inj hl, hp2, fun b hb => ⟨hp1 b hb, (hb' b hb).2⟩⟩, rfl⟩

/-- `itertools.combinations(range(n), r)`: exactly the strictly increasing `r`-tuples below `n` -/
theorem mem_combinations {n r : Nat} {t : List Nat} :
    t ∈ combinations n r ↔ t.length = r ∧ t.Pairwise (· < ·) ∧ ∀ a ∈ t, a < n := by
  rw [combinations, mem_combsFrom]
  exact and_congr_right fun _ => and_congr_right fun _ =>
    forall₂_congr fun a _ => and_iff_right (Nat.zero_le a)

theorem combinations_subset_tuples {n r : Nat} {t : List Nat} (h : t ∈ combinations n r) :
    t ∈ tuples n r := by
  obtain ⟨h1, _, h3⟩ := mem_combinations.mp h
  exact mem_tuples.mpr ⟨h1, h3⟩

theorem lookup_mem {β : Type} (l : List (List Nat × β)) (k : List Nat) (v : β)
    (h : l.lookup k = some v) : (k, v) ∈ l := by
  obtain ⟨l₁, l₂, rfl, _⟩ := List.lookup_eq_some_iff.mp h
  simp

/-- an entry of the filled mask can only be set at a strictly increasing index tuple -/
theorem filledMask_true {n m : Nat} {pareto : List (List Nat)} {t : List Nat} {i : Nat}
    (h : filledMask n m pareto t i = true) :
    t ∈ combinations n m ∧ ∃ P ∈ pareto, i ∈ P := by
  unfold filledMask at h
  split at h
  · rename_i P hP
    have hm := lookup_mem _ _ _ hP
    exact ⟨(List.of_mem_zip hm).1, P, (List.of_mem_zip hm).2, by simpa using h⟩
  · simp at h

theorem nodup_cons_flatMap {l : List Nat} (hl : l.Nodup) (f : Nat → List (List Nat))
    (hf : ∀ a ∈ l, (f a).Nodup) : (l.flatMap (fun a => (f a).map (a :: ·))).Nodup := by
  rw [List.nodup_flatMap]
  refine ⟨fun a ha => (hf a ha).map (fun x y h => by simpa using h), ?_⟩
  refine hl.imp_of_mem ?_
  intro a b _ _ hab
  simp only [Function.onFun]
  intro x hx hy
  obtain ⟨x', _, rfl⟩ := List.mem_map.mp hx
  obtain ⟨y', _, h⟩ := List.mem_map.mp hy
  simp at h
  exact hab h.1.symm

theorem nodup_tuples (n m : Nat) : (tuples n m).Nodup := by
  induction m with
  | zero => simp [tuples]
  | succ m ih => exact nodup_cons_flatMap List.nodup_range (fun _ => tuples n m) (fun _ _ => ih)

theorem nodup_combsFrom (n r lo : Nat) : (combsFrom n r lo).Nodup := by
  induction r generalizing lo with
  | zero => simp [combsFrom]
  | succ r ih =>
    exact nodup_cons_flatMap (List.nodup_range' (step := 1)) (fun a => combsFrom n r (a + 1))
      (fun a _ => ih (a + 1))

theorem length_combsFrom (n r lo : Nat) : (combsFrom n r lo).length = (n - lo).choose r := by
  induction r generalizing lo with
  | zero => simp [combsFrom]
  | succ r ih =>
    generalize hk : n - lo = k
    induction k generalizing lo with
    | zero => simp [combsFrom, hk]
    | succ k ihk =>
      have h1 : n - (lo + 1) = k := by omega
      have e : combsFrom n (r + 1) lo =
          (combsFrom n r (lo + 1)).map (lo :: ·) ++ combsFrom n (r + 1) (lo + 1) := by
        simp only [combsFrom, hk, h1, List.range'_succ, List.flatMap_cons]
      rw [e, List.length_append, List.length_map, ih, ihk (lo + 1) h1, h1, Nat.choose_succ_succ]

theorem length_combinations (n r : Nat) : (combinations n r).length = n.choose r := by
  simp [combinations, length_combsFrom]

/-- only the `C(n, m)` strictly increasing tuples can carry a `True`: the count over the FULL
tensor is at most `C(n, m)` -/
theorem priorCount_filled_le (n m : Nat) (pareto : List (List Nat)) (i : Nat) :
    priorCount n m (filledMask n m pareto) i ≤ n.choose m := by
  unfold priorCount
  rw [← length_combinations, List.countP_eq_length_filter]
  apply List.Subperm.length_le
  apply List.subperm_of_subset ((nodup_tuples n m).filter _)
  intro t ht
  exact (filledMask_true (List.mem_filter.mp ht).2).1

theorem lookup_zip_getElem {β : Type} (ks : List (List Nat)) (vs : List β) (hnd : ks.Nodup)
    (k : Nat) (h1 : k < ks.length) (h2 : k < vs.length) :
    (ks.zip vs).lookup ks[k] = some vs[k] := by
  induction ks generalizing vs k with
  | nil => exact absurd h1 (Nat.not_lt_zero k)
  | cons a ks ih =>
    cases vs with
    | nil => exact absurd h2 (Nat.not_lt_zero k)
    | cons v vs =>
      obtain ⟨ha, hnd'⟩ := List.nodup_cons.mp hnd
      cases k with
      | zero => exact List.lookup_cons_self
      | succ k =>
        have hk : k < ks.length := Nat.lt_of_succ_lt_succ h1
        have hne : (ks[k] == a) = false := beq_false_of_ne fun h => ha (h ▸ List.getElem_mem hk)
        rw [List.zip_cons_cons, List.getElem_cons_succ, List.getElem_cons_succ, List.lookup_cons, hne]
        exact ih vs hnd' k hk (Nat.lt_of_succ_lt_succ h2)

/-- the fill loop sets, at the `k`-th combination, exactly the designs of the `k`-th Pareto set -/
theorem filledMask_at {n m : Nat} {pareto : List (List Nat)} (k : Nat)
    (h1 : k < (combinations n m).length) (h2 : k < pareto.length) (i : Nat) :
    filledMask n m pareto ((combinations n m)[k]) i = pareto[k].contains i := by
  unfold filledMask
  have hnd : (combinations n m).Nodup := nodup_combsFrom n m 0
  rw [lookup_zip_getElem _ _ hnd k h1 h2]

end VOPy.Thompson
