import VOPyVerif.Model.Accuracy
import VOPyVerif.Proofs.Steps
/-!
# What the accuracy invariants of C01 share

* a finite strict partial order has a maximal element above every non-maximal one — the
  combinatorial fact behind "every discarded design is dominated by a surviving one";
* how "dominated by a living design" (I2) and "good against every design" (I3) pass from the state
  before a round to the state after it.

Core only.
-/
namespace VOPy.Accuracy
open VOPy VOPy.Steps

theorem countP_lt_countP {A : List Nat} {p q : Nat → Bool} (hpq : ∀ x ∈ A, p x = true → q x = true)
    {y : Nat} (hy : y ∈ A) (hqy : q y = true) (hpy : p y = false) : A.countP p < A.countP q := by
  induction A with
  | nil => cases hy
  | cons a A ih =>
    have hmono : A.countP p ≤ A.countP q :=
      List.countP_mono_left fun x hx => hpq x (List.mem_cons_of_mem _ hx)
    rw [List.countP_cons, List.countP_cons]
    rcases List.mem_cons.mp hy with rfl | hyA
    · rw [hqy, hpy, if_pos rfl, if_neg Bool.false_ne_true]
      omega
    · have hlt := ih (fun x hx => hpq x (List.mem_cons_of_mem _ hx)) hyA
      cases hp : p a
      · rw [if_neg Bool.false_ne_true]; omega
      · rw [hpq a (List.mem_cons_self ..) hp, if_pos rfl]; omega

/-- Above every element that has a certificate `rel` there is a certificate-free element that is
strictly larger in the (transitive, irreflexive) order `lt` the certificates are sound for. -/
theorem exists_maximal_above_of_lt (rel : Nat → Nat → Bool) (lt : Nat → Nat → Prop) (A : List Nat)
    (htrans : ∀ i ∈ A, ∀ j ∈ A, ∀ k ∈ A, lt i j → lt j k → lt i k)
    (hirr : ∀ i ∈ A, ¬ lt i i)
    (hrel : ∀ i ∈ A, ∀ j ∈ A, rel i j = true → lt i j) :
    ∀ i ∈ A, (∃ j ∈ A, rel i j = true) →
      ∃ k ∈ A, lt i k ∧ ∀ l ∈ A, rel k l = false := by
  classical
  -- induction on a bound for the number of members of `A` above `i`
  suffices key : ∀ n, ∀ i ∈ A, A.countP (fun k => decide (lt i k)) < n →
      (∃ j ∈ A, rel i j = true) → ∃ k ∈ A, lt i k ∧ ∀ l ∈ A, rel k l = false from
    fun i hi => key _ i hi (Nat.lt_succ_self _)
  intro n
  induction n with
  | zero => intro i _ h; exact absurd h (Nat.not_lt_zero _)
  | succ n ih =>
    rintro i hi hlen ⟨j, hj, hij⟩
    have hltij := hrel i hi j hj hij
    by_cases hex : ∃ l ∈ A, rel j l = true
    · -- what is above `j` is above `i`; `j` is above `i` and not above itself
      have hlt : A.countP (fun k => decide (lt j k)) < A.countP (fun k => decide (lt i k)) :=
        countP_lt_countP
          (fun x hx hjx => decide_eq_true (htrans i hi j hj x hx hltij (of_decide_eq_true hjx)))
          hj (decide_eq_true hltij) (decide_eq_false (hirr j hj))
      obtain ⟨k, hk, hjk, hkmax⟩ := ih j hj (by omega) hex
      exact ⟨k, hk, htrans i hi j hj k hk hltij hjk, hkmax⟩
    · exact ⟨j, hj, hltij, fun l hl => Bool.eq_false_iff.mpr fun h => hex ⟨l, hl, h⟩⟩

/-! ### (I2), (I3) across a round: `S₁ ⊆ S` survive discarding, then `new ⊆ S₁` moves to `P` -/

/-- If every design discarded in this round is dominated by a living one (`hsurv`) and every new member
of `P` is `good` against every living design (`hgood`), then afterwards every design that is not alive
is dominated by a living one, and every member of `P` is `good` against every design. -/
theorem covered_acc_of_move {K : Nat} {dom good : Nat → Nat → Prop} {S S₁ P new : List Nat}
    (dom_trans : ∀ i j k, i < K → j < K → k < K → dom i j → dom j k → dom i k)
    (good_mono : ∀ i k j, i < K → k < K → j < K → good i k → dom k j → good i j)
    (hS₁ : S₁.Nodup) (hsub : ∀ x ∈ S₁, x ∈ S) (hnew : ∀ x ∈ new, x ∈ S₁)
    (hlt : ∀ x, x ∈ S ∨ x ∈ P → x < K)
    (hcov : ∀ i, i < K → i ∉ S → i ∉ P → ∃ j, (j ∈ S ∨ j ∈ P) ∧ dom j i)
    (hacc : ∀ i, i ∈ P → ∀ j, j < K → good i j)
    (hsurv : ∀ i ∈ S, i ∉ S₁ → ∃ k, (k ∈ S₁ ∨ k ∈ P) ∧ dom k i)
    (hgood : ∀ i ∈ new, ∀ k, (k ∈ S₁ ∨ k ∈ P) → good i k) :
    (∀ i, i < K → i ∉ removeAll S₁ new → i ∉ addAll P new →
      ∃ j, (j ∈ removeAll S₁ new ∨ j ∈ addAll P new) ∧ dom j i) ∧
    ∀ i, i ∈ addAll P new → ∀ j, j < K → good i j := by
  have hlt1 : ∀ x, x ∈ S₁ ∨ x ∈ P → x < K := fun x hx => hlt x (hx.imp_left (hsub x))
  -- after discarding: a design outside `S₁ ∪ P` was discarded now, or its old witness was
  have hcov1 : ∀ i, i < K → ¬ (i ∈ S₁ ∨ i ∈ P) → ∃ k, (k ∈ S₁ ∨ k ∈ P) ∧ dom k i := by
    intro i hiK hi
    by_cases hiS : i ∈ S
    · exact hsurv i hiS fun h => hi (Or.inl h)
    · obtain ⟨j, hj, hji⟩ := hcov i hiK hiS fun h => hi (Or.inr h)
      by_cases hj1 : j ∈ S₁ ∨ j ∈ P
      · exact ⟨j, hj1, hji⟩
      · have hjS : j ∈ S := hj.resolve_right fun h => hj1 (Or.inr h)
        obtain ⟨k, hk, hkj⟩ := hsurv j hjS fun h => hj1 (Or.inl h)
        exact ⟨k, hk, dom_trans k j i (hlt1 k hk) (hlt j hj) hiK hkj hji⟩
  -- moving `new` to `P` leaves the living designs as they are
  have halive := move_alive (P := P) hS₁ hnew
  refine ⟨fun i hiK hi2 hiP2 => ?_, fun i hi j hjK => ?_⟩
  · obtain ⟨k, hk, hki⟩ := hcov1 i hiK fun h => ((halive i).mpr h).elim hi2 hiP2
    exact ⟨k, (halive k).mpr hk, hki⟩
  · rcases mem_addAll.mp hi with h | h
    · exact hacc i h j hjK
    · by_cases hjl : j ∈ S₁ ∨ j ∈ P
      · exact hgood i h j hjl
      · obtain ⟨k, hk, hkj⟩ := hcov1 j hjK hjl
        exact good_mono i k j (hlt1 i (Or.inl (hnew i h))) (hlt1 k hk) hjK (hgood i h k hk) hkj

/-- (I2) at termination (`S = []`): the dominating living design is a member of `P` -/
theorem covered_of_nil {K : Nat} {dom : Nat → Nat → Prop} {P : List Nat}
    (hcov : ∀ i, i < K → i ∉ ([] : List Nat) → i ∉ P → ∃ j, (j ∈ ([] : List Nat) ∨ j ∈ P) ∧ dom j i) :
    ∀ i, i < K → i ∉ P → ∃ j ∈ P, dom j i := by
  intro i hi hiP
  obtain ⟨j, hj, hji⟩ := hcov i hi List.not_mem_nil hiP
  exact ⟨j, hj.resolve_left List.not_mem_nil, hji⟩

end VOPy.Accuracy
