import Mathlib.Probability.Distributions.Gaussian.Real
import Mathlib.Probability.Independence.Basic
/-!
# The mean of `n` independent `N(f, v)` samples is `N(f, v/n)`

The law of the sample mean, for C04 and C08.  `mean_gaussian`: over any non-empty finite index set, on any
probability space; it discharges, per objective, the modelling assumption "a design sampled `n` times
with Gaussian noise of variance `v` has an empirical mean with law `N(f, v/n)`" (`C04.auer_valid_iid`).
`pi_mean_gaussian`: distinct coordinates of an i.i.d. product measure are such samples (C08's noise model).
-/
namespace VOPy.SchedR
open MeasureTheory ProbabilityTheory
open scoped NNReal

variable {Ω : Type*} [MeasurableSpace Ω]

lemma sum_gaussian {ι : Type*} (P : Measure Ω) [IsProbabilityMeasure P] (Y : ι → Ω → ℝ)
    (hm : ∀ k, Measurable (Y k)) (hind : iIndepFun Y P) (f : ℝ) (v : ℝ≥0)
    (hY : ∀ k, P.map (Y k) = gaussianReal f v) (s : Finset ι) :
    P.map (∑ k ∈ s, Y k) = gaussianReal (s.card * f) (s.card * v) := by
  classical
  induction s using Finset.induction_on with
  | empty =>
    simp only [Finset.sum_empty, Finset.card_empty, Nat.cast_zero, zero_mul, gaussianReal_zero_var]
    change P.map (fun _ => (0:ℝ)) = _
    rw [Measure.map_const]; simp
  | insert a s ha ih =>
    rw [Finset.sum_insert ha, add_comm, Finset.card_insert_of_notMem ha]
    have hi : IndepFun (∑ k ∈ s, Y k) (Y a) P := hind.indepFun_finsetSum_of_notMem hm ha
    rw [gaussianReal_add_gaussianReal_of_indepFun hi ih (hY a)]
    congr 1
    · push_cast; ring
    · push_cast; ring

lemma mean_gaussian {ι : Type*} (P : Measure Ω) [IsProbabilityMeasure P] (Y : ι → Ω → ℝ)
    (hm : ∀ k, Measurable (Y k)) (hind : iIndepFun Y P) (f : ℝ) (v : ℝ≥0)
    (hY : ∀ k, P.map (Y k) = gaussianReal f v) (s : Finset ι) (hs : s.Nonempty) :
    P.map (fun ω => (∑ k ∈ s, Y k ω) / s.card) = gaussianReal f (v / s.card) := by
  have hsum : (∑ k ∈ s, Y k) = fun ω => ∑ k ∈ s, Y k ω := funext fun ω => Finset.sum_apply ω _ _
  have h := sum_gaussian P Y hm hind f v hY s
  rw [hsum] at h
  have hn : (s.card:ℝ) ≠ 0 := Nat.cast_ne_zero.mpr hs.card_pos.ne'
  show P.map ((fun x : ℝ => x / s.card) ∘ fun ω => ∑ k ∈ s, Y k ω) = _
  rw [← Measure.map_map (by fun_prop) (Finset.measurable_sum _ fun k _ => hm k), h,
    gaussianReal_map_div_const, mul_div_cancel_left₀ f hn]
  congr 1
  ext; push_cast; field_simp

/-- the first `n` of a sequence of samples: the shape `C04.auer_valid_iid` states -/
lemma sample_mean_gaussian (P : Measure Ω) [IsProbabilityMeasure P] (Y : ℕ → Ω → ℝ)
    (hm : ∀ k, Measurable (Y k)) (hind : iIndepFun Y P) (f : ℝ) (v : ℝ≥0)
    (hY : ∀ k, P.map (Y k) = gaussianReal f v) (n : ℕ) (hn : 0 < n) :
    P.map (fun ω => (∑ k ∈ Finset.range n, Y k ω) / n) = gaussianReal f (v / n) := by
  simpa only [Finset.card_range] using
    mean_gaussian P Y hm hind f v hY (Finset.range n) (Finset.nonempty_range_iff.mpr hn.ne')

/-- The coordinate projections of a product measure are independent with the factors as laws
(`iIndepFun_pi`); an injective `g` picks distinct coordinates. -/
lemma pi_mean_gaussian {ι κ : Type*} [Fintype ι] (v : ℝ≥0) (g : κ → ι) (hg : g.Injective)
    (s : Finset κ) (hs : s.Nonempty) :
    (Measure.pi fun _ : ι => gaussianReal 0 v).map (fun ξ : ι → ℝ => (∑ k ∈ s, ξ (g k)) / s.card)
      = gaussianReal 0 (v / s.card) :=
  mean_gaussian _ (fun k (ξ : ι → ℝ) => ξ (g k)) (fun _ => measurable_pi_apply _)
    ((iIndepFun_pi (X := fun _ : ι => id) fun _ => aemeasurable_id).precomp hg) 0 v
    (fun _ => (measurePreserving_eval _ _).map_eq) s hs

end VOPy.SchedR
