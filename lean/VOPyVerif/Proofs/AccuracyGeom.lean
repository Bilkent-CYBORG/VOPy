import VOPyVerif.Proofs.AccuracySets
import VOPyVerif.Proofs.ParetoDominates
import VOPyVerif.Proofs.StepsAuer
import Mathlib.Tactic.Linarith
/-!
# C01 / C05: the order-theoretic facts about true means, and what the executable checks mean

* index-wise characterisations of the `zipWith … |>.any / .all` definitions of `Model/Accuracy.lean`
  (`notCovers_iff`, `gapLe_iff`, `dominates_iff_get`, …),
* linearity of `dot` in its second argument among vectors of one length,
* monotonicity: `notCovers W t a k → dominates W k j → notCovers W t a j`,
* `gapLe` from `notCovers` when the thresholds are `≤ ε·α`,
* `mGap` (the literal minimum) versus `gapLe`,
* Prop-level readings of `accA`, `accB`, `accT`, `keepsIsolated`, `internallyNondom`.
-/
namespace VOPy.Accuracy
open VOPy

/-! ### `zipWith` with `any` / `all`, by index -/

theorem getElem_mem_zipWith {α β γ : Type} (g : α → β → γ) {l1 : List α} {l2 : List β} {n : Nat}
    (h1 : n < l1.length) (h2 : n < l2.length) : g l1[n] l2[n] ∈ List.zipWith g l1 l2 :=
  List.mem_iff_getElem.mpr
    ⟨n, List.length_zipWith ▸ Nat.lt_min.mpr ⟨h1, h2⟩, List.getElem_zipWith⟩

theorem all_zipWith_eq_true {α β γ : Type} (g : α → β → γ) (p : γ → Bool) (l1 : List α)
    (l2 : List β) : (List.zipWith g l1 l2).all p = true ↔
      ∀ n, ∀ h1 : n < l1.length, ∀ h2 : n < l2.length, p (g l1[n] l2[n]) = true := by
  rw [List.all_eq_true]
  constructor
  · exact fun h n h1 h2 => h _ (getElem_mem_zipWith g h1 h2)
  · intro h x hx
    obtain ⟨n, hn, rfl⟩ := List.getElem_of_mem hx
    have hn' := Nat.lt_min.mp (List.length_zipWith ▸ hn)
    rw [List.getElem_zipWith]
    exact h n hn'.1 hn'.2

theorem any_zipWith_eq_true {α β γ : Type} (g : α → β → γ) (p : γ → Bool) (l1 : List α)
    (l2 : List β) : (List.zipWith g l1 l2).any p = true ↔
      ∃ n, ∃ h1 : n < l1.length, ∃ h2 : n < l2.length, p (g l1[n] l2[n]) = true := by
  rw [List.any_eq_true]
  constructor
  · rintro ⟨x, hx, hp⟩
    obtain ⟨n, hn, rfl⟩ := List.getElem_of_mem hx
    have hn' := Nat.lt_min.mp (List.length_zipWith ▸ hn)
    rw [List.getElem_zipWith] at hp
    exact ⟨n, hn'.1, hn'.2, hp⟩
  · exact fun ⟨n, h1, h2, hp⟩ => ⟨_, getElem_mem_zipWith g h1 h2, hp⟩

theorem all_zipWith_iff {α β : Type} (f : α → β → Bool) (l1 : List α) (l2 : List β) :
    (List.zipWith f l1 l2).all id = true ↔
      ∀ n, ∀ h1 : n < l1.length, ∀ h2 : n < l2.length, f l1[n] l2[n] = true :=
  all_zipWith_eq_true f id l1 l2

theorem getElem_vadd (a b : Vec) (n : Nat) (h : n < (vadd a b).length) :
    (vadd a b)[n] = a[n]'(Nat.lt_min.mp (List.length_zipWith ▸ h)).1 +
      b[n]'(Nat.lt_min.mp (List.length_zipWith ▸ h)).2 :=
  List.getElem_zipWith

theorem getElem_vsub (a b : Vec) (n : Nat) (h : n < (vsub a b).length) :
    (vsub a b)[n] = a[n]'(Nat.lt_min.mp (List.length_zipWith ▸ h)).1 -
      b[n]'(Nat.lt_min.mp (List.length_zipWith ▸ h)).2 :=
  List.getElem_zipWith

/-! ### index-wise readings -/

theorem dominates_iff_get (W : Mat) (a b : Vec) :
    dominates W a b = true ↔ ∀ n, ∀ h : n < W.length, 0 ≤ dot W[n] (vsub a b) := by
  rw [dominates_iff, List.forall_mem_iff_forall_getElem]

theorem notCovers_iff (W : Mat) (t a b : Vec) :
    notCovers W t a b = true ↔
      ∃ n, ∃ h1 : n < W.length, ∃ h2 : n < t.length, dot W[n] (vsub b a) < t[n] := by
  unfold notCovers
  rw [any_zipWith_eq_true]
  simp only [id, decide_eq_true_eq]

/-- `gapLe` is the literal "some facet term is `≤ ε`", by index. -/
theorem gapLe_iff (W : Mat) (alpha : Vec) (eps : Rat) (a b : Vec) :
    gapLe W alpha eps a b = true ↔
      ∃ n, ∃ h1 : n < W.length, ∃ h2 : n < alpha.length, facetGap W[n] alpha[n] a b ≤ eps := by
  unfold gapLe facetGaps
  rw [any_zipWith_eq_true]
  simp only [decide_eq_true_eq]

/-- The facet-by-facet decision agrees with the literal minimum `m(i,j) = min_n …`. -/
theorem mGap_le_iff (W : Mat) (alpha : Vec) (eps : Rat) (a b : Vec) (g : Rat)
    (hg : mGap W alpha a b = some g) : g ≤ eps ↔ gapLe W alpha eps a b = true := by
  unfold mGap at hg
  unfold gapLe
  cases hfg : facetGaps W alpha a b with
  | nil => rw [hfg] at hg; simp at hg
  | cons x xs =>
    rw [hfg] at hg
    simp only [Option.some.injEq] at hg
    have hmin := Steps.foldl_iff_forall (p := (eps < ·)) (fun _ _ => lt_min_iff) xs x
    rw [← hg, ← not_lt, hmin]
    simp only [List.any_eq_true, decide_eq_true_eq, not_forall, not_lt, exists_prop]

/-! ### order facts -/

/-- a positive threshold on some facet: the point never "covers itself" -/
theorem notCovers_self (W : Mat) (t a : Vec)
    (hpos : ∃ n, ∃ _ : n < W.length, ∃ h2 : n < t.length, 0 < t[n]) : notCovers W t a a = true := by
  rw [notCovers_iff]
  obtain ⟨n, h1, h2, h⟩ := hpos
  exact ⟨n, h1, h2, by rw [dot_vsub_self]; exact h⟩

/-- `w_n·(j − a) ≤ w_n·(k − a)` on every facet when `k ≽ j` -/
theorem dot_vsub_le_of_dominates (W : Mat) (a k j : Vec) (hak : a.length = k.length)
    (hkj : k.length = j.length) (h : dominates W k j = true) (n : Nat) (hn : n < W.length) :
    dot W[n] (vsub j a) ≤ dot W[n] (vsub k a) := by
  have h0 := (dominates_iff_get W k j).mp h n hn
  rw [dot_vsub_right _ k j hkj] at h0
  rw [dot_vsub_right _ j a (hak.trans hkj).symm, dot_vsub_right _ k a hak.symm]
  linarith

/-- `notCovers` is downward closed along domination in its last argument -/
theorem notCovers_mono (W : Mat) (t a k j : Vec) (hak : a.length = k.length) (hkj : k.length = j.length)
    (h1 : notCovers W t a k = true) (h2 : dominates W k j = true) : notCovers W t a j = true := by
  rw [notCovers_iff] at h1 ⊢
  obtain ⟨n, hn1, hn2, h⟩ := h1
  exact ⟨n, hn1, hn2, lt_of_le_of_lt (dot_vsub_le_of_dominates W a k j hak hkj h2 n hn1) h⟩

/-- a facet on which `b` stays below the threshold `t_n ≤ ε·α_n` witnesses `m(a,b) ≤ ε` -/
theorem gapLe_of_notCovers (W : Mat) (alpha t : Vec) (eps : Rat) (a b : Vec)
    (heps : 0 ≤ eps) (hal : ∀ n, ∀ h : n < alpha.length, 0 < alpha[n])
    (hlen : t.length = alpha.length)
    (hle : ∀ n, ∀ h1 : n < t.length, ∀ h2 : n < alpha.length, t[n] ≤ eps * alpha[n])
    (h : notCovers W t a b = true) : gapLe W alpha eps a b = true := by
  rw [notCovers_iff] at h
  rw [gapLe_iff]
  obtain ⟨n, h1, h2, hlt⟩ := h
  have h3 : n < alpha.length := hlen ▸ h2
  refine ⟨n, h1, h3, ?_⟩
  unfold facetGap
  rw [div_le_iff₀ (hal n h3)]
  exact max_le (mul_nonneg heps (hal n h3).le) (hlt.le.trans (hle n h2 h3))

/-- `m(a,a) ≤ ε` for `ε ≥ 0`, a cone with at least one facet and positive `α` -/
theorem gapLe_self (W : Mat) (alpha : Vec) (eps : Rat) (a : Vec) (heps : 0 ≤ eps)
    (hne : ∃ n, n < W.length ∧ n < alpha.length) : gapLe W alpha eps a a = true := by
  rw [gapLe_iff]
  obtain ⟨n, h1, h2⟩ := hne
  refine ⟨n, h1, h2, ?_⟩
  unfold facetGap
  rw [dot_vsub_self, max_self, zero_div]
  exact heps

/-- `m(a,·) ≤ ε` is downward closed along domination -/
theorem gapLe_mono (W : Mat) (alpha : Vec) (eps : Rat) (a k j : Vec)
    (hal : ∀ n, ∀ h : n < alpha.length, 0 < alpha[n])
    (hak : a.length = k.length) (hkj : k.length = j.length)
    (h1 : gapLe W alpha eps a k = true) (h2 : dominates W k j = true) :
    gapLe W alpha eps a j = true := by
  rw [gapLe_iff] at h1 ⊢
  obtain ⟨n, hn1, hn2, h⟩ := h1
  refine ⟨n, hn1, hn2, le_trans ?_ h⟩
  exact div_le_div_of_nonneg_right
    (max_le_max (le_refl 0) (dot_vsub_le_of_dominates W a k j hak hkj h2 n hn1)) (hal n hn2).le

/-! ### Prop-level readings of the executable conclusions -/

theorem accA_iff (W : Mat) (K : Nat) (mu : Nat → Vec) (P : List Nat) :
    accA W K mu P = true ↔
      ∀ i, i < K → i ∈ P ∨ ∃ j ∈ P, dominates W (mu j) (mu i) = true := by
  unfold accA
  simp only [List.all_eq_true, List.mem_range, Bool.or_eq_true, List.contains_eq_mem,
    decide_eq_true_eq, List.any_eq_true]

theorem accB_iff (W : Mat) (alpha : Vec) (eps : Rat) (K : Nat) (mu : Nat → Vec) (P : List Nat) :
    accB W alpha eps K mu P = true ↔
      ∀ i ∈ P, ∀ j, j < K → gapLe W alpha eps (mu i) (mu j) = true := by
  unfold accB
  simp only [List.all_eq_true, List.mem_range]

theorem accT_iff (W : Mat) (t : Vec) (K : Nat) (mu : Nat → Vec) (P : List Nat) :
    accT W t K mu P = true ↔
      ∀ i ∈ P, ∀ j, j < K → j = i ∨ notCovers W t (mu i) (mu j) = true := by
  unfold accT
  simp only [List.all_eq_true, List.mem_range, Bool.or_eq_true, beq_iff_eq]

theorem isolated_iff (W : Mat) (s : Vec) (K : Nat) (mu : Nat → Vec) (i : Nat) :
    isolated W s K mu i = true ↔
      ∀ j, j < K → j ≠ i → dominates W (vadd (mu j) s) (mu i) = false := by
  unfold isolated
  simp only [List.all_eq_true, List.mem_range, Bool.or_eq_true, beq_iff_eq, Bool.not_eq_true',
    or_iff_not_imp_left, Ne]

theorem keepsIsolated_iff (W : Mat) (s : Vec) (K : Nat) (mu : Nat → Vec) (P : List Nat) :
    keepsIsolated W s K mu P = true ↔
      ∀ i, i < K → (∀ j, j < K → j ≠ i → dominates W (vadd (mu j) s) (mu i) = false) → i ∈ P := by
  unfold keepsIsolated
  simp only [List.all_eq_true, List.mem_range, Bool.or_eq_true, Bool.not_eq_true',
    List.contains_eq_mem, decide_eq_true_eq, ← Bool.not_eq_true, ← imp_iff_not_or, isolated_iff]

theorem internallyNondom_iff (W : Mat) (s : Vec) (mu : Nat → Vec) (P : List Nat) :
    internallyNondom W s mu P = true ↔
      ∀ i ∈ P, ∀ j ∈ P, j ≠ i → dominates W (mu j) (vadd (mu i) s) = false := by
  unfold internallyNondom
  simp only [List.all_eq_true, Bool.or_eq_true, beq_iff_eq, Bool.not_eq_true', or_iff_not_imp_left,
    Ne]

end VOPy.Accuracy
