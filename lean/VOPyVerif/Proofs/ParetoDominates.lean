import VOPyVerif.Proofs.Pareto
import VOPyVerif.Proofs.ConeOrderRat
/-! `VOPy.dominates W` (the relation the C13 driver runs `Pareto.fast` / `naive` with) is a preorder on every
list of vectors of one common length — for *every* matrix `W` (rows of any length: `dot` truncates to the
shorter argument, consistently for the three differences).  Reflexivity and transitivity themselves are
`dominates_refl`, `dominates_trans` of `Proofs/ConeOrderRat.lean`. -/
namespace VOPy

theorem dot_vsub_self (w a : Vec) : dot w (vsub a a) = 0 := by
  rw [vsub_self, dot_replicate_zero_right]

/-- on a list of vectors of one common length `dominates W` is a preorder -/
theorem dominates_preorderOn (W : Mat) (m : Nat) (xs : List Vec) (hlen : ∀ x ∈ xs, x.length = m) :
    Pareto.PreorderOn (dominates W) xs :=
  ⟨fun a _ => dominates_refl W a,
   fun a ha b hb c hc => dominates_trans W a b c ((hlen a ha).trans (hlen b hb).symm)
     ((hlen b hb).trans (hlen c hc).symm)⟩

end VOPy
