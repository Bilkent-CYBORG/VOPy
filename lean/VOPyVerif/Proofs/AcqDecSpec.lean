import VOPyVerif.Proofs.AcqDecoupled
import VOPyVerif.Proofs.ListBasic
/-! C07: the decidable relation `decSpecOk` evaluated on the output of the real
`optimize_decoupled_acqf_discrete`, its Prop-level reading `DecSpec`, soundness (accepted outputs
carry the top-`q` values of the whole table), acceptance of the model's own output, and uniqueness
of the accepted batch on tie-free tables. -/
namespace VOPy.Acq

/-- Prop-level reading of `decSpecOk` -/
structure DecSpec (table : List (List Rat)) (q : Nat) (sel : List Entry) : Prop where
  len : sel.length = q
  cell : ∀ e ∈ sel, tableAt table e.pos e.obj = some e.val
  distinct : (sel.map (fun e => (e.pos, e.obj))).Nodup
  desc : sel.Pairwise (fun a b => b.val ≤ a.val)
  dom : ∀ i j v, tableAt table i j = some v → (i, j) ∉ sel.map (fun e => (e.pos, e.obj)) →
    ∀ e ∈ sel, v ≤ e.val

/-! ### Bool ↔ Prop pieces -/

theorem decSpecOk_iff (table : List (List Rat)) (q : Nat) (sel : List Entry) :
    decSpecOk table q sel = true ↔ DecSpec table q sel := by
  have hdesc := zip_tail_all_iff (fun a b : Entry => b.val ≤ a.val)
    (fun a b c h1 h2 => le_trans h2 h1) sel
  -- with `k < sel.length` etc. at hand the `match`es on `keys[k]?`, `table[j]?`, `row[i]?` are read
  -- off by `simp`
  simp +contextual only [decSpecOk, Bool.and_eq_true, beq_iff_eq, List.all_eq_true,
    decide_eq_true_eq, List.mem_range, List.getElem?_eq_getElem, Bool.not_eq_eq_eq_not,
    Bool.not_true, List.contains_eq_mem, decide_eq_false_iff_not, Bool.or_eq_true, List.length_map,
    List.getElem_map] at hdesc ⊢
  rw [hdesc]
  constructor
  · rintro ⟨⟨⟨⟨h1, h2⟩, h3⟩, h4⟩, h5⟩
    refine ⟨h1, h2, (nodup_iff_not_mem_take _).mpr fun k hk => ?_, h4, fun i j v hv hnot => ?_⟩
    · rw [List.getElem_map]
      exact h3 k (by rwa [List.length_map] at hk)
    · obtain ⟨hj, hi, rfl⟩ := tableAt_eq_some_iff.mp hv
      exact (h5 j hj i hi).resolve_left hnot
  · intro h
    refine ⟨⟨⟨⟨h.len, h.cell⟩, fun k hk => ?_⟩, h.desc⟩, fun j hj i hi =>
      or_iff_not_imp_left.mpr (h.dom i j _ (tableAt_eq_some_iff.mpr ⟨hj, hi, rfl⟩))⟩
    have := (nodup_iff_not_mem_take _).mp h.distinct k (by rwa [List.length_map])
    rwa [List.getElem_map] at this

/-! ### soundness, the model, uniqueness -/

/-- the cells of the table split into the selected ones and cells at other (position, objective)
pairs -/
theorem sel_split {table : List (List Rat)} {sel : List Entry}
    (hcell : ∀ e ∈ sel, tableAt table e.pos e.obj = some e.val)
    (hdist : (sel.map (fun e => (e.pos, e.obj))).Nodup) :
    ∃ rest, (sel ++ rest).Perm (cellsFrom 0 table) ∧
      ∀ b ∈ rest, (b.pos, b.obj) ∉ sel.map (fun e => (e.pos, e.obj)) :=
  exists_perm_append_of_nodup_keys _ (fun e he => (mem_cells_iff table e).mpr (hcell e he)) hdist
    (cellsFrom_keys_nodup 0 table)

/-- **Soundness of the relation.**  Any output accepted by `DecSpec` lists, in order, the first
`q` entries of the descending sort of all cells of the table. -/
theorem DecSpec.values {table : List (List Rat)} {q : Nat} {sel : List Entry}
    (h : DecSpec table q sel) : sel.map (·.val) = (sortDesc table.flatten).take q := by
  obtain ⟨rest, hperm, hrest⟩ := sel_split h.cell h.distinct
  have hv := map_eq_take_sortDesc (fun e : Entry => e.val) hperm h.desc fun a ha b hb =>
    h.dom b.pos b.obj b.val
      ((mem_cells_iff table b).mp (hperm.subset (List.mem_append_right _ hb))) (hrest b hb) a ha
  rwa [cellsFrom_vals 0 table, h.len] at hv

/-- the model's output satisfies the relation checked on the implementation -/
theorem optimizeDecoupled_decSpec (table : List (List Rat)) (q : Nat) :
    DecSpec table (min q table.flatten.length) (optimizeDecoupled table q) := by
  have hcell : ∀ e ∈ optimizeDecoupled table q, tableAt table e.pos e.obj = some e.val :=
    fun e he => optimizeDecoupled_mem he
  have hdist := optimizeDecoupled_keys_nodup table q
  refine ⟨optimizeDecoupled_length table q, hcell, hdist, optimizeDecoupled_pairwise table q, ?_⟩
  intro i j v hv hnot e he
  obtain ⟨rest, hperm, -⟩ := sel_split hcell hdist
  -- an unselected cell is in `rest`, whose values the selected top-`q` values dominate
  have hrest : (⟨i, j, v⟩ : Entry) ∈ rest := by
    rcases List.mem_append.mp (hperm.mem_iff.mpr ((mem_cells_iff table ⟨i, j, v⟩).mpr hv)) with h | h
    · exact absurd (List.mem_map.mpr ⟨_, h, rfl⟩) hnot
    · exact h
  have hp2 := hperm.map (·.val)
  rw [List.map_append, cellsFrom_vals 0 table, optimizeDecoupled_values] at hp2
  exact le_of_perm_take_sortDesc hp2 e.val
    (optimizeDecoupled_values table q ▸ List.mem_map_of_mem he) v (List.mem_map_of_mem hrest)

/-- **Tie-free tables determine the decoupled batch.** -/
theorem DecSpec.eq_model {table : List (List Rat)} {q : Nat} {sel : List Entry}
    (hv : table.flatten.Nodup) (h : DecSpec table q sel) : sel = optimizeDecoupled table q := by
  have hl : ((cellsFrom 0 table).map (·.val)).Nodup := by rw [cellsFrom_vals 0 table]; exact hv
  refine eq_of_map_eq_of_inj (·.val) hl (fun e he => (mem_cells_iff table e).mpr (h.cell e he))
    (fun e he => (mem_cells_iff table e).mpr (optimizeDecoupled_mem he)) ?_
  rw [h.values, optimizeDecoupled_values]

end VOPy.Acq
