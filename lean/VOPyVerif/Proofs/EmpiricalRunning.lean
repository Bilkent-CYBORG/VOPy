import VOPyVerif.Proofs.Empirical
import Mathlib.Tactic.FieldSimp
import Mathlib.Tactic.Positivity
/-!
# Helper lemmas for C16: the batch statistics are *running* statistics

The model (like `EmpiricalMeanVarModel.update`) recomputes `np.mean` / `np.var` from all stored
samples.  These lemmas show that the result is the one an incremental (Welford) accumulator would
hold, so "running statistics of all samples" is literally true of the reported numbers:

* `mean_snoc` — `mean (c ++ [x]) = mean c + (x − mean c)/(n+1)`;
* `sumSqDev_snoc` — `(n+1)·popVar (c ++ [x]) = n·popVar c + (x − mean c)·(x − mean (c ++ [x]))`;
* `mean_ge_of_forall_ge`, `mean_le_of_forall_le` — the mean lies in the range of the samples;
* `popVar_const` — identical samples have variance `0`.
-/
namespace VOPy.Empirical

theorem length_mul_mean_snoc (c : List Rat) (x : Rat) :
    ((c.length : Rat) + 1) * mean (c ++ [x]) = c.length * mean c + x := by
  have := length_mul_mean (c ++ [x])
  rwa [List.length_append, List.length_singleton, Nat.cast_succ, List.sum_append, List.sum_singleton,
    ← length_mul_mean c] at this

theorem mean_snoc (c : List Rat) (x : Rat) :
    mean (c ++ [x]) = mean c + (x - mean c) / ((c.length : Rat) + 1) := by
  have hn1 : (c.length : Rat) + 1 ≠ 0 := by positivity
  apply mul_left_cancel₀ hn1
  rw [length_mul_mean_snoc, mul_add, mul_div_cancel₀ _ hn1]
  ring

theorem mean_ge_of_forall_ge (c : List Rat) (lo : Rat) (hc : c ≠ []) (h : ∀ x ∈ c, lo ≤ x) :
    lo ≤ mean c := by
  have hn : (0 : Rat) < c.length := by exact_mod_cast List.length_pos_iff.mpr hc
  rw [mean, le_div_iff₀ hn, mul_comm, ← nsmul_eq_mul]
  exact List.card_nsmul_le_sum c lo h

theorem mean_le_of_forall_le (c : List Rat) (hi : Rat) (hc : c ≠ []) (h : ∀ x ∈ c, x ≤ hi) :
    mean c ≤ hi := by
  have hn : (0 : Rat) < c.length := by exact_mod_cast List.length_pos_iff.mpr hc
  rw [mean, div_le_iff₀ hn, mul_comm, ← nsmul_eq_mul]
  exact List.sum_le_card_nsmul c hi h

/-- Welford's recurrence for the sum of squared deviations `n·popVar`. -/
theorem sumSqDev_snoc (c : List Rat) (x : Rat) :
    ((c.length : Rat) + 1) * popVar (c ++ [x]) =
      (c.length : Rat) * popVar c + (x - mean c) * (x - mean (c ++ [x])) := by
  have e := length_mul_mean_snoc c x
  -- both `n·popVar` are sums of squared deviations; expand them around their means
  have A := length_mul_popVar (c ++ [x])
  rw [sum_sq_dev, List.length_append, List.length_singleton, Nat.cast_succ, List.map_append,
    List.sum_append, List.sum_append, List.map_singleton, List.sum_singleton, List.sum_singleton,
    ← length_mul_mean c] at A
  rw [A, length_mul_popVar, sum_sq_dev, ← length_mul_mean c]
  -- what is left is a polynomial identity modulo `e : (n+1)·μ' = n·μ + x`
  generalize mean (c ++ [x]) = μ' at e ⊢
  rw [← sub_eq_zero]
  calc _ = (μ' - mean c) * (((c.length : Rat) + 1) * μ' - (c.length * mean c + x)) := by ring
    _ = 0 := by rw [e, sub_self, mul_zero]

theorem mean_replicate {n : Nat} (hn : n ≠ 0) (x : Rat) : mean (List.replicate n x) = x := by
  have hq : (n : Rat) ≠ 0 := by exact_mod_cast hn
  simp only [mean, List.sum_replicate, List.length_replicate, nsmul_eq_mul]
  field_simp

theorem popVar_const (n : Nat) (x : Rat) : popVar (List.replicate n x) = 0 := by
  by_cases hn : n = 0
  · subst hn; simp [popVar, mean]
  · unfold popVar
    rw [mean_replicate hn]
    simp [mean, List.map_replicate]

end VOPy.Empirical
