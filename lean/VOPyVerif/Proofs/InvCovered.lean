import VOPyVerif.Proofs.CoveredComplete
import VOPyVerif.Proofs.InvBasic
import Mathlib.Data.List.Perm.Basic
/-!
# Invariances of the "is covered" decisions (`Model/Covered.lean`)

The rectangle and ball verdicts *decide* the semantic predicate `Cov` (`Proofs/Covered.lean`,
`Proofs/CoveredComplete.lean`), so their invariances follow from those of `Cov`, proved here by
moving the witness pair `(z, z')`: common translation, positive scaling, positive scaling of cone
rows together with their margins, permutation of the facets.
-/
namespace VOPy.Covered
open VOPy VOPy.LinCert VOPy.Inv

/-! ## real vectors -/

theorem rsub_radd_radd (a b T : RVec) (ha : a.length ≤ T.length) (hb : b.length ≤ T.length) :
    rsub (radd a T) (radd b T) = rsub a b :=
  List.ext_getElem
    (by rw [rsub_length, radd_length, radd_length, Nat.min_eq_left ha, Nat.min_eq_left hb,
      rsub_length])
    fun i _ _ => by simp only [rsub, radd, List.getElem_zipWith, add_sub_add_right_eq_sub]

theorem radd_length_le {a T : RVec} (h : a.length ≤ T.length) : (radd a T).length = a.length := by
  rw [radd_length, Nat.min_eq_left h]

theorem rsub_rsmul (k : ℝ) (a b : RVec) : rsub (rsmul k a) (rsmul k b) = rsmul k (rsub a b) :=
  ConeOrd.zipWith_sub_smul k a b

theorem rsmul_rsmul (k j : ℝ) (a : RVec) : rsmul k (rsmul j a) = rsmul (k * j) a := by
  simp only [rsmul, List.map_map, Function.comp_def, mul_assoc]

theorem rsmul_one (a : RVec) : rsmul 1 a = a := by simp [rsmul]

/-! ## facets -/

theorem facetGe_rsmul (k : ℚ) (hk : 0 < k) (W : Mat) (d : RVec) (t : Vec) :
    FacetGe W (rsmul (k : ℝ) d) (smul k t) ↔ FacetGe W d t := by
  have hk' : (0 : ℝ) < (k : ℝ) := by exact_mod_cast hk
  simp only [facetGe_iff_forall₂, smul, List.forall₂_map_right_iff, rdot_rsmul_right, Rat.cast_mul,
    mul_le_mul_iff_right₀ hk']

/-- rows and margins scaled by the same positive factors -/
theorem facetGe_scaleRows : ∀ (D : Vec) (W : Mat) (d : RVec) (t : Vec), (∀ e ∈ D, 0 < e) →
    D.length = W.length → t.length = W.length →
    (FacetGe (List.zipWith smul D W) d (List.zipWith (· * ·) D t) ↔ FacetGe W d t) := by
  intro D W d t hD hlen ht
  induction D, W, hlen using eqLen_induction generalizing t with
  | nil => cases t with
    | nil => exact Iff.rfl
    | cons _ _ => cases ht
  | cons e D w W _ ih => cases t with
    | nil => cases ht
    | cons x t =>
      have he : (0 : ℝ) < (e : ℝ) := by exact_mod_cast hD e List.mem_cons_self
      simp only [List.zipWith_cons_cons, FacetGe,
        ih t (fun e he => hD e (List.mem_cons_of_mem _ he)) (Nat.succ.inj ht), castV_smul,
        rdot_rsmul_left, Rat.cast_mul, mul_le_mul_iff_right₀ he]

/-- `FacetGe` as a statement about the list of (row, margin) pairs -/
theorem facetGe_pairs (ws : List (Vec × ℚ)) (d : RVec) :
    FacetGe (ws.map Prod.fst) d (ws.map Prod.snd) ↔ ∀ p ∈ ws, ((p.2 : ℚ) : ℝ) ≤ rdot (castV p.1) d := by
  simp only [facetGe_iff_forall₂, List.forall₂_map_left_iff, List.forall₂_map_right_iff, List.forall₂_same]

theorem facetGe_perm {ws ws' : List (Vec × ℚ)} (h : ws.Perm ws') (d : RVec) :
    FacetGe (ws.map Prod.fst) d (ws.map Prod.snd) ↔ FacetGe (ws'.map Prod.fst) d (ws'.map Prod.snd) := by
  rw [facetGe_pairs, facetGe_pairs]
  exact ⟨fun H p hp => H p (h.mem_iff.mpr hp), fun H p hp => H p (h.mem_iff.mp hp)⟩

theorem facetGe_replicate (W : Mat) (d : RVec) (τ : ℚ) :
    FacetGe W d (List.replicate W.length τ) ↔ ∀ w ∈ W, (τ : ℝ) ≤ rdot (castV w) d := by
  induction W with
  | nil => simp [FacetGe]
  | cons w W ih =>
    simp only [List.length_cons, List.replicate_succ, FacetGe, ih, List.mem_cons, forall_eq_or_imp]

/-! ## `Cov` under a map of the witnesses -/

theorem cov_translate_imp {R₁ R₂ R₁' R₂' : Set RVec} (T : RVec) (W : Mat) (s t : Vec)
    (h₁ : ∀ z ∈ R₁, z.length ≤ T.length ∧ radd z T ∈ R₁')
    (h₂ : ∀ z ∈ R₂, z.length ≤ T.length ∧ radd z T ∈ R₂') :
    Cov R₁ R₂ W s t → Cov R₁' R₂' W s t := by
  rintro ⟨z, hz, z', hz', hf⟩
  refine ⟨radd z T, (h₁ z hz).2, radd z' T, (h₂ z' hz').2, ?_⟩
  rwa [rsub_radd_radd z' z T (h₂ z' hz').1 (h₁ z hz).1]

theorem cov_scale_imp {R₁ R₂ R₁' R₂' : Set RVec} (k : ℚ) (hk : 0 < k) (W : Mat) (s t : Vec)
    (h₁ : ∀ z ∈ R₁, rsmul (k : ℝ) z ∈ R₁') (h₂ : ∀ z ∈ R₂, rsmul (k : ℝ) z ∈ R₂') :
    Cov R₁ R₂ W s t → Cov R₁' R₂' W (smul k s) (smul k t) := by
  rintro ⟨z, hz, z', hz', hf⟩
  refine ⟨rsmul k z, h₁ z hz, rsmul k z', h₂ z' hz', ?_⟩
  rw [castV_smul, rsub_rsmul, rsub_rsmul]
  exact (facetGe_rsmul k hk W _ t).mpr hf

theorem smul_inv_cancel (k : ℚ) (hk : 0 < k) (a : Vec) : smul (1 / k) (smul k a) = a := by
  rw [VOPy.smul_smul, one_div, inv_mul_cancel₀ (ne_of_gt hk), VOPy.smul_one]

/-! ## boxes -/

theorem inBox_translate (l u τ : Vec) (z : RVec) (h : InBox l u z) :
    l.length = τ.length → InBox (vadd l τ) (vadd u τ) (radd z (castV τ)) := by
  induction l, u, z, h using InBox.induction generalizing τ with
  | nil => exact fun _ => trivial
  | cons a b c l u z h1 h2 _ ih => cases τ with
    | nil => exact nofun
    | cons x τ =>
      refine fun hl => ⟨?_, ?_, ih τ (Nat.succ.inj hl)⟩
      · rw [Rat.cast_add]; exact add_le_add_left h1 _
      · rw [Rat.cast_add]; exact add_le_add_left h2 _

theorem inBox_scale (k : ℚ) (hk : 0 < k) (l u : Vec) (z : RVec) (h : InBox l u z) :
    InBox (smul k l) (smul k u) (rsmul (k : ℝ) z) := by
  have hk' : (0 : ℝ) ≤ (k : ℝ) := by exact_mod_cast hk.le
  induction l, u, z, h using InBox.induction with
  | nil => trivial
  | cons a b c l u z h1 h2 _ ih =>
    refine ⟨?_, ?_, ih⟩
    · rw [Rat.cast_mul]; exact mul_le_mul_of_nonneg_left h1 hk'
    · rw [Rat.cast_mul]; exact mul_le_mul_of_nonneg_left h2 hk'

theorem cov_box_translate (W : Mat) (l1 u1 l2 u2 s t τ : Vec)
    (h1 : l1.length = τ.length) (h2 : u1.length = τ.length) (h3 : l2.length = τ.length)
    (h4 : u2.length = τ.length) :
    Cov (box (vadd l1 τ) (vadd u1 τ)) (box (vadd l2 τ) (vadd u2 τ)) W s t ↔
      Cov (box l1 u1) (box l2 u2) W s t := by
  have fwd : ∀ (l u τ : Vec), l.length = τ.length → ∀ z ∈ box l u,
      z.length ≤ (castV τ).length ∧ radd z (castV τ) ∈ box (vadd l τ) (vadd u τ) := by
    intro l u τ hl z hz
    refine ⟨?_, inBox_translate l u τ z hz hl⟩
    have := (InBox.length_eq hz).1
    simp [this, hl]
  constructor
  · intro h
    have := cov_translate_imp (castV (vneg τ)) W s t
      (fwd (vadd l1 τ) (vadd u1 τ) (vneg τ) (by simp [h1]))
      (fwd (vadd l2 τ) (vadd u2 τ) (vneg τ) (by simp [h3])) h
    rwa [vadd_vneg_cancel l1 τ h1, vadd_vneg_cancel u1 τ h2, vadd_vneg_cancel l2 τ h3,
      vadd_vneg_cancel u2 τ h4] at this
  · exact cov_translate_imp (castV τ) W s t (fwd l1 u1 τ h1) (fwd l2 u2 τ h3)

theorem cov_box_scale (W : Mat) (k : ℚ) (hk : 0 < k) (l1 u1 l2 u2 s t : Vec) :
    Cov (box (smul k l1) (smul k u1)) (box (smul k l2) (smul k u2)) W (smul k s) (smul k t) ↔
      Cov (box l1 u1) (box l2 u2) W s t := by
  constructor
  · intro h
    have hk' : 0 < 1 / k := by positivity
    have := cov_scale_imp (1 / k) hk' W (smul k s) (smul k t)
      (fun z hz => inBox_scale (1 / k) hk' (smul k l1) (smul k u1) z hz)
      (fun z hz => inBox_scale (1 / k) hk' (smul k l2) (smul k u2) z hz) h
    have e := smul_inv_cancel k hk
    rw [e l1, e u1, e l2, e u2, e s, e t] at this
    exact this
  · exact cov_scale_imp k hk W s t (fun z hz => inBox_scale k hk l1 u1 z hz)
      (fun z hz => inBox_scale k hk l2 u2 z hz)

/-! ## ellipsoids `{c + L u | ‖u‖ ≤ a}` -/

theorem radd_right_comm (a b c : RVec) : radd (radd a b) c = radd (radd a c) b :=
  List.ext_getElem
    (by simp only [radd, List.length_zipWith, Nat.min_assoc, Nat.min_comm b.length])
    fun i _ _ => by simp only [radd, List.getElem_zipWith]; exact add_right_comm _ _ _

theorem ell_translate (c τ : Vec) (L : Mat) (a : ℚ) (hc : c.length = τ.length) :
    ∀ z ∈ ell c L a, z.length ≤ (castV τ).length ∧ radd z (castV τ) ∈ ell (vadd c τ) L a := by
  rintro z ⟨ha, u, hu, hn, rfl⟩
  refine ⟨by simp [hc], ha, u, by simp [hu, hc], hn, ?_⟩
  rw [castV_vadd, radd_right_comm]

theorem rmatVec_rsmul (L : Mat) (k : ℝ) (u : RVec) : rmatVec L (rsmul k u) = rsmul k (rmatVec L u) := by
  simp only [rmatVec, rsmul, List.map_map]
  apply List.map_congr_left
  intro r _
  simp only [Function.comp_apply]
  exact rdot_rsmul_right k (castV r) u

theorem radd_rsmul (k : ℝ) (a b : RVec) : radd (rsmul k a) (rsmul k b) = rsmul k (radd a b) :=
  ConeOrd.zipWith_add_smul k a b

/-- scaling the centre and the radius `alpha` (the factor `L` fixed) -/
theorem ell_scale (k : ℚ) (hk : 0 < k) (c : Vec) (L : Mat) (a : ℚ) :
    ∀ z ∈ ell c L a, rsmul (k : ℝ) z ∈ ell (smul k c) L (k * a) := by
  rintro z ⟨ha, u, hu, hn, rfl⟩
  refine ⟨mul_nonneg hk.le ha, rsmul k u, by simp [hu], ?_, ?_⟩
  · rw [rnormSq_rsmul]; push_cast; rw [mul_pow]
    exact mul_le_mul_of_nonneg_left hn (by positivity)
  · rw [castV_smul, rmatVec_rsmul, radd_rsmul]

theorem cov_ell_translate (W : Mat) (c1 c2 s t τ : Vec) (L1 L2 : Mat) (a1 a2 : ℚ)
    (h1 : c1.length = τ.length) (h2 : c2.length = τ.length) :
    Cov (ell (vadd c1 τ) L1 a1) (ell (vadd c2 τ) L2 a2) W s t ↔ Cov (ell c1 L1 a1) (ell c2 L2 a2) W s t := by
  constructor
  · intro h
    have := cov_translate_imp (castV (vneg τ)) W s t
      (ell_translate (vadd c1 τ) (vneg τ) L1 a1 (by simp [h1]))
      (ell_translate (vadd c2 τ) (vneg τ) L2 a2 (by simp [h2])) h
    rwa [vadd_vneg_cancel c1 τ h1, vadd_vneg_cancel c2 τ h2] at this
  · exact cov_translate_imp (castV τ) W s t (ell_translate c1 τ L1 a1 h1) (ell_translate c2 τ L2 a2 h2)

theorem cov_ell_scale (W : Mat) (k : ℚ) (hk : 0 < k) (c1 c2 s t : Vec) (L1 L2 : Mat) (a1 a2 : ℚ) :
    Cov (ell (smul k c1) L1 (k * a1)) (ell (smul k c2) L2 (k * a2)) W (smul k s) (smul k t) ↔
      Cov (ell c1 L1 a1) (ell c2 L2 a2) W s t := by
  constructor
  · intro h
    have hk' : 0 < 1 / k := by positivity
    have := cov_scale_imp (1 / k) hk' W (smul k s) (smul k t)
      (ell_scale (1 / k) hk' (smul k c1) L1 (k * a1)) (ell_scale (1 / k) hk' (smul k c2) L2 (k * a2)) h
    have e : ∀ a : ℚ, 1 / k * (k * a) = a := fun a => by
      rw [← mul_assoc, one_div_mul_cancel hk.ne', one_mul]
    have e' := smul_inv_cancel k hk
    rw [e' c1, e' c2, e' s, e' t, e a1, e a2] at this
    exact this
  · exact cov_scale_imp k hk W s t (ell_scale k hk c1 L1 a1) (ell_scale k hk c2 L2 a2)

/-! ## balls: the ellipsoids whose factor is the identity -/

theorem cov_ball_scale (W : Mat) (k : ℚ) (hk : 0 < k) (c1 c2 s t : Vec) (a1 a2 : ℚ) :
    Cov (ball (smul k c1) (k * a1)) (ball (smul k c2) (k * a2)) W (smul k s) (smul k t) ↔
      Cov (ball c1 a1) (ball c2 a2) W s t := by
  rw [ball_eq_ell_identMat (smul k c1), ball_eq_ell_identMat (smul k c2), ball_eq_ell_identMat c1,
    ball_eq_ell_identMat c2, smul_length, smul_length]
  exact cov_ell_scale W k hk c1 c2 s t _ _ a1 a2

/-! ## verdicts -/

theorem zipWith_mul_zeros (D : Vec) (n : Nat) (h : D.length = n) :
    List.zipWith (· * ·) D (zeros n) = zeros n := by
  subst h
  induction D with
  | nil => rfl
  | cons d D ih => rw [List.length_cons, zeros_succ, List.zipWith_cons_cons, ih, mul_zero]

theorem expandSlack_smul (m : Nat) (c : ℚ) (s : Vec) :
    expandSlack m (smul c s) = (expandSlack m s).map (smul c) := Rect.expandSlack_smul m c s

theorem ncols_scaleRows (D : Vec) (W : Mat) (h : D.length = W.length) :
    ncols (List.zipWith smul D W) = ncols W := by
  cases D <;> cases W <;> simp_all [ncols]

theorem ncols_perm {W W' : Mat} {m : ℕ} (h : W.Perm W') (hW : ∀ w ∈ W, w.length = m) :
    ncols W' = ncols W := by
  cases W with
  | nil => rw [List.nil_perm.mp h]
  | cons w W0 => cases W' with
    | nil => exact absurd h.symm (List.not_perm_nil_cons _ _)
    | cons w' W0' =>
      exact (hW w' (h.mem_iff.mpr List.mem_cons_self)).trans (hW w List.mem_cons_self).symm

theorem scaleRows_length {D : Vec} {W : Mat} {m : ℕ} (hW : ∀ w ∈ W, w.length = m) :
    ∀ w ∈ List.zipWith smul D W, w.length = m := by
  intro w hw
  obtain ⟨i, hi, rfl⟩ := List.mem_iff_getElem.1 hw
  rw [List.getElem_zipWith, smul_length]
  exact hW _ (List.getElem_mem _)

theorem cov_scaleRows (R₁ R₂ : Set RVec) (D : Vec) (W : Mat) (s t : Vec) (hD : ∀ e ∈ D, 0 < e)
    (hlen : D.length = W.length) (ht : t.length = W.length) :
    Cov R₁ R₂ (List.zipWith smul D W) s (List.zipWith (· * ·) D t) ↔ Cov R₁ R₂ W s t := by
  unfold Cov
  simp only [facetGe_scaleRows D W _ t hD hlen ht]

theorem cov_perm (R₁ R₂ : Set RVec) {ws ws' : List (Vec × ℚ)} (h : ws.Perm ws') (s : Vec) :
    Cov R₁ R₂ (ws.map Prod.fst) s (ws.map Prod.snd) ↔ Cov R₁ R₂ (ws'.map Prod.fst) s (ws'.map Prod.snd) := by
  unfold Cov
  simp only [facetGe_perm h]

/-! ## the rectangle verdict -/

theorem rectVerdict_translate {W : Mat} {l1 u1 l2 u2 s t τ : Vec} (h : RectWF W l1 u1 l2 u2 s t)
    (hτ : τ.length = l1.length) :
    rectVerdict W (vadd l1 τ) (vadd u1 τ) (vadd l2 τ) (vadd u2 τ) s t = rectVerdict W l1 u1 l2 u2 s t := by
  have e : l1.length = (vadd l1 τ).length := by rw [vadd_length, hτ, Nat.min_self]
  have e' : ∀ a : Vec, a.length = l1.length → (vadd a τ).length = (vadd l1 τ).length :=
    fun a ha => by rw [vadd_length, vadd_length, ha]
  exact rectVerdict_congr h
    ⟨e' u1 h.hu1, e' l2 h.hl2, e' u2 h.hu2, h.hs.trans e, h.ht, fun w hw => (h.hW w hw).trans e⟩
    (cov_box_translate W l1 u1 l2 u2 s t τ hτ.symm (h.hu1.trans hτ.symm) (h.hl2.trans hτ.symm)
      (h.hu2.trans hτ.symm))

theorem rectVerdict_scale {W : Mat} {l1 u1 l2 u2 s t : Vec} (k : ℚ) (hk : 0 < k)
    (h : RectWF W l1 u1 l2 u2 s t) :
    rectVerdict W (smul k l1) (smul k u1) (smul k l2) (smul k u2) (smul k s) (smul k t) =
      rectVerdict W l1 u1 l2 u2 s t := by
  have e : ∀ a : Vec, a.length = l1.length → (smul k a).length = (smul k l1).length :=
    fun a ha => by rw [smul_length, smul_length, ha]
  exact rectVerdict_congr h
    ⟨e u1 h.hu1, e l2 h.hl2, e u2 h.hu2, e s h.hs, h.ht.trans (smul_length k t).symm,
      fun w hw => (h.hW w hw).trans (smul_length k l1).symm⟩
    (cov_box_scale W k hk l1 u1 l2 u2 s t)

theorem rectVerdict_scaleRows {W : Mat} {l1 u1 l2 u2 s t : Vec} (D : Vec) (hD : ∀ e ∈ D, 0 < e)
    (hlen : D.length = W.length) (h : RectWF W l1 u1 l2 u2 s t) :
    rectVerdict (List.zipWith smul D W) l1 u1 l2 u2 s (List.zipWith (· * ·) D t) =
      rectVerdict W l1 u1 l2 u2 s t :=
  rectVerdict_congr h
    ⟨h.hu1, h.hl2, h.hu2, h.hs, by rw [List.length_zipWith, List.length_zipWith, hlen, ← h.ht],
      scaleRows_length h.hW⟩
    (cov_scaleRows _ _ D W s t hD hlen h.ht.symm)

theorem rectVerdict_perm {ws ws' : List (Vec × ℚ)} {l1 u1 l2 u2 s : Vec} (hp : ws.Perm ws')
    (h : RectWF (ws.map Prod.fst) l1 u1 l2 u2 s (ws.map Prod.snd)) :
    rectVerdict (ws.map Prod.fst) l1 u1 l2 u2 s (ws.map Prod.snd) =
      rectVerdict (ws'.map Prod.fst) l1 u1 l2 u2 s (ws'.map Prod.snd) :=
  rectVerdict_congr
    ⟨h.hu1, h.hl2, h.hu2, h.hs, by rw [List.length_map, List.length_map],
      List.forall_mem_map.2 fun p hp' => List.forall_mem_map.1 h.hW p (hp.mem_iff.mpr hp')⟩
    h (cov_perm _ _ hp s)

/-- a permutation of the cone rows, all with the same margin -/
theorem rectVerdict_perm_const {W W' : Mat} {l1 u1 l2 u2 s : Vec} (hp : W.Perm W') (tau : ℚ)
    (h : RectWF W l1 u1 l2 u2 s (List.replicate W.length tau)) :
    rectVerdict W l1 u1 l2 u2 s (List.replicate W.length tau) =
      rectVerdict W' l1 u1 l2 u2 s (List.replicate W'.length tau) := by
  have e : ∀ V : Mat, (V.map fun w => (w, tau)).map Prod.fst = V ∧
      (V.map fun w => (w, tau)).map Prod.snd = List.replicate V.length tau := fun V => by
    simp only [List.map_map, Function.comp_def, List.map_id', List.map_const', and_self]
  have := rectVerdict_perm (l1 := l1) (u1 := u1) (l2 := l2) (u2 := u2) (s := s)
    (hp.map fun w => (w, tau)) (by rwa [(e W).1, (e W).2])
  rwa [(e W).1, (e W).2, (e W').1, (e W').2] at this

/-! ## the ball verdict -/

theorem ballVerdict_guard_neg (W : Mat) (c1 c2 t : Vec) (a1 a2 : ℚ) (h : a1 < 0 ∨ a2 < 0) :
    ballVerdict W c1 a1 c2 a2 t = .inconclusive := by
  unfold ballVerdict
  rcases h with h | h <;> simp [h]

/-- two ball verdicts whose radii have the same signs are equal as soon as, for radii `≥ 0`, the
two instances are equivalent -/
theorem ballVerdict_congr {W W' : Mat} {c1 c2 t c1' c2' t' : Vec} {a1 a2 a1' a2' : ℚ}
    (hs1 : a1' < 0 ↔ a1 < 0) (hs2 : a2' < 0 ↔ a2 < 0)
    (hc : c2.length = c1.length) (hW : ∀ w ∈ W, w.length = c1.length) (ht : W.length = t.length)
    (hc' : c2'.length = c1'.length) (hW' : ∀ w ∈ W', w.length = c1'.length)
    (ht' : W'.length = t'.length)
    (h : Cov (ball c1' a1') (ball c2' a2') W' (zeros c1'.length) t' ↔
      Cov (ball c1 a1) (ball c2 a2) W (zeros c1.length) t) :
    ballVerdict W' c1' a1' c2' a2' t' = ballVerdict W c1 a1 c2 a2 t := by
  by_cases hneg : a1 < 0 ∨ a2 < 0
  · rw [ballVerdict_guard_neg _ _ _ _ _ _ hneg,
      ballVerdict_guard_neg _ _ _ _ _ _ (hneg.imp hs1.2 hs2.2)]
  · have ha1 : 0 ≤ a1 := not_lt.1 fun h => hneg (Or.inl h)
    have ha2 : 0 ≤ a2 := not_lt.1 fun h => hneg (Or.inr h)
    have ha1' : 0 ≤ a1' := not_lt.1 fun h => hneg (Or.inl (hs1.1 h))
    have ha2' : 0 ≤ a2' := not_lt.1 fun h => hneg (Or.inr (hs2.1 h))
    exact verdict_congr (ballVerdict_total ha1' ha2' hc' hW') (ballVerdict_total ha1 ha2 hc hW)
      (ballVerdict_iff ha1' ha2' hc' hW' ht').1 (ballVerdict_iff ha1 ha2 hc hW ht).1 h

/-- the ball verdict reads its centres only through their lengths and `c₂ − c₁` -/
theorem ballVerdict_translate {W : Mat} {c1 c2 t τ : Vec} {a1 a2 : ℚ}
    (hc : c2.length = c1.length) (hτ : τ.length = c1.length) :
    ballVerdict W (vadd c1 τ) a1 (vadd c2 τ) a2 t = ballVerdict W c1 a1 c2 a2 t := by
  unfold ballVerdict
  rw [vsub_vadd_vadd c2 c1 τ (hc.trans hτ.symm) hτ.symm, length_vadd c1 τ hτ.symm,
    length_vadd c2 τ (hc.trans hτ.symm)]

theorem ballVerdict_scale {W : Mat} {k : ℚ} (hk : 0 < k) {c1 c2 t : Vec} {a1 a2 : ℚ}
    (hc : c2.length = c1.length) (hW : ∀ w ∈ W, w.length = c1.length) (ht : W.length = t.length) :
    ballVerdict W (smul k c1) (k * a1) (smul k c2) (k * a2) (smul k t) = ballVerdict W c1 a1 c2 a2 t := by
  have sgn : ∀ a : ℚ, k * a < 0 ↔ a < 0 := fun a =>
    ⟨fun h => (pos_iff_neg_of_mul_neg h).1 hk, mul_neg_of_pos_of_neg hk⟩
  refine ballVerdict_congr (sgn a1) (sgn a2) hc hW ht
    (by rw [smul_length, smul_length, hc])
    (fun w hw => (hW w hw).trans (smul_length k c1).symm)
    (ht.trans (smul_length k t).symm) ?_
  have := cov_ball_scale W k hk c1 c2 (zeros c1.length) t a1 a2
  rw [smul_length]
  rwa [smul_zeros] at this

theorem ballVerdict_scaleRows {D : Vec} {W : Mat} {c1 c2 t : Vec} {a1 a2 : ℚ} (hD : ∀ e ∈ D, 0 < e)
    (hlen : D.length = W.length) (hc : c2.length = c1.length) (hW : ∀ w ∈ W, w.length = c1.length)
    (ht : W.length = t.length) :
    ballVerdict (List.zipWith smul D W) c1 a1 c2 a2 (List.zipWith (· * ·) D t) =
      ballVerdict W c1 a1 c2 a2 t :=
  ballVerdict_congr Iff.rfl Iff.rfl hc hW ht hc (scaleRows_length hW)
    (by rw [List.length_zipWith, List.length_zipWith, hlen, ← ht])
    (cov_scaleRows _ _ D W _ t hD hlen ht.symm)

theorem ballVerdict_perm {ws ws' : List (Vec × ℚ)} (h : ws.Perm ws') {c1 c2 : Vec} {a1 a2 : ℚ}
    (hc : c2.length = c1.length) (hW : ∀ p ∈ ws, p.1.length = c1.length) :
    ballVerdict (ws.map Prod.fst) c1 a1 c2 a2 (ws.map Prod.snd) =
      ballVerdict (ws'.map Prod.fst) c1 a1 c2 a2 (ws'.map Prod.snd) :=
  ballVerdict_congr Iff.rfl Iff.rfl hc
    (List.forall_mem_map.2 fun p hp => hW p (h.mem_iff.mpr hp))
    (by rw [List.length_map, List.length_map]) hc (List.forall_mem_map.2 hW)
    (by rw [List.length_map, List.length_map]) (cov_perm _ _ h _)

/-! ## general ellipsoids: the certificates of a case certify every translate of it -/

theorem vsub_vadd4 (c2 c1 τ M2 M1 : Vec) (h1 : c1.length = τ.length) (h2 : c2.length = τ.length) :
    vsub (vadd (vadd c2 τ) M2) (vadd (vadd c1 τ) M1) = vsub (vadd c2 M2) (vadd c1 M1) :=
  List.ext_getElem
    (by simp only [vsub, vadd, List.length_zipWith, h1, h2, Nat.min_self])
    fun i _ _ => by simp only [vsub, vadd, List.getElem_zipWith]; ring

theorem checkEllWitness_translate (W : Mat) (c1 : Vec) (L1 : Mat) (a1 : ℚ) (c2 : Vec) (L2 : Mat) (a2 : ℚ)
    (t u1 u2 τ : Vec) (h1 : c1.length = τ.length) (h2 : c2.length = τ.length) :
    checkEllWitness W (vadd c1 τ) L1 a1 (vadd c2 τ) L2 a2 t u1 u2 =
      checkEllWitness W c1 L1 a1 c2 L2 a2 t u1 u2 := by
  unfold checkEllWitness ellPoint wfEll
  have e1 : (vadd c1 τ).length = c1.length := by simp [h1]
  have e2 : (vadd c2 τ).length = c2.length := by simp [h2]
  simp only [e1, e2]
  rw [vsub_vadd4 c2 c1 τ _ _ h1 h2]

theorem checkEllSep_translate (W : Mat) (c1 : Vec) (L1 : Mat) (a1 : ℚ) (c2 : Vec) (L2 : Mat) (a2 : ℚ)
    (t lam τ : Vec) (h1 : c1.length = τ.length) (h2 : c2.length = τ.length) :
    checkEllSep W (vadd c1 τ) L1 a1 (vadd c2 τ) L2 a2 t lam = checkEllSep W c1 L1 a1 c2 L2 a2 t lam := by
  unfold checkEllSep wfEll
  have e1 : (vadd c1 τ).length = c1.length := by simp [h1]
  have e2 : (vadd c2 τ).length = c2.length := by simp [h2]
  simp only [e1, e2]
  rw [vsub_vadd_vadd c2 c1 τ h2 h1]

theorem ellVerdict_translate (W : Mat) (c1 : Vec) (L1 : Mat) (a1 : ℚ) (c2 : Vec) (L2 : Mat) (a2 : ℚ)
    (t u1 u2 lam τ : Vec) (h1 : c1.length = τ.length) (h2 : c2.length = τ.length) :
    ellVerdict W (vadd c1 τ) L1 a1 (vadd c2 τ) L2 a2 t u1 u2 lam =
      ellVerdict W c1 L1 a1 c2 L2 a2 t u1 u2 lam := by
  unfold ellVerdict
  rw [checkEllWitness_translate _ _ _ _ _ _ _ _ _ _ τ h1 h2,
    checkEllSep_translate _ _ _ _ _ _ _ _ _ τ h1 h2]

end VOPy.Covered
