import VOPyVerif.Proofs.AccuracyGeom
import VOPyVerif.Proofs.AccuracyAuer
import VOPyVerif.Proofs.ConeOrderRat
/-!
# C01, Auer: the `m/M` rules with summed widths are sound for the componentwise order

Arithmetic behind `ARoundSound`: for centres `c`, width rows `β` and true means `μ` (all of length
`m`) with `‖c_i − μ_i‖_∞ ≤ min_d β_i[d]` (`errWithin`) and positive widths,

* an elimination certificate `np.all(m(c_i, c_j) > β_i + β_j)` implies `μ_i < μ_j` in every coordinate,
* a stage-1 pass `¬ np.all(M(c_i, c_j) < β_i + β_j)` implies `∃ d, μ_j[d] − μ_i[d] ≤ ε`,
* a stage-2 pass `¬ np.all(M(c_j, c_i) <= β_i + β_j)` implies `∃ d, μ_i[d] − μ_j[d] ≤ ε`,

and the identity-matrix bookkeeping that turns the coordinate statements into
`dominates (identMat m)` / `gapLe (identMat m) (ones m) ε`, the functions the driver evaluates;
together they give the `ATruth` and `ARoundSound` premises of `auer_run_inv`.
-/
namespace VOPy.Accuracy
open VOPy VOPy.Steps

/-! ### the premise, by index -/

theorem errWithin_iff (c beta mu : Vec) :
    errWithin c beta mu = true ↔
      ∀ n, ∀ h1 : n < c.length, ∀ h2 : n < mu.length, ∀ k, ∀ h3 : k < beta.length,
        -beta[k] ≤ c[n] - mu[n] ∧ c[n] - mu[n] ≤ beta[k] := by
  unfold errWithin
  rw [all_zipWith_eq_true]
  simp only [List.all_eq_true, Bool.and_eq_true, decide_eq_true_eq,
    List.forall_mem_iff_forall_getElem]

theorem widthsPos_iff (beta : Vec) : widthsPos beta = true ↔ ∀ n, ∀ h : n < beta.length, 0 < beta[n] := by
  unfold widthsPos
  simp only [List.all_eq_true, decide_eq_true_eq, List.forall_mem_iff_forall_getElem]

theorem sltB_iff (a b : Vec) :
    sltB a b = true ↔ ∀ n, ∀ h1 : n < a.length, ∀ h2 : n < b.length, a[n] < b[n] := by
  unfold sltB
  rw [all_zipWith_iff]
  simp only [decide_eq_true_eq]

/-! ### soundness of the three rules

`c`, `β`, `μ` of the two designs all have length `m`; `errWithin` bounds `|c[n] − μ[n]|` by every
entry of the design's width row, in particular by the one that is summed in the rule. -/

section rules
variable {m : Nat} {ci cj bi bj mi mj : Vec} (hci : ci.length = m) (hcj : cj.length = m)
  (hbi : bi.length = m) (hbj : bj.length = m) (hmi : mi.length = m) (hmj : mj.length = m)
  (hei : errWithin ci bi mi = true) (hej : errWithin cj bj mj = true)
  (hpi : widthsPos bi = true) (hpj : widthsPos bj = true)
include hci hcj hbi hbj hmi hmj hei hej hpi hpj

/-- elimination certificate ⇒ strictly smaller in every coordinate -/
theorem cert_sound_coord (h : allGt (smallM ci cj) (vadd bi bj) = true) : sltB mi mj = true := by
  rw [sltB_iff]
  intro n h1 h2
  have hn : n < m := hmi ▸ h1
  have nci : n < ci.length := hci.symm ▸ hn
  have ncj : n < cj.length := hcj.symm ▸ hmj ▸ h2
  have nbi : n < bi.length := hbi.symm ▸ hn
  have nbj : n < bj.length := hbj.symm ▸ hn
  -- the `n`-th summed width is below `m(c_i, c_j)`, hence below the `n`-th coordinate of `c_j − c_i`
  have hb : bi[n] + bj[n] < smallM ci cj :=
    (Steps.allGt_iff _ _).mp h _ (getElem_mem_zipWith (· + ·) nbi nbj)
  have hx : cj[n] - ci[n] ∈ vsub cj ci := getElem_mem_zipWith (· - ·) ncj nci
  have hw : 0 ≤ bi[n] + bj[n] :=
    (add_pos ((widthsPos_iff bi).mp hpi n nbi) ((widthsPos_iff bj).mp hpj n nbj)).le
  have hd := (lt_smallM_iff (List.ne_nil_of_mem hx) hw).mp hb _ hx
  have e1 := ((errWithin_iff ci bi mi).mp hei n nci h1 n nbi).1
  have e2 := ((errWithin_iff cj bj mj).mp hej n ncj h2 n nbj).2
  linarith only [hd, e1, e2]

/-- the common core of stage 1 and stage 2: if `a` is exceeded by `b` by more than `ε` in every
coordinate (true means), then `M(c_a, c_b) < β_a[k] + β_b[k]` for every `k` -/
theorem bigM_lt_of_exceeds {eps : Rat}
    (hex : ∀ n, ∀ h1 : n < mi.length, ∀ h2 : n < mj.length, eps < mj[n] - mi[n])
    (k : Nat) (hk : k < m) :
    bigM eps ci cj < bi[k]'(hbi.symm ▸ hk) + bj[k]'(hbj.symm ▸ hk) := by
  have kbi : k < bi.length := hbi.symm ▸ hk
  have kbj : k < bj.length := hbj.symm ▸ hk
  have hpos : 0 < bi[k] + bj[k] :=
    add_pos ((widthsPos_iff bi).mp hpi k kbi) ((widthsPos_iff bj).mp hpj k kbj)
  refine (bigM_lt_iff _).mpr ⟨hpos, fun x hx => ?_⟩
  obtain ⟨n, hn, rfl⟩ := List.getElem_of_mem hx
  rw [getElem_vsub, List.getElem_map]
  have nci : n < ci.length := by
    have := (Nat.lt_min.mp (List.length_zipWith ▸ hn)).1
    rwa [List.length_map] at this
  have hn' : n < m := hci ▸ nci
  have e1 := ((errWithin_iff ci bi mi).mp hei n nci (hmi.symm ▸ hn') k kbi).2
  have e2 := ((errWithin_iff cj bj mj).mp hej n (hcj.symm ▸ hn') (hmj.symm ▸ hn') k kbj).1
  linarith only [e1, e2, hex n (hmi.symm ▸ hn') (hmj.symm ▸ hn')]

/-- `M(c_a, c_b) < β` on every summed width, in the membership form of `allLt_iff` / `allLe_iff` -/
theorem bigM_lt_vadd_of_exceeds {eps : Rat}
    (hex : ∀ n, ∀ h1 : n < mi.length, ∀ h2 : n < mj.length, eps < mj[n] - mi[n]) :
    ∀ b ∈ vadd bi bj, bigM eps ci cj < b := by
  intro b hb
  obtain ⟨k, hk, rfl⟩ := List.getElem_of_mem hb
  rw [getElem_vadd]
  exact bigM_lt_of_exceeds hci hcj hbi hbj hmi hmj hei hej hpi hpj hex k
    (hbi ▸ (Nat.lt_min.mp (List.length_zipWith ▸ hk)).1)

/-- stage 1 not breaking ⇒ some coordinate of `μ_j − μ_i` is `≤ ε` -/
theorem p1_sound_coord {eps : Rat}
    (h : allLt (bigM eps ci cj) (vadd bi bj) = false) :
    ∃ n, ∃ h1 : n < mi.length, ∃ h2 : n < mj.length, mj[n] - mi[n] ≤ eps := by
  apply Classical.byContradiction
  intro hno
  exact Bool.eq_false_iff.mp h ((Steps.allLt_iff _ _).mpr
    (bigM_lt_vadd_of_exceeds hci hcj hbi hbj hmi hmj hei hej hpi hpj
      fun n h1 h2 => lt_of_not_ge fun hle => hno ⟨n, h1, h2, hle⟩))

/-- stage 2 not breaking (`M(c_j, c_i) > β`) ⇒ some coordinate of `μ_i − μ_j` is `≤ ε` -/
theorem p2_sound_coord {eps : Rat}
    (h : allLe (bigM eps cj ci) (vadd bi bj) = false) :
    ∃ n, ∃ h1 : n < mj.length, ∃ h2 : n < mi.length, mi[n] - mj[n] ≤ eps := by
  apply Classical.byContradiction
  intro hno
  refine Bool.eq_false_iff.mp h ((Steps.allLe_iff _ _).mpr fun b hb => le_of_lt ?_)
  -- the summed widths are symmetric in the two designs
  have hcomm : vadd bi bj = vadd bj bi := by
    unfold vadd
    rw [List.zipWith_comm]
    exact congrArg (fun f => List.zipWith f bj bi) (funext fun x => funext fun y => add_comm y x)
  exact bigM_lt_vadd_of_exceeds hcj hci hbj hbi hmj hmi hej hei hpj hpi
    (fun n h1 h2 => lt_of_not_ge fun hle => hno ⟨n, h1, h2, hle⟩) b (hcomm ▸ hb)

end rules

/-! ### the identity matrix -/

theorem identMat_length (m : Nat) : (identMat m).length = m := by simp [identMat]

theorem dot_identMat_row (m d : Nat) (hd : d < m) (x : Vec) (hx : x.length = m) :
    dot ((identMat m)[d]'(by rw [identMat_length]; exact hd)) x = x[d]'(by omega) := by
  have h : (matVec (identMat m) x)[d]'(by rw [matVec, List.length_map, identMat_length]; exact hd) =
      x[d]'(hx.symm ▸ hd) := by
    simp only [ConeOrd.matVec_identMat m x hx]
  exact (List.getElem_map (fun w => dot w x)).symm.trans h

theorem vle_iff (a b : Vec) :
    vle a b = true ↔ ∀ n, ∀ h1 : n < a.length, ∀ h2 : n < b.length, a[n] ≤ b[n] := by
  unfold vle
  rw [all_zipWith_iff]
  simp only [decide_eq_true_eq]

/-- `b` dominates `a` in the componentwise order iff `a ≤ b` in every coordinate -/
theorem dominates_identMat_iff (m : Nat) (a b : Vec) (ha : a.length = m) (hb : b.length = m) :
    dominates (identMat m) b a = true ↔ ∀ n, ∀ h1 : n < a.length, ∀ h2 : n < b.length, a[n] ≤ b[n] := by
  rw [dominates_identMat m b a hb ha, vle_iff]

theorem sltB_dominates (m : Nat) (a b : Vec) (ha : a.length = m) (hb : b.length = m)
    (h : sltB a b = true) : dominates (identMat m) b a = true := by
  rw [dominates_identMat_iff m a b ha hb]
  intro n h1 h2
  exact le_of_lt ((sltB_iff a b).mp h n h1 h2)

theorem ones_length (m : Nat) : (ones m).length = m := by simp [ones]

/-- a coordinate with `b[n] − a[n] ≤ ε` witnesses `m(a,b) ≤ ε` for the componentwise order -/
theorem gapLe_identMat_of_coord (m : Nat) (eps : Rat) (heps : 0 ≤ eps) (a b : Vec)
    (ha : a.length = m) (hb : b.length = m)
    (h : ∃ n, ∃ h1 : n < a.length, ∃ h2 : n < b.length, b[n] - a[n] ≤ eps) :
    gapLe (identMat m) (ones m) eps a b = true := by
  rw [gapLe_iff]
  obtain ⟨n, h1, h2, hle⟩ := h
  have hn : n < m := ha ▸ h1
  refine ⟨n, by rw [identMat_length]; exact hn, by rw [ones_length]; exact hn, ?_⟩
  unfold facetGap
  have hlen : (vsub b a).length = m := by rw [length_vsub _ _ (hb.trans ha.symm), hb]
  have h1' : (ones m)[n]'(by rw [ones_length]; exact hn) = 1 := List.getElem_replicate _
  rw [dot_identMat_row m n hn _ hlen, getElem_vsub, h1', div_one]
  exact max_le heps hle

/-! ### the truth relations and a sound round, for the componentwise order and true means `μ` -/

/-- the `ATruth` structure of the Auer proof instantiated at `slt i j := μ_i < μ_j` in every
coordinate, `dom j i := μ_j ≥ μ_i` in every coordinate, `good i j := m(μ_i, μ_j) ≤ ε` -/
theorem atruth_of_means (m K : Nat) (hm : 0 < m) (eps : Rat) (heps : 0 ≤ eps) (mu : Nat → Vec)
    (hmu : ∀ i, i < K → (mu i).length = m) :
    ATruth K (fun i j => sltB (mu i) (mu j) = true)
      (fun j i => dominates (identMat m) (mu j) (mu i) = true)
      (fun i j => gapLe (identMat m) (ones m) eps (mu i) (mu j) = true) where
  slt_trans := by
    intro i j k hi hj hk h1 h2
    rw [sltB_iff] at h1 h2 ⊢
    intro n hn1 hn2
    have hn : n < (mu j).length := hmu j hj ▸ hmu i hi ▸ hn1
    exact lt_trans (h1 n hn1 hn) (h2 n hn hn2)
  slt_irrefl := fun i hi h =>
    lt_irrefl _ ((sltB_iff _ _).mp h 0 ((hmu i hi).symm ▸ hm) ((hmu i hi).symm ▸ hm))
  slt_dom := fun i j hi hj h => sltB_dominates m _ _ (hmu i hi) (hmu j hj) h
  dom_trans := fun i j k hi hj hk h1 h2 =>
    dominates_trans _ _ _ _ ((hmu i hi).trans (hmu j hj).symm) ((hmu j hj).trans (hmu k hk).symm) h1 h2
  good_refl := fun i _ =>
    gapLe_self _ _ _ _ heps ⟨0, (identMat_length m).symm ▸ hm, (ones_length m).symm ▸ hm⟩
  good_mono := fun i k j hi hk hj h1 h2 =>
    gapLe_mono _ _ _ _ _ _ (fun n h => (List.getElem_replicate h).symm ▸ one_pos)
      ((hmu i hi).trans (hmu k hk).symm) ((hmu k hk).trans (hmu j hj).symm) h1 h2

/-- **Valid centres and widths give a sound round (Auer).**  If every candidate in `S` has a centre
and a positive width row of length `m` with `errWithin` at its true mean, the three relations the
round evaluates are `ARoundSound` on `S`. -/
theorem auer_roundSound_of_valid (m : Nat) (eps : Rat) (heps : 0 ≤ eps) (mu c b : Nat → Vec)
    (S : List Nat)
    (hvalid : ∀ i, i ∈ S → (mu i).length = m ∧ (c i).length = m ∧ (b i).length = m ∧
      errWithin (c i) (b i) (mu i) = true ∧ widthsPos (b i) = true) :
    ARoundSound (fun i j => sltB (mu i) (mu j) = true)
      (fun i j => gapLe (identMat m) (ones m) eps (mu i) (mu j) = true)
      (dcert c b) (p1brk eps c b) (p2brk eps c b) S := by
  refine ⟨?_, ?_, ?_⟩
  · intro i hi j hj _ hc
    obtain ⟨a0, a1, a2, a3, a4⟩ := hvalid i hi
    obtain ⟨b0, b1, b2, b3, b4⟩ := hvalid j hj
    exact cert_sound_coord a1 b1 a2 b2 a0 b0 a3 b3 a4 b4 hc
  · intro i hi j hj _ hc
    obtain ⟨a0, a1, a2, a3, a4⟩ := hvalid i hi
    obtain ⟨b0, b1, b2, b3, b4⟩ := hvalid j hj
    exact gapLe_identMat_of_coord m eps heps _ _ a0 b0
      (p1_sound_coord a1 b1 a2 b2 a0 b0 a3 b3 a4 b4 hc)
  · intro i hi j hj _ hc
    obtain ⟨a0, a1, a2, a3, a4⟩ := hvalid i hi
    obtain ⟨b0, b1, b2, b3, b4⟩ := hvalid j hj
    exact gapLe_identMat_of_coord m eps heps _ _ b0 a0
      (p2_sound_coord a1 b1 a2 b2 a0 b0 a3 b3 a4 b4 hc)

/-! ### the premise checks -/

/-- `inBox l u x` says `l ≤ x ≤ u` coordinate by coordinate, all of one length -/
theorem inBox_iff (l u x : Vec) :
    inBox l u x = true ↔
      l.length = x.length ∧ u.length = x.length ∧
        ∀ n, ∀ h : n < x.length, ∀ hl : n < l.length, ∀ hu : n < u.length, l[n] ≤ x[n] ∧ x[n] ≤ u[n] := by
  unfold inBox
  simp only [Bool.and_eq_true, decide_eq_true_eq, vle_iff]
  constructor
  · rintro ⟨⟨⟨h1, h2⟩, h3⟩, h4⟩
    exact ⟨h1, h2, fun n h hl hu => ⟨h3 n hl h, h4 n h hu⟩⟩
  · rintro ⟨h1, h2, h⟩
    exact ⟨⟨⟨h1, h2⟩, fun n hl hx => (h n hx hl (by omega)).1⟩, fun n hx hu => (h n hx (by omega) hu).2⟩

/-- For a width row with equal entries `b` (Auer without empirical β) the premise `errWithin` of
`auer_final_accurate` is exactly "μ inside the displayed box `[c − b, c + b]`". -/
theorem errWithin_uniform_iff_inBox (m : Nat) (hm : 0 < m) (c mu : Vec) (b : Rat)
    (hc : c.length = m) (hmu : mu.length = m) :
    errWithin c (List.replicate m b) mu = true ↔
      inBox (c.map (· - b)) (c.map (· + b)) mu = true := by
  rw [errWithin_iff, inBox_iff]
  simp only [List.length_map, List.length_replicate, List.getElem_map, List.getElem_replicate,
    hc, hmu, true_and]
  -- coordinate by coordinate `|c − μ| ≤ b` is `c − b ≤ μ ≤ c + b`; the width index is immaterial
  constructor
  · intro h n hn _ _
    have := h n hn hn 0 hm
    exact ⟨sub_le_comm.mp this.2, neg_le_sub_iff_le_add.mp this.1⟩
  · intro h n h1 h2 k _
    have := h n h2 h1 h1
    exact ⟨neg_le_sub_iff_le_add.mpr this.2, sub_le_comm.mp this.1⟩

/-- **The ellipsoid containment check is sound.**  When `inEll c Σ a x` answers `true` there is a
`y` with `Σ y = x − c` (so `y = Σ⁻¹(x − c)` whenever `Σ` is invertible), `(x − c)·y ≤ a²` and `a ≥ 0`:
the quadratic form `(x − c)ᵀ Σ⁻¹ (x − c)` is at most `a²`.  The Gaussian elimination is untrusted;
its result is checked before it is used. -/
theorem inEll_sound (c : Vec) (Sg : Mat) (a : Rat) (x : Vec) (h : inEll c Sg a x = some true) :
    ∃ y : Vec, matVec Sg y = vsub x c ∧ dot (vsub x c) y ≤ a * a ∧ 0 ≤ a := by
  unfold inEll at h
  simp only at h
  split at h
  · exact absurd h (by simp)
  · split at h
    · exact absurd h (by simp)
    · rename_i y _
      split at h
      · rename_i hy
        simp only [Option.some.injEq, Bool.and_eq_true, decide_eq_true_eq] at h
        exact ⟨y, hy.2, h.2, h.1⟩
      · exact absurd h (by simp)

/-! ### boxes of positive size are non-degenerate -/

theorem dot_set (w : Vec) : ∀ (l : Vec) (d : Nat) (x : Rat) (hd : d < l.length) (hw : d < w.length),
    dot w (l.set d x) = dot w l + w[d] * (x - l[d]) := by
  induction w with
  | nil => intro l d x _ hw; exact absurd hw (Nat.not_lt_zero d)
  | cons y ws ih =>
    intro l d x hd hw
    match l, d, hd, hw with
    | a :: t, 0, _, _ =>
      simp only [List.set_cons_zero, dot, List.getElem_cons_zero]
      rw [mul_sub, add_right_comm, add_sub_cancel]
    | a :: t, d + 1, hd, hw =>
      simp only [List.set_cons_succ, dot, List.getElem_cons_succ]
      rw [ih t d x (Nat.lt_of_succ_lt_succ hd) (Nat.lt_of_succ_lt_succ hw), add_assoc]

/-- A box `[l, u]` (`l ≤ u`) with positive width in a coordinate `d` on which some facet `w` of the
cone has a non-zero entry contains two points on which that facet functional differs: the
non-degeneracy hypothesis of `paveba_oracles_sound_of_valid_regions` holds for such boxes. -/
theorem box_nondegenerate (W : Mat) (l u : Vec) (hlen : l.length = u.length) (hle : vle l u = true)
    (w : Vec) (hwW : w ∈ W) (d : Nat) (hd : d < l.length) (hwd : d < w.length)
    (hw : w[d] ≠ 0) (hlt : l[d] < u[d]'(by omega)) :
    ∃ z, inBox l u z = true ∧ ∃ z', inBox l u z' = true ∧ ∃ w ∈ W, dot w z ≠ dot w z' := by
  have hle' := (vle_iff l u).mp hle
  -- `l` itself, and `l` with coordinate `d` moved to the upper end
  refine ⟨l, ?_, l.set d (u[d]'(hlen ▸ hd)), ?_, w, hwW, ?_⟩
  · exact (inBox_iff l u l).mpr ⟨rfl, hlen.symm, fun n _ hl hu => ⟨le_refl _, hle' n hl hu⟩⟩
  · refine (inBox_iff _ _ _).mpr ⟨List.length_set.symm, by rw [List.length_set, hlen], ?_⟩
    intro n h hl hu
    rw [List.getElem_set]
    split
    · next hdn => subst hdn; exact ⟨le_of_lt hlt, le_refl _⟩
    · exact ⟨le_refl _, hle' n hl hu⟩
  · rw [dot_set w l d _ hd hwd]
    exact fun h => mul_ne_zero hw (sub_ne_zero.mpr (ne_of_gt hlt)) (left_eq_add.mp h)

end VOPy.Accuracy
