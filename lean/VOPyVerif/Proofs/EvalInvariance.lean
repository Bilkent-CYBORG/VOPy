import VOPyVerif.Proofs.Eval
/-!
# C19: invariance / homogeneity of the gap formula

Over an arbitrary linearly ordered field `K` (the same terms the driver runs at `ℚ`):

* translation: `gsub (a + t) (b + t) = gsub a b`, hence `smallM`, `smallMB`, `delta`, `deltaB` do not
  change when all value vectors are translated by a common vector;
* positive scaling: `smallM (c·vi) (c·vj) = c · smallM vi vj`, `delta (c·μ) = c · delta μ` (`c > 0`);
* presentation of the cone: scaling row `n` of `W` and `α_n` by the same positive factor changes
  nothing (`smallM_rowScale`), and `IsAlpha` is preserved by that scaling (`isAlpha_rowScale`).
-/
set_option linter.unusedSectionVars false
namespace VOPy.Eval

variable {K : Type} [Field K] [LinearOrder K] [IsStrictOrderedRing K]

/-! ### translation -/

theorem gsub_translate : ∀ (a b t : List K), a.length = t.length → b.length = t.length →
    gsub (gadd a t) (gadd b t) = gsub a b
  | [], _, _, _, _ => rfl
  | _ :: _, [], _, _, _ => by simp only [gsub, gadd, List.zipWith_nil_left, List.zipWith_nil_right]
  | _ :: _, _ :: _, [], h, _ => nomatch h
  | x :: a, y :: b, z :: t, ha, hb => by
    have ih := gsub_translate a b t (Nat.succ.inj ha) (Nat.succ.inj hb)
    simp only [gsub, gadd, List.zipWith_cons_cons, add_sub_add_right_eq_sub] at ih ⊢
    rw [ih]

/-- both forms of the pairwise gap see the two value vectors only through their difference -/
theorem gap_congr {vi vj vi' vj' : List K} (h : gsub vj' vi' = gsub vj vi) (W : List (List K))
    (α : List K) :
    smallM vi' vj' W α = smallM vi vj W α ∧ smallMB vi' vj' W α = smallMB vi vj W α := by
  simp only [smallM, smallMB, prods, h, and_self]

theorem delta_translate (mu W : List (List K)) (α t : List K) (h : ∀ v ∈ mu, v.length = t.length) :
    delta (mu.map (fun v => gadd v t)) W α = delta mu W α ∧
    deltaB (mu.map (fun v => gadd v t)) W α = deltaB mu W α := by
  have hg : ∀ vi ∈ mu, ∀ vj ∈ mu, _ := fun vi hi vj hj =>
    gap_congr (gsub_translate vj vi t (h vj hj) (h vi hi)) W α
  have h1 := deltaWith_map monotone_id rfl (fun v => gadd v t) mu
    (sm := fun a b => smallM a b W α) (sm' := fun a b => smallM a b W α)
    (fun vi hi vj hj => by rw [Option.map_id_fun, id]; exact (hg vi hi vj hj).1)
  have h2 := deltaWith_map monotone_id rfl (fun v => gadd v t) mu
    (sm := fun a b => smallMB a b W α) (sm' := fun a b => smallMB a b W α)
    (fun vi hi vj hj => by rw [Option.map_id_fun, id]; exact (hg vi hi vj hj).2)
  rw [List.map_id_fun, Option.map_id_fun, id] at h1 h2
  exact ⟨h1, h2⟩

/-! ### positive scaling -/

theorem monotone_mul_of_pos {c : K} (hc : 0 < c) : Monotone (c * ·) :=
  monotone_mul_left_of_nonneg hc.le

theorem gsub_gscale (c : K) (a b : List K) :
    gsub (gscale c a) (gscale c b) = gscale c (gsub a b) := by
  simp only [gsub, gscale, List.zipWith_map, List.map_zipWith, mul_sub]

theorem relu_mul (c x : K) (hc : 0 < c) : relu (c * x) = c * relu x :=
  (relu_map (monotone_mul_of_pos hc) (mul_zero c) x).symm

theorem prods_gscale (c : K) (hc : 0 < c) (vi vj : List K) (W : List (List K)) :
    prods (gscale c vi) (gscale c vj) W = (prods vi vj W).map (c * ·) := by
  simp only [prods, gsub_gscale, gdot_gscale, List.map_map]
  apply List.map_congr_left
  intro w _
  exact relu_mul c _ hc

theorem gap_gscale (c : K) (hc : 0 < c) (vi vj : List K) (W : List (List K)) (α : List K) :
    smallM (gscale c vi) (gscale c vj) W α = (smallM vi vj W α).map (c * ·) ∧
    smallMB (gscale c vi) (gscale c vj) W α = (smallMB vi vj W α).map (c * ·) := by
  have hm := minL_map (monotone_mul_of_pos hc)
  unfold smallM smallMB
  rw [prods_gscale c hc]
  constructor
  · split_ifs
    · rw [← hm, List.map_zipWith, List.zipWith_map_left]
      simp only [mul_div_assoc]
    · rfl
  · split_ifs
    · rw [← hm, List.map_flatMap]
      simp only [List.map_map, Function.comp_def, mul_div_assoc]
    · rfl

theorem delta_gscale (c : K) (hc : 0 < c) (mu W : List (List K)) (α : List K) :
    delta (mu.map (gscale c)) W α = (delta mu W α).map (List.map (c * ·)) ∧
    deltaB (mu.map (gscale c)) W α = (deltaB mu W α).map (List.map (c * ·)) :=
  have hm := monotone_mul_of_pos hc
  ⟨deltaWith_map hm (mul_zero c) (gscale c) mu fun vi _ vj _ => (gap_gscale c hc vi vj W α).1,
   deltaWith_map hm (mul_zero c) (gscale c) mu fun vi _ vj _ => (gap_gscale c hc vi vj W α).2⟩

/-! ### presentation of the cone: rows of `W` and `α` scaled alike -/

/-- multiply row `n` of `W` by `cs[n]` -/
def rowScaleK (cs : List K) (W : List (List K)) : List (List K) :=
  List.zipWith (fun c w => gscale c w) cs W

theorem quot_rowScale (d : List K) (cs : List K) (W : List (List K)) (α : List K)
    (h1 : cs.length = W.length) (hp : ∀ c ∈ cs, 0 < c) :
    List.zipWith (· / ·) ((rowScaleK cs W).map (fun w => relu (gdot w d))) (List.zipWith (· * ·) cs α) =
      List.zipWith (· / ·) (W.map (fun w => relu (gdot w d))) α := by
  rw [List.zipWith_map_left, List.zipWith_map_left]
  refine zipWith_zipWith_of_blind _ _ α (fun c hc w a => ?_) h1.ge
  rw [gdot_gscale_left, relu_mul c _ (hp c hc), mul_div_mul_left _ _ (hp c hc).ne']

theorem smallM_rowScale (cs : List K) (vi vj : List K) (W : List (List K)) (α : List K)
    (h1 : cs.length = W.length) (h2 : α.length = W.length) (hp : ∀ c ∈ cs, 0 < c) :
    smallM vi vj (rowScaleK cs W) (List.zipWith (· * ·) cs α) = smallM vi vj W α := by
  have hl1 : (List.zipWith (· * ·) cs α).length = (rowScaleK cs W).length := by
    simp [rowScaleK, h1, h2]
  simp only [smallM, hl1, h2, if_true, prods]
  rw [quot_rowScale (gsub vj vi) cs W α h1 hp]

theorem inCone_rowScale (cs : List K) (W : List (List K)) (u : List K) (h : cs.length = W.length)
    (hp : ∀ c ∈ cs, 0 < c) : InCone (rowScaleK cs W) u ↔ InCone W u :=
  forall_mem_zipWith_of_blind _
    (fun c hc w => by rw [gdot_gscale_left, mul_nonneg_iff_of_pos_left (hp c hc)]) h.ge

theorem isAlpha_rowScale (cs : List K) (W : List (List K)) (D : Nat) (w : List K) (a c : K)
    (h1 : cs.length = W.length) (hp : ∀ c ∈ cs, 0 < c) (hc : 0 < c) (h : IsAlpha W D w a) :
    IsAlpha (rowScaleK cs W) D (gscale c w) (c * a) := by
  obtain ⟨ha, hle, u, hu1, hu2, hu3, hu4⟩ := h
  refine ⟨mul_pos hc ha, ?_, u, hu1, (inCone_rowScale cs W u h1 hp).2 hu2, hu3, ?_⟩
  · intro v hv1 hv2 hv3
    rw [gdot_gscale_left]
    exact mul_le_mul_of_nonneg_left (hle v hv1 ((inCone_rowScale cs W v h1 hp).1 hv2) hv3) hc.le
  · rw [gdot_gscale_left, hu4]

end VOPy.Eval
