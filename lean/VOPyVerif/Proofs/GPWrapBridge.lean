import VOPyVerif.Model.GPWrap
import VOPyVerif.Proofs.GPWrapAlg
import VOPyVerif.Proofs.ListFin
import Mathlib.Algebra.Order.Field.Rat
/-!
The executable `GPWrap.posterior` (lists of `Rat`, checked solve)
refines the `Matrix` formula `quad` of `Proofs/GPWrapAlg.lean`.
-/
namespace VOPy.GPWrap
open Matrix VOPy.GPWrap.Alg

/-- list → function on `Fin n` (entries beyond the list are 0; used with `v.length = n`) -/
def toVecN (n : Nat) (v : Vec) : Fin n → ℚ := fun i => v.getD i 0

/-- list of rows → matrix (used with `M.length = r`, all rows of length `c`) -/
def toMatN (r c : Nat) (M : Mat) : Matrix (Fin r) (Fin c) ℚ := fun i j => (M.getD i []).getD j 0

/-! ### lists as tables -/

theorem getD_mem {α : Type} (l : List α) (i : Nat) (hi : i < l.length) (d : α) : l.getD i d ∈ l :=
  List.getElem_eq_getD (h := hi) d ▸ List.getElem_mem hi

theorem dot_eq_dotProduct (n : Nat) (a b : Vec) (ha : a.length = n) (hb : b.length = n) :
    dot a b = toVecN n a ⬝ᵥ toVecN n b :=
  dot_eq_sum a b ha hb

theorem matVec_getD (r c : Nat) (A : Mat) (x : Vec) (hA : A.length = r)
    (hrow : ∀ row ∈ A, row.length = c) (hx : x.length = c) (i : Fin r) :
    (matVec A x).getD i 0 = (toMatN r c A *ᵥ toVecN c x) i := by
  have hi : i.1 < A.length := hA ▸ i.2
  rw [matVec, ← List.getElem_eq_getD (h := by rw [List.length_map]; exact hi) 0, List.getElem_map,
    dot_eq_dotProduct c _ _ (hrow _ (List.getElem_mem hi)) hx, List.getElem_eq_getD []]
  rfl

theorem smul_getD (δ : ℚ) (b : Vec) (i : Nat) : (smul δ b).getD i 0 = δ * b.getD i 0 :=
  getD_map_zero (δ * ·) (mul_zero δ) b i

theorem length_madd (A Bm : Mat) : (madd A Bm).length = min A.length Bm.length :=
  List.length_zipWith

/-- entrywise sum of two `r × c` tables -/
theorem toMatN_madd (r c : Nat) (A Bm : Mat) (hA : A.length = r) (hB : Bm.length = r)
    (hAr : ∀ row ∈ A, row.length = c) (hBr : ∀ row ∈ Bm, row.length = c) :
    toMatN r c (madd A Bm) = toMatN r c A + toMatN r c Bm := by
  funext i j
  have hi : i.1 < A.length := hA ▸ i.2
  have hi' : i.1 < Bm.length := hB ▸ i.2
  show ((madd A Bm).getD i []).getD j 0 = (A.getD i []).getD j 0 + (Bm.getD i []).getD j 0
  unfold madd
  rw [getD_zipWith _ _ _ _ hi hi' [] [] []]
  unfold vadd
  rw [getD_zipWith _ _ _ _ ((hAr _ (getD_mem A i hi [])).symm ▸ j.2)
    ((hBr _ (getD_mem Bm i hi' [])).symm ▸ j.2) 0 0 0]

/-! ### the checked solve -/

/-- what the checker establishes, in `Matrix` form -/
theorem isScaledSolution_spec (n : Nat) (A : Mat) (δ : ℚ) (z b : Vec)
    (h : isScaledSolution A δ z b = true) (hn : A.length = n) :
    δ ≠ 0 ∧ z.length = n ∧ b.length = n ∧ (∀ row ∈ A, row.length = n) ∧
      toMatN n n A *ᵥ toVecN n z = δ • toVecN n b := by
  simp only [isScaledSolution, Bool.and_eq_true, decide_eq_true_eq, beq_iff_eq,
    List.all_eq_true] at h
  obtain ⟨⟨⟨⟨hδ, hz⟩, hb⟩, hrow⟩, hmv⟩ := h
  have hz' : z.length = n := by rw [hz, hn]
  have hrow' : ∀ row ∈ A, row.length = n := fun row hr => by rw [hrow row hr, hz']
  refine ⟨hδ, hz', by rw [hb, hn], hrow', ?_⟩
  funext i
  rw [← matVec_getD n n A z hn hrow' hz' i, hmv, smul_getD]
  simp [toVecN]

/-- `dot k z / δ` is `kᵀ A⁻¹ b` once `z` passed the check against `b` -/
theorem dot_div_eq_quad (n : Nat) (A : Mat) (δ : ℚ) (z b k : Vec)
    (h : isScaledSolution A δ z b = true) (hn : A.length = n) (hk : k.length = n)
    (hdet : IsUnit (toMatN n n A).det) :
    dot k z / δ = quad (toMatN n n A) (toVecN n k) (toVecN n b) := by
  obtain ⟨hδ, hz, -, -, hmv⟩ := isScaledSolution_spec n A δ z b h hn
  -- the rescaled vector `z/δ` solves the system
  have hsol : toMatN n n A *ᵥ (δ⁻¹ • toVecN n z) = toVecN n b := by
    rw [Matrix.mulVec_smul, hmv, smul_smul, inv_mul_cancel₀ hδ, one_smul]
  rw [← quad_eq_of_mulVec_eq _ hdet _ _ _ hsol, dot_eq_dotProduct n k z hk hz, dotProduct_smul,
    smul_eq_mul, div_eq_inv_mul]

/-- the proposal returned by `solveMany` passed the check column by column -/
theorem solveMany_spec (A : Mat) (bs : List Vec) (δ : ℚ) (zs : List Vec) (piv : Option ℚ)
    (h : solveMany A bs = some (δ, zs, piv)) :
    zs.length = bs.length ∧
      ∀ j < bs.length, isScaledSolution A δ (zs.getD j []) (bs.getD j []) = true := by
  unfold solveMany at h
  split at h
  · exact absurd h (by simp)
  · split at h
    · rename_i hc
      simp only [Option.some.injEq, Prod.mk.injEq] at h
      obtain ⟨rfl, rfl, -⟩ := h
      simp only [Bool.and_eq_true, beq_iff_eq, List.all_eq_true] at hc
      refine ⟨hc.1, fun j hj => ?_⟩
      have hj' := Nat.lt_of_lt_of_eq hj hc.1.symm
      rw [← List.getElem_eq_getD (h := hj'), ← List.getElem_eq_getD (h := hj)]
      exact hc.2 (_, _) (List.mem_iff_getElem.mpr
        ⟨j, by rw [List.length_zip, hc.1, Nat.min_self]; exact hj, List.getElem_zip⟩)
    · exact absurd h (by simp)

/-! ### the posterior -/

/-- an answer of `posterior` unpacked: the shape conditions hold and the answer is assembled from
a checked solve -/
theorem posterior_eq_some (K noise kT kss : Mat) (y m0 m0s : Vec) (q : Post)
    (h : posterior K noise kT kss y m0 m0s = some q) :
    ((K.length = y.length ∧ ∀ r ∈ K, r.length = y.length) ∧
      (noise.length = y.length ∧ ∀ r ∈ noise, r.length = y.length) ∧
      (kT.length = m0s.length ∧ ∀ r ∈ kT, r.length = y.length) ∧
      (kss.length = m0s.length ∧ ∀ r ∈ kss, r.length = m0s.length)) ∧
    ∃ δ zα zV piv, solveMany (madd K noise) (vsub y m0 :: kT) = some (δ, zα :: zV, piv) ∧
      q = { mean := List.zipWith (fun c k => c + dot k zα / δ) m0s kT
            cov := List.zipWith (fun row k => List.zipWith (fun e zv => e - dot k zv / δ) row zV)
              kss kT
            minPivot := piv } := by
  unfold posterior at h
  split at h
  · exact absurd h (by simp)
  rename_i hd0
  have hd : dimsOk K noise kT kss y m0 m0s = true := by simpa using hd0
  simp only [dimsOk, Bool.and_eq_true, beq_iff_eq, List.all_eq_true] at hd
  obtain ⟨⟨⟨⟨⟨⟨⟨⟨hK, hKr⟩, hN⟩, hNr⟩, -⟩, hkT⟩, hkTr⟩, hkss⟩, hkssr⟩ := hd
  split at h
  · rename_i δ zα zV piv hsolve
    exact ⟨⟨⟨hK, hKr⟩, ⟨hN, hNr⟩, ⟨hkT, hkTr⟩, hkss, hkssr⟩, δ, zα, zV, piv, hsolve,
      (Option.some.inj h).symm⟩
  · exact absurd h (by simp)

/-- **Refinement.**  Whenever the executable `posterior` answers, and the system matrix is
non-singular, the answer is the table of the closed form `mean₀* + k*ᵀ(K+N)⁻¹(y − mean₀)`,
`k** − k*ᵀ(K+N)⁻¹k*` over Mathlib matrices (`n` training outputs, `t` targets). -/
theorem posterior_spec (n t : Nat) (K noise kT kss : Mat) (y m0 m0s : Vec) (q : Post)
    (h : posterior K noise kT kss y m0 m0s = some q) (hn : y.length = n) (ht : m0s.length = t)
    (hdet : IsUnit (toMatN n n (madd K noise)).det) :
    q.mean = List.ofFn (fun i : Fin t => m0s.getD i 0 +
      quad (toMatN n n (madd K noise)) (toVecN n (kT.getD i [])) (toVecN n (vsub y m0))) ∧
    q.cov = List.ofFn (fun i : Fin t => List.ofFn fun j : Fin t => (kss.getD i []).getD j 0 -
      quad (toMatN n n (madd K noise)) (toVecN n (kT.getD i [])) (toVecN n (kT.getD j []))) := by
  subst hn ht
  obtain ⟨⟨⟨hK, -⟩, ⟨hN, -⟩, ⟨hkT, hkTr⟩, hkss, hkssr⟩, δ, zα, zV, piv, hsolve, rfl⟩ :=
    posterior_eq_some K noise kT kss y m0 m0s q h
  obtain ⟨hlen, hsol⟩ := solveMany_spec _ _ _ _ _ hsolve
  have hA : (madd K noise).length = y.length := by rw [length_madd, hK, hN, Nat.min_self]
  have hkrow (i : Fin m0s.length) : (kT.getD i []).length = y.length :=
    hkTr _ (getD_mem kT i (Nat.lt_of_lt_of_eq i.2 hkT.symm) [])
  have hq (i : Fin m0s.length) := dot_div_eq_quad y.length _ δ _ _ _
    (hsol 0 (Nat.succ_pos _)) hA (hkrow i) hdet
  have hV (i j : Fin m0s.length) := dot_div_eq_quad y.length _ δ _ _ _
    (hsol (j + 1) (Nat.succ_lt_succ (Nat.lt_of_lt_of_eq j.2 hkT.symm))) hA (hkrow i) hdet
  constructor
  · show List.zipWith _ m0s kT = _
    rw [zipWith_eq_ofFn _ m0s.length m0s kT rfl hkT 0 []]
    exact congrArg List.ofFn (funext fun i => congrArg _ (hq i))
  · show List.zipWith _ kss kT = _
    rw [zipWith_eq_ofFn _ m0s.length kss kT hkss hkT [] []]
    refine congrArg List.ofFn (funext fun i => ?_)
    rw [zipWith_eq_ofFn _ m0s.length (kss.getD i []) zV
      (hkssr _ (getD_mem kss i (Nat.lt_of_lt_of_eq i.2 hkss.symm) []))
      ((Nat.succ_injective hlen).trans hkT) 0 []]
    exact congrArg List.ofFn (funext fun j => congrArg _ (hV i j))

theorem posterior_shapes (K noise kT kss : Mat) (y m0 m0s : Vec) (q : Post)
    (h : posterior K noise kT kss y m0 m0s = some q) :
    q.mean.length = m0s.length ∧ q.cov.length = m0s.length ∧
      ∀ row ∈ q.cov, row.length = m0s.length := by
  obtain ⟨⟨-, -, ⟨hkT, -⟩, hkss, hkssr⟩, δ, zα, zV, piv, hsolve, rfl⟩ :=
    posterior_eq_some K noise kT kss y m0 m0s q h
  have hlen := Nat.succ_injective (solveMany_spec _ _ _ _ _ hsolve).1
  refine ⟨by simp [hkT], by simp [hkss, hkT], ?_⟩
  intro row hrow
  obtain ⟨i, hi, rfl⟩ := List.mem_iff_getElem.mp hrow
  rw [List.length_zipWith] at hi
  rw [List.getElem_zipWith, List.length_zipWith, hlen, hkT,
    hkssr _ (List.getElem_mem (Nat.lt_of_lt_of_le hi (Nat.min_le_left ..))), Nat.min_self]

end VOPy.GPWrap
