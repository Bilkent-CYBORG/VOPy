import VOPyVerif.Proofs.LinCert
/-!
# Completeness of Fourier–Motzkin elimination with multiplier tracking (`fmPlain`)

For every well-formed rational system `A x ≥ b` (`n` unknowns, finitely many rows) the plain
Fourier–Motzkin search of `Model/LinCert.lean` returns a certificate the checker accepts:

* `fmPlain_witness`   — a returned witness satisfies every row it was given (back-substitution);
* `fmPlain_farkas`    — returned multipliers are `≥ 0`, combine the rows to `0 · x ≥ b` with `b > 0`;
* `feasibleFM_complete`, `feasibleC_complete` — hence `feasibleFM` / `feasibleC` never answer `none`;
* `farkas_alternative`, `rat_solution_of_real` — Farkas' lemma for rational data, with the alternative
  computed (that `feasibleC` therefore *decides* real feasibility: `feasibleC_decides`, `Proofs/Covered.lean`).
-/
namespace VOPy.LinCert

/-! ### rational list vectors -/

theorem zeros_succ (n : ℕ) : zeros (n + 1) = 0 :: zeros n := rfl

theorem smul_cons (c x : ℚ) (a : Vec) : smul c (x :: a) = c * x :: smul c a := rfl

theorem vadd_cons (x y : ℚ) (a b : Vec) : vadd (x :: a) (y :: b) = (x + y) :: vadd a b := rfl

theorem dot_zeros_left (n : ℕ) (x : Vec) : dot (zeros n) x = 0 := dot_replicate_zero_left n x

theorem dot_cons_right (a : Vec) (x : ℚ) (xs : Vec) :
    dot a (x :: xs) = headD a * x + dot a.tail xs := by
  cases a with
  | nil => simp only [dot_nil_left, headD, List.tail_nil, zero_mul, add_zero]
  | cons a as => rfl

theorem dot_of_isZero {a : Vec} (h : isZero a = true) (x : Vec) : dot a x = 0 := by
  rw [(isZero_iff a).1 h]; exact dot_zeros_left _ _

theorem isZero_zeros (n : ℕ) : isZero (zeros n) = true := by
  rw [isZero_iff, zeros_length]

theorem smul_zeros (c : ℚ) (n : ℕ) : smul c (zeros n) = zeros n := by
  rw [zeros, smul_replicate, mul_zero]

theorem smul_zero_vec (n : ℕ) (r : Vec) (h : r.length = n) : smul 0 r = zeros n := by
  simp only [smul, zeros, zero_mul, List.eq_replicate_iff, List.length_map, h, List.mem_map]
  exact ⟨trivial, fun b ⟨_, _, hb⟩ => hb.symm⟩

theorem vadd_zeros_right (a : Vec) (n : ℕ) (h : a.length = n) : vadd a (zeros n) = a := by
  subst h
  induction a with
  | nil => rfl
  | cons a as ih => rw [List.length_cons, zeros_succ, vadd_cons, ih, add_zero]

theorem vadd_zeros_left (a : Vec) (n : ℕ) (h : a.length = n) : vadd (zeros n) a = a := by
  subst h
  induction a with
  | nil => rfl
  | cons a as ih => rw [List.length_cons, zeros_succ, vadd_cons, ih, zero_add]

theorem vadd_zeros_zeros (n : ℕ) : vadd (zeros n) (zeros n) = zeros n :=
  vadd_zeros_right _ _ (zeros_length n)

theorem smul_append (c : ℚ) (a b : Vec) : smul c (a ++ b) = smul c a ++ smul c b := List.map_append

theorem add_smul_vec (c d : ℚ) (a : Vec) : smul (c + d) a = vadd (smul c a) (smul d a) := by
  simp only [smul, vadd, List.zipWith_map, List.zipWith_self, add_mul]

theorem vadd_vadd_vadd_comm (a b c d : Vec) :
    vadd (vadd a b) (vadd c d) = vadd (vadd a c) (vadd b d) :=
  List.ext_getElem
    (by simp only [vadd, List.length_zipWith, Nat.min_assoc, Nat.min_left_comm])
    fun i _ _ => by simp only [vadd, List.getElem_zipWith]; exact add_add_add_comm _ _ _ _

theorem vadd_append (a b c d : Vec) (h : a.length = c.length) :
    vadd (a ++ b) (c ++ d) = vadd a c ++ vadd b d :=
  List.zipWith_append h

theorem zeros_append_zero (k : ℕ) (v : Vec) : zeros k ++ 0 :: v = zeros (k + 1) ++ v := by
  simp only [zeros]
  rw [List.replicate_succ', List.append_assoc]; rfl


/-! ### `maxList`, `minList`, `between` -/

theorem maxList_eq_max? : ∀ l : List ℚ, maxList l = l.max?
  | [] => rfl
  | x :: xs => by
    rw [maxList, maxList_eq_max? xs, List.max?_cons]
    cases xs.max? <;> simp only [Option.elim, max_def]

theorem minList_eq_min? : ∀ l : List ℚ, minList l = l.min?
  | [] => rfl
  | x :: xs => by
    rw [minList, minList_eq_min? xs, List.min?_cons]
    cases xs.min? with
    | none => rfl
    | some m => simp only [Option.elim, min_comm x m, min_def]

theorem maxList_eq_none (l : List ℚ) : maxList l = none ↔ l = [] := by
  rw [maxList_eq_max?, List.max?_eq_none_iff]

theorem maxList_spec (l : List ℚ) (m : ℚ) (h : maxList l = some m) : m ∈ l ∧ ∀ x ∈ l, x ≤ m :=
  List.max?_eq_some_iff.mp (maxList_eq_max? l ▸ h)

theorem minList_eq_none (l : List ℚ) : minList l = none ↔ l = [] := by
  rw [minList_eq_min?, List.min?_eq_none_iff]

theorem minList_spec (l : List ℚ) (m : ℚ) (h : minList l = some m) : m ∈ l ∧ ∀ x ∈ l, m ≤ x :=
  List.min?_eq_some_iff.mp (minList_eq_min? l ▸ h)

theorem between_spec (L U : List ℚ) (h : ∀ l ∈ L, ∀ u ∈ U, l ≤ u) :
    (∀ l ∈ L, l ≤ between (maxList L) (minList U)) ∧
    (∀ u ∈ U, between (maxList L) (minList U) ≤ u) := by
  cases hL : maxList L with
  | none =>
    rw [(maxList_eq_none L).1 hL]
    cases hU : minList U with
    | none => rw [(minList_eq_none U).1 hU]; exact ⟨nofun, nofun⟩
    | some hi => exact ⟨nofun, (minList_spec U hi hU).2⟩
  | some lo =>
    obtain ⟨hlo, hge⟩ := maxList_spec L lo hL
    cases hU : minList U with
    | none => rw [(minList_eq_none U).1 hU]; exact ⟨hge, nofun⟩
    | some hi =>
      obtain ⟨hhi, hle⟩ := minList_spec U hi hU
      have hlh : lo ≤ hi := h lo hlo hi hhi
      simp only [between]
      exact ⟨fun l hl => by linarith only [hge l hl, hlh], fun u hu => by linarith only [hle u hu, hlh]⟩


/-! ### one elimination step: shapes of the derived rows -/

theorem mem_posRows {rows : List Row} {p : Row} :
    p ∈ posRows rows ↔ ∃ r ∈ rows, 0 < headD r.a ∧ p = scaleTail (1 / headD r.a) r := by
  simp only [posRows, List.mem_map, List.mem_filter, decide_eq_true_eq]
  constructor
  · rintro ⟨r, ⟨hr, hh⟩, rfl⟩; exact ⟨r, hr, hh, rfl⟩
  · rintro ⟨r, hr, hh, rfl⟩; exact ⟨r, ⟨hr, hh⟩, rfl⟩

theorem mem_negRows {rows : List Row} {q : Row} :
    q ∈ negRows rows ↔ ∃ r ∈ rows, headD r.a < 0 ∧ q = scaleTail (-1 / headD r.a) r := by
  simp only [negRows, List.mem_map, List.mem_filter, decide_eq_true_eq]
  constructor
  · rintro ⟨r, ⟨hr, hh⟩, rfl⟩; exact ⟨r, hr, hh, rfl⟩
  · rintro ⟨r, hr, hh, rfl⟩; exact ⟨r, ⟨hr, hh⟩, rfl⟩

theorem mem_zerRows {rows : List Row} {z : Row} :
    z ∈ zerRows rows ↔ ∃ r ∈ rows, headD r.a = 0 ∧ z = scaleTail 1 r := by
  simp only [zerRows, List.mem_map, List.mem_filter, decide_eq_true_eq]
  constructor
  · rintro ⟨r, ⟨hr, hh⟩, rfl⟩; exact ⟨r, hr, hh, rfl⟩
  · rintro ⟨r, hr, hh, rfl⟩; exact ⟨r, ⟨hr, hh⟩, rfl⟩

theorem mem_crossRows {pos neg : List Row} {c : Row} :
    c ∈ crossRows pos neg ↔ ∃ p ∈ pos, ∃ q ∈ neg, c = addRow p q := by
  simp only [crossRows, List.mem_flatMap, List.mem_map]
  constructor
  · rintro ⟨p, hp, q, hq, rfl⟩; exact ⟨p, hp, q, hq, rfl⟩
  · rintro ⟨p, hp, q, hq, rfl⟩; exact ⟨p, hp, q, hq, rfl⟩

theorem eq_headD_cons_tail {a : Vec} {n : ℕ} (h : a.length = n + 1) :
    a = headD a :: a.tail ∧ a.tail.length = n := by
  cases a with
  | nil => simp at h
  | cons x xs => exact ⟨rfl, by simpa using h⟩

theorem scaleTail_length {c : ℚ} {r : Row} {n : ℕ} (h : r.a.length = n + 1) :
    (scaleTail c r).a.length = n := by
  simp [scaleTail, (eq_headD_cons_tail h).2]

/-- every row handed to the next level has one unknown less -/
theorem next_length {n : ℕ} {rows : List Row} (hwf : ∀ r ∈ rows, r.a.length = n + 1) :
    ∀ r ∈ zerRows rows ++ crossRows (posRows rows) (negRows rows), r.a.length = n := by
  intro r hr
  rcases List.mem_append.1 hr with hz | hc
  · obtain ⟨r0, hr0, -, rfl⟩ := mem_zerRows.1 hz
    exact scaleTail_length (hwf r0 hr0)
  · obtain ⟨p, hp, q, hq, rfl⟩ := mem_crossRows.1 hc
    obtain ⟨r1, hr1, -, rfl⟩ := mem_posRows.1 hp
    obtain ⟨r2, hr2, -, rfl⟩ := mem_negRows.1 hq
    simp [addRow, scaleTail_length (hwf r1 hr1), scaleTail_length (hwf r2 hr2)]

/-! ### the witness half: back-substitution satisfies every row -/

/-- a row scaled by `c > 0`, with the head term on the other side, says the same of `x₀ :: xt` -/
theorem scaleTail_sat_iff {c : ℚ} (hc : 0 < c) (r : Row) (x₀ : ℚ) (xt : Vec) :
    (scaleTail c r).b ≤ c * headD r.a * x₀ + dot (scaleTail c r).a xt ↔
      r.b ≤ dot r.a (x₀ :: xt) := by
  change c * r.b ≤ c * headD r.a * x₀ + dot (smul c r.a.tail) xt ↔ _
  rw [dot_smul_left, dot_cons_right, mul_assoc, ← mul_add, mul_le_mul_iff_right₀ hc]

theorem fmPlain_witness : ∀ (n : ℕ) (rows : List Row) (x : Vec),
    (∀ r ∈ rows, r.a.length = n) → fmPlain n rows = .witness x →
    x.length = n ∧ ∀ r ∈ rows, r.b ≤ dot r.a x
  | 0, rows, x, hwf, h => by
    simp only [fmPlain] at h
    split at h
    · cases h
    · rename_i hnone
      cases h
      refine ⟨rfl, fun r hr => ?_⟩
      rw [dot_nil_right]
      simpa using List.find?_eq_none.1 hnone r hr
  | n + 1, rows, x, hwf, h => by
    simp only [fmPlain] at h
    split at h
    · cases h
    · rename_i xt hxt
      cases h
      have hlen := next_length hwf
      obtain ⟨hxl, hsat⟩ := fmPlain_witness n _ xt
        (fun r hr => hlen r (List.mem_filter.1 hr).1) hxt
      -- every derived row holds at `xt`, the dropped trivial ones included
      have hall : ∀ r ∈ zerRows rows ++ crossRows (posRows rows) (negRows rows),
          r.b ≤ dot r.a xt := by
        intro r hr
        by_cases ht : trivialRow r = true
        · simp only [trivialRow, Bool.and_eq_true, decide_eq_true_eq] at ht
          rw [dot_of_isZero ht.1]; exact ht.2
        · exact hsat r (List.mem_filter.2 ⟨hr, by simpa using ht⟩)
      -- lower bounds are below upper bounds
      have hLU : ∀ l ∈ (posRows rows).map (fun p => p.b - dot p.a xt),
          ∀ u ∈ (negRows rows).map (fun q => dot q.a xt - q.b), l ≤ u := by
        intro l hl u hu
        obtain ⟨p, hp, rfl⟩ := List.mem_map.1 hl
        obtain ⟨q, hq, rfl⟩ := List.mem_map.1 hu
        have hc : p.b + q.b ≤ dot (vadd p.a q.a) xt := hall (addRow p q)
          (List.mem_append_right _ (mem_crossRows.2 ⟨p, hp, q, hq, rfl⟩))
        have hpl : p.a.length = q.a.length := by
          obtain ⟨r1, hr1, -, rfl⟩ := mem_posRows.1 hp
          obtain ⟨r2, hr2, -, rfl⟩ := mem_negRows.1 hq
          rw [scaleTail_length (hwf r1 hr1), scaleTail_length (hwf r2 hr2)]
        rw [dot_vadd_left _ _ _ hpl, add_comm (dot p.a xt)] at hc
        exact sub_le_sub_iff.2 hc
      obtain ⟨hlo, hhi⟩ : (∀ l ∈ _, l ≤ pickX0 (posRows rows) (negRows rows) xt) ∧
          ∀ u ∈ _, pickX0 (posRows rows) (negRows rows) xt ≤ u := between_spec _ _ hLU
      refine ⟨by rw [List.length_cons, hxl], fun r hr => ?_⟩
      rcases lt_trichotomy (headD r.a) 0 with hneg | hzero | hpos
      · have := hhi _ (List.mem_map.2 ⟨_, mem_negRows.2 ⟨r, hr, hneg, rfl⟩, rfl⟩)
        refine (scaleTail_sat_iff (div_pos_of_neg_of_neg (neg_neg_of_pos one_pos) hneg) r _ xt).1 ?_
        rwa [div_mul_cancel₀ _ hneg.ne, neg_one_mul, le_neg_add_iff_add_le, ← le_sub_iff_add_le]
      · have := hall _ (List.mem_append_left _ (mem_zerRows.2 ⟨r, hr, hzero, rfl⟩))
        refine (scaleTail_sat_iff one_pos r _ xt).1 ?_
        rwa [hzero, mul_zero, zero_mul, zero_add]
      · have := hlo _ (List.mem_map.2 ⟨_, mem_posRows.2 ⟨r, hr, hpos, rfl⟩, rfl⟩)
        refine (scaleTail_sat_iff (one_div_pos.2 hpos) r _ xt).1 ?_
        rwa [div_mul_cancel₀ _ hpos.ne', one_mul, ← sub_le_iff_le_add]


/-! ### the Farkas half: multipliers stay non-negative and combine the original rows -/

theorem lincomb_nil_mult (n : ℕ) (R : List Vec) : lincomb n R [] = zeros n := by
  cases R <;> rfl

theorem lincomb_smul (n : ℕ) (c : ℚ) (R : List Vec) (y : Vec) :
    lincomb n R (smul c y) = smul c (lincomb n R y) := by
  induction R generalizing y with
  | nil => simp only [lincomb, smul_zeros]
  | cons r R ih => cases y with
    | nil => exact (smul_zeros c n).symm
    | cons y ys => simp only [smul_cons, lincomb, ih, ← vadd_smul, VOPy.smul_smul]

theorem lincomb_vadd (n : ℕ) (R : List Vec) (y y' : Vec) (h : y.length = y'.length)
    (hR : ∀ r ∈ R, r.length = n) :
    lincomb n R (vadd y y') = vadd (lincomb n R y) (lincomb n R y') := by
  induction y, y', h using eqLen_induction generalizing R with
  | nil => rw [lincomb_nil_mult, vadd_zeros_zeros]; exact lincomb_nil_mult n R
  | cons y ys y' ys' _ ih => cases R with
    | nil => exact (vadd_zeros_zeros n).symm
    | cons r R =>
      simp only [vadd_cons, lincomb, ih R fun r hr => hR r (List.mem_cons_of_mem _ hr),
        add_smul_vec]
      exact vadd_vadd_vadd_comm _ _ _ _

theorem combB_smul (c : ℚ) (S : Sys) (y : Vec) : combB S (smul c y) = c * combB S y := by
  induction S generalizing y with
  | nil => simp [combB]
  | cons r S ih => cases y with
    | nil => simp [combB, smul]
    | cons y ys => simp only [smul_cons, combB, ih]; ring

theorem combB_vadd (S : Sys) (y y' : Vec) (h : y.length = y'.length) :
    combB S (vadd y y') = combB S y + combB S y' := by
  induction y, y', h using eqLen_induction generalizing S with
  | nil => cases S <;> simp [combB, vadd]
  | cons y ys y' ys' _ ih => cases S with
    | nil => simp [combB]
    | cons r S => simp only [vadd_cons, combB, ih]; ring

/-- `y ≥ 0` has one entry per row of `S` and combines the rows to `a · x ≥ b` -/
def Comb (n : ℕ) (S : Sys) (y a : Vec) (b : ℚ) : Prop :=
  y.length = S.length ∧ (∀ v ∈ y, (0 : ℚ) ≤ v) ∧ combA n S y = a ∧ combB S y = b

theorem Comb.smul {n : ℕ} {S : Sys} {y a : Vec} {b c : ℚ} (hc : 0 ≤ c) (h : Comb n S y a b) :
    Comb n S (smul c y) (smul c a) (c * b) := by
  obtain ⟨h1, h2, h3, h4⟩ := h
  refine ⟨by simp [h1], ?_, ?_, ?_⟩
  · intro v hv
    simp only [VOPy.smul, List.mem_map] at hv
    obtain ⟨w, hw, rfl⟩ := hv
    exact mul_nonneg hc (h2 w hw)
  · rw [← h3]; exact lincomb_smul n c _ y
  · rw [← h4]; exact combB_smul c S y

theorem Comb.add {n : ℕ} {S : Sys} (hwf : ∀ r ∈ S, r.a.length = n) {y y' a a' : Vec} {b b' : ℚ}
    (h : Comb n S y a b) (h' : Comb n S y' a' b') :
    Comb n S (vadd y y') (vadd a a') (b + b') := by
  obtain ⟨h1, h2, h3, h4⟩ := h
  obtain ⟨h1', h2', h3', h4'⟩ := h'
  refine ⟨by simp [h1, h1'], ?_, ?_, ?_⟩
  · intro v hv
    simp only [vadd] at hv
    obtain ⟨i, hi, rfl⟩ := List.mem_iff_getElem.1 hv
    simp only [List.getElem_zipWith]
    exact add_nonneg (h2 _ (List.getElem_mem _)) (h2' _ (List.getElem_mem _))
  · rw [← h3, ← h3']
    exact lincomb_vadd n _ y y' (by rw [h1, h1']) (by
      intro r hr
      obtain ⟨s, hs, rfl⟩ := List.mem_map.1 hr
      exact hwf s hs)
  · rw [← h4, ← h4']; exact combB_vadd S y y' (by rw [h1, h1'])

/-- invariant of the rows at elimination level `k`: the multipliers combine the original rows to
`(0, …, 0, a) · x ≥ b` with `k` leading zeros -/
def RowInv (n0 : ℕ) (S : Sys) (k : ℕ) (r : Row) : Prop := Comb n0 S r.y (zeros k ++ r.a) r.b

theorem RowInv.scaleTail {n0 : ℕ} {S : Sys} {k n : ℕ} {r : Row} {c : ℚ} (hc : 0 ≤ c)
    (hl : r.a.length = n + 1) (h : RowInv n0 S k r) :
    Comb n0 S (scaleTail c r).y (zeros k ++ (c * headD r.a) :: (scaleTail c r).a)
      (scaleTail c r).b := by
  have := Comb.smul hc h
  rwa [smul_append, smul_zeros, (eq_headD_cons_tail hl).1, smul_cons] at this

/-- a row with head coefficient `0` passes to the next level -/
theorem RowInv.zer {n0 : ℕ} {S : Sys} {k n : ℕ} {r : Row} (hl : r.a.length = n + 1)
    (hh : headD r.a = 0) (h : RowInv n0 S k r) : RowInv n0 S (k + 1) (LinCert.scaleTail 1 r) := by
  have := RowInv.scaleTail zero_le_one hl h
  rwa [hh, mul_zero, zeros_append_zero] at this

/-- the sum of a normalised positive and a normalised negative row passes to the next level -/
theorem RowInv.cross {n0 : ℕ} {S : Sys} (hwf : ∀ r ∈ S, r.a.length = n0) {k n : ℕ} {r1 r2 : Row}
    (hl1 : r1.a.length = n + 1) (hl2 : r2.a.length = n + 1) (h1 : 0 < headD r1.a)
    (h2 : headD r2.a < 0) (i1 : RowInv n0 S k r1) (i2 : RowInv n0 S k r2) :
    RowInv n0 S (k + 1)
      (addRow (LinCert.scaleTail (1 / headD r1.a) r1) (LinCert.scaleTail (-1 / headD r2.a) r2)) := by
  have c1 := RowInv.scaleTail (one_div_nonneg.2 h1.le) hl1 i1
  have c2 := RowInv.scaleTail (div_nonneg_of_nonpos (neg_nonpos.2 zero_le_one) h2.le) hl2 i2
  rw [div_mul_cancel₀ _ h1.ne'] at c1
  rw [div_mul_cancel₀ _ h2.ne] at c2
  have := Comb.add hwf c1 c2
  rwa [vadd_append _ _ _ _ rfl, vadd_zeros_zeros, vadd_cons, add_neg_cancel,
    zeros_append_zero] at this

theorem fmPlain_farkas (n0 : ℕ) (S : Sys) (hwf : ∀ r ∈ S, r.a.length = n0) :
    ∀ (n k : ℕ) (rows : List Row) (y : Vec), k + n = n0 →
    (∀ r ∈ rows, r.a.length = n) → (∀ r ∈ rows, RowInv n0 S k r) →
    fmPlain n rows = .farkas y → ∃ b, 0 < b ∧ Comb n0 S y (zeros n0) b
  | 0, k, rows, y, hk, hlen, hinv, h => by
    simp only [fmPlain] at h
    split at h
    · rename_i r hr
      cases h
      have hmem := List.mem_of_find?_eq_some hr
      have hi := hinv r hmem
      have hk' : k = n0 := hk
      rw [RowInv, List.length_eq_zero_iff.1 (hlen r hmem), List.append_nil, hk'] at hi
      exact ⟨r.b, by simpa using List.find?_some hr, hi⟩
    · cases h
  | n + 1, k, rows, y, hk, hlen, hinv, h => by
    simp only [fmPlain] at h
    split at h
    · rename_i y' hy'
      cases h
      refine fmPlain_farkas n0 S hwf n (k + 1) _ y (by omega)
        (fun r hr => next_length hlen r (List.mem_filter.1 hr).1) ?_ hy'
      intro r hr
      rcases List.mem_append.1 (List.mem_filter.1 hr).1 with hz | hc
      · obtain ⟨r0, hr0, hh, rfl⟩ := mem_zerRows.1 hz
        exact RowInv.zer (hlen r0 hr0) hh (hinv r0 hr0)
      · obtain ⟨p, hp, q, hq, rfl⟩ := mem_crossRows.1 hc
        obtain ⟨r1, hr1, h1, rfl⟩ := mem_posRows.1 hp
        obtain ⟨r2, hr2, h2, rfl⟩ := mem_negRows.1 hq
        exact RowInv.cross hwf (hlen r1 hr1) (hlen r2 hr2) h1 h2 (hinv r1 hr1) (hinv r2 hr2)
    · cases h

/-! ### the initial rows -/

theorem unitVec_zero (k : ℕ) : unitVec (k + 1) 0 = 1 :: zeros k := by
  simp only [unitVec, List.range_succ_eq_map, List.map_cons, List.map_map, if_true, zeros,
    List.cons.injEq, true_and, List.eq_replicate_iff, List.length_map, List.length_range,
    List.mem_map]
  exact fun b ⟨j, _, hb⟩ => hb.symm

theorem unitVec_succ (k i : ℕ) : unitVec (k + 1) (i + 1) = 0 :: unitVec k i := by
  simp only [unitVec, List.range_succ_eq_map, List.map_cons, List.map_map, List.cons.injEq]
  exact ⟨if_neg (Nat.succ_ne_zero i), List.map_congr_left fun j _ => by simp⟩

theorem unitVec_length (k i : ℕ) : (unitVec k i).length = k := by simp [unitVec]

theorem unitVec_nonneg (k i : ℕ) : ∀ v ∈ unitVec k i, (0 : ℚ) ≤ v := by
  intro v hv
  obtain ⟨j, -, rfl⟩ := List.mem_map.1 hv
  split <;> norm_num

theorem lincomb_zeros (n : ℕ) (R : List Vec) (k : ℕ) (h : ∀ r ∈ R, r.length = n) :
    lincomb n R (zeros k) = zeros n := by
  induction R generalizing k with
  | nil => rfl
  | cons r R ih => cases k with
    | zero => rfl
    | succ k =>
      rw [zeros_succ, lincomb, ih k fun r hr => h r (List.mem_cons_of_mem _ hr),
        smul_zero_vec n r (h r List.mem_cons_self), vadd_zeros_zeros]

theorem combB_zeros (S : Sys) (k : ℕ) : combB S (zeros k) = 0 := by
  induction S generalizing k with
  | nil => rfl
  | cons r S ih => cases k with
    | zero => rfl
    | succ k => rw [zeros_succ, combB, ih, zero_mul, add_zero]

/-- the `i`-th unit multiplier picks the `i`-th row -/
theorem comb_unitVec (n : ℕ) : ∀ (S : Sys) (i : ℕ) (hi : i < S.length),
    (∀ r ∈ S, r.a.length = n) →
    combA n S (unitVec S.length i) = S[i].a ∧ combB S (unitVec S.length i) = S[i].b
  | r :: S, 0, _, h => by
    simp only [List.length_cons, unitVec_zero, combA, List.map_cons, lincomb, combB,
      List.getElem_cons_zero, combB_zeros]
    rw [lincomb_zeros n _ _ (List.forall_mem_map.2 fun s hs => h s (List.mem_cons_of_mem _ hs)),
      VOPy.smul_one, vadd_zeros_right _ _ (h r List.mem_cons_self), one_mul, add_zero]
    exact ⟨rfl, rfl⟩
  | r :: S, i + 1, hi, h => by
    have hS : ∀ r ∈ S, r.a.length = n := fun r hr => h r (List.mem_cons_of_mem _ hr)
    obtain ⟨ih1, ih2⟩ := comb_unitVec n S i (Nat.lt_of_succ_lt_succ hi) hS
    have hlen := lincomb_length n _ (unitVec S.length i) (List.forall_mem_map.2 hS)
    simp only [combA] at ih1
    simp only [List.length_cons, unitVec_succ, combA, List.map_cons, lincomb, combB,
      List.getElem_cons_succ, ih2, smul_zero_vec n r.a (h r List.mem_cons_self), ← ih1]
    exact ⟨vadd_zeros_left _ _ hlen, by rw [zero_mul, zero_add]⟩

theorem mem_initRows {S : Sys} {r : Row} (h : r ∈ initRows S) :
    ∃ (i : ℕ) (hi : i < S.length), r = ⟨S[i].a, S[i].b, unitVec S.length i⟩ := by
  simp only [initRows, List.mem_map] at h
  obtain ⟨⟨s, i⟩, hm, rfl⟩ := h
  rw [List.mem_zipIdx_iff_getElem?] at hm
  obtain ⟨hi, hs⟩ := List.getElem?_eq_some_iff.1 hm
  simp only at hs
  exact ⟨i, hi, by simp [hs]⟩

theorem initRows_cover {S : Sys} {s : Ineq} (h : s ∈ S) :
    ∃ r ∈ initRows S, r.a = s.a ∧ r.b = s.b := by
  obtain ⟨i, hi, rfl⟩ := List.mem_iff_getElem.1 h
  refine ⟨⟨S[i].a, S[i].b, unitVec S.length i⟩, ?_, rfl, rfl⟩
  simp only [initRows, List.mem_map]
  exact ⟨(S[i], i), List.mem_zipIdx_iff_getElem?.2 (by simp [hi]), rfl⟩

/-! ### completeness -/

theorem solvePlain_witness {n : ℕ} {S : Sys} {x : Vec} (hwf : wf n S = true)
    (h : solvePlain n S = .witness x) : checkWitness n S x = true := by
  have hwf' := (wf_iff n S).1 hwf
  have hrows : ∀ r ∈ initRows S, r.a.length = n := by
    intro r hr
    obtain ⟨i, hi, rfl⟩ := mem_initRows hr
    exact hwf' _ (List.getElem_mem _)
  obtain ⟨hx, hs⟩ := fmPlain_witness n _ x hrows h
  simp only [checkWitness, Bool.and_eq_true, decide_eq_true_eq]
  refine ⟨⟨hx, hwf⟩, (satisfies_iff S x).2 fun s hsS => ?_⟩
  obtain ⟨r, hr, ha, hb⟩ := initRows_cover hsS
  rw [← ha, ← hb]; exact hs r hr

theorem solvePlain_farkas {n : ℕ} {S : Sys} {y : Vec} (hwf : wf n S = true)
    (h : solvePlain n S = .farkas y) : checkFarkas n S y = true := by
  have hwf' := (wf_iff n S).1 hwf
  have hlen : ∀ r ∈ initRows S, r.a.length = n := by
    intro r hr
    obtain ⟨i, hi, rfl⟩ := mem_initRows hr
    exact hwf' _ (List.getElem_mem _)
  have hinv : ∀ r ∈ initRows S, RowInv n S 0 r := by
    intro r hr
    obtain ⟨i, hi, rfl⟩ := mem_initRows hr
    obtain ⟨e1, e2⟩ := comb_unitVec n S i hi hwf'
    exact ⟨unitVec_length _ _, unitVec_nonneg _ _, by simpa [zeros] using e1, e2⟩
  obtain ⟨b, hb, h1, h2, h3, h4⟩ := fmPlain_farkas n S hwf' n 0 _ y (by omega) hlen hinv h
  simp only [checkFarkas, Bool.and_eq_true, decide_eq_true_eq]
  exact ⟨⟨⟨hwf, (allNonneg_iff y).2 h2⟩, by rw [h3]; exact isZero_zeros n⟩, by rw [h4]; exact hb⟩

/-- the answer of a search, kept only if the checker accepts the certificate: the common shape of
`feasible` and `feasibleFM` -/
def certified (n : ℕ) (S : Sys) : Result → Option Bool
  | .witness x => if checkWitness n S x then some true else none
  | .farkas y => if checkFarkas n S y then some false else none

theorem feasibleFM_eq (n : ℕ) (S : Sys) : feasibleFM n S = certified n S (solvePlain n S) := rfl

theorem feasibleFM_complete (n : ℕ) (S : Sys) (hwf : wf n S = true) :
    feasibleFM n S = some true ∨ feasibleFM n S = some false := by
  rw [feasibleFM_eq]
  cases h : solvePlain n S with
  | witness x => exact Or.inl (if_pos (solvePlain_witness hwf h))
  | farkas y => exact Or.inr (if_pos (solvePlain_farkas hwf h))

theorem feasibleC_complete (n : ℕ) (S : Sys) (hwf : wf n S = true) :
    feasibleC n S = some true ∨ feasibleC n S = some false := by
  unfold feasibleC
  cases h : feasible n S with
  | some b => cases b <;> simp
  | none => exact feasibleFM_complete n S hwf

/-- **Farkas' lemma for rational data** (with the alternative computed): a well-formed system has a
rational solution or non-negative rational multipliers refuting it. -/
theorem farkas_alternative (n : ℕ) (S : Sys) (hwf : wf n S = true) :
    (∃ x : Vec, checkWitness n S x = true) ∨ (∃ y : Vec, checkFarkas n S y = true) := by
  cases h : solvePlain n S with
  | witness x => exact Or.inl ⟨x, solvePlain_witness hwf h⟩
  | farkas y => exact Or.inr ⟨y, solvePlain_farkas hwf h⟩

theorem rat_solution_of_real {n : ℕ} {S : Sys} (hwf : wf n S = true) (h : ∃ x : RVec, RSat n S x) :
    ∃ x : Vec, checkWitness n S x = true := by
  rcases farkas_alternative n S hwf with hx | ⟨y, hy⟩
  · exact hx
  · exact absurd h (checkFarkas_sound hy)

end VOPy.LinCert
