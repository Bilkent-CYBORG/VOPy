import VOPyVerif.Proofs.AdaptiveInv
/-!
# VOGP_AD's set surgery preserves the invariants

`Algo.Inv`: `S`, `P` and the discarded designs partition the leaves, and a set latch means that every
active design is at the maximum depth.  Each single operation (`Algo.apply`) preserves it (`apply_inv`),
and carries every `Space.Stable` predicate of the design space along (`apply_space`).
-/
namespace VOPy.Adaptive

/-- the combinatorial invariant of the algorithm state -/
structure Algo.Inv (d : Nat) (a : Algo) : Prop where
  wf : a.space.WF d
  /-- `S`, `P` and the discarded designs partition the leaves: every active or discarded design is a
  leaf, no leaf is lost, and no design is in two of the lists or twice in one -/
  part : (a.S ++ a.P ++ a.dropped).Perm a.space.leaves
  maxEq : a.maxDepth = a.space.maxDepth
  latched : a.latch = true → ∀ i, i ∈ a.S ∨ i ∈ a.P → a.space.depthAt i = some a.maxDepth
  unlatched : a.latch = false → a.P = []

theorem Algo.Inv.nodup {d : Nat} {a : Algo} (hi : a.Inv d) : (a.S ++ a.P ++ a.dropped).Nodup :=
  hi.part.nodup_iff.mpr (leaves_nodup _)

theorem Algo.Inv.isLeaf_iff {d : Nat} {a : Algo} (hi : a.Inv d) (i : Nat) :
    a.space.isLeaf i = true ↔ i ∈ a.S ∨ i ∈ a.P ∨ i ∈ a.dropped := by
  rw [← mem_leaves, ← hi.part.mem_iff, List.mem_append, List.mem_append, or_assoc]

theorem Algo.Inv.disjoint {d : Nat} {a : Algo} (hi : a.Inv d) :
    a.S.Nodup ∧ a.P.Nodup ∧ (∀ i ∈ a.S, i ∉ a.P) ∧ ∀ i ∈ a.dropped, i ∉ a.S ∧ i ∉ a.P := by
  obtain ⟨⟨hS, hP, hSP⟩, _, hD⟩ := (List.nodup_append.trans (and_congr_left' List.nodup_append)).mp hi.nodup
  exact ⟨hS, hP, fun i hs hp => hSP i hs i hp rfl, fun i hd =>
    ⟨fun hs => hD i (List.mem_append_left _ hs) i hd rfl,
     fun hp => hD i (List.mem_append_right _ hp) i hd rfl⟩⟩

theorem init_inv (d m md : Nat) : (Algo.init d m md).Inv d :=
  ⟨root_wf d m md, List.Perm.refl _, rfl, fun h => (Bool.false_ne_true h).elim, fun _ => rfl⟩

/-! ## case analysis of the operations -/

theorem evalRefine_cases {a a' : Algo} {c : Nat} {vh : Bool} (h : a.evalRefine c vh = some a') :
    (c ∈ a.S ∨ c ∈ a.P) ∧ ∃ p, a.space.nodes[c]? = some p ∧
    (((a.space.maxDepth ≤ p.depth ∨ vh = false) ∧ a' = { a with samples := a.samples + 1 }) ∨
     (p.depth < a.space.maxDepth ∧ vh = true ∧ ∃ sp ch, a.space.refine c = some (sp, ch) ∧
        ((c ∈ a.S ∧ a' = { a with space := sp, S := a.S.filter (fun i => i != c) ++ ch }) ∨
         (c ∉ a.S ∧ c ∈ a.P ∧
            a' = { a with space := sp, P := a.P.filter (fun i => i != c) ++ ch })))) := by
  unfold Algo.evalRefine at h
  split at h
  · rename_i hc
    have hc' : c ∈ a.S ∨ c ∈ a.P :=
      (Bool.or_eq_true _ _ ▸ hc).imp List.contains_iff_mem.mp List.contains_iff_mem.mp
    refine ⟨hc', ?_⟩
    split at h
    · exact nomatch h
    · rename_i hsr
      obtain ⟨p, hp, hlt, rfl⟩ := shouldRefine_true hsr
      refine ⟨p, hp, Or.inr ⟨hlt, rfl, ?_⟩⟩
      split at h
      · exact nomatch h
      · rename_i sp ch hr
        refine ⟨sp, ch, hr, ?_⟩
        split at h
        · rename_i hs
          exact Or.inl ⟨List.contains_iff_mem.mp hs, (Option.some.inj h).symm⟩
        · rename_i hs
          have hs' : c ∉ a.S := fun hm => hs (List.contains_iff_mem.mpr hm)
          exact Or.inr ⟨hs', hc'.resolve_left hs', (Option.some.inj h).symm⟩
    · rename_i hsr
      obtain ⟨p, hp, hor⟩ := shouldRefine_false hsr
      exact ⟨p, hp, Or.inl ⟨hor, (Option.some.inj h).symm⟩⟩
  · exact nomatch h

theorem discard_cases {a a' : Algo} {D : List Nat} (h : a.discard D = some a') :
    (∀ i ∈ D, i ∈ a.S) ∧ a' = { a with S := a.S.filter (fun i => !D.contains i)
                                       dropped := a.dropped ++ a.S.filter (fun i => D.contains i) } := by
  unfold Algo.discard at h
  split at h
  · rename_i hD
    exact ⟨fun i hi => List.contains_iff_mem.mp (List.all_eq_true.mp hD i hi), (Option.some.inj h).symm⟩
  · exact nomatch h

theorem cover_cases {a a' : Algo} {N : List Nat} (h : a.cover N = some a') :
    ((a.latch = false ∧ a.allAtMax = false ∧ a' = a) ∨
     ((a.latch = false → a.allAtMax = true) ∧ (∀ i ∈ N, i ∈ a.S) ∧
       a' = { a with latch := true
                     S := a.S.filter (fun i => !N.contains i)
                     P := a.P ++ a.S.filter (fun i => N.contains i) })) := by
  unfold Algo.cover at h
  split at h
  · exact nomatch h
  · split at h
    · rename_i h2
      rw [Bool.and_eq_true, Bool.not_eq_true', Bool.not_eq_true'] at h2
      exact Or.inl ⟨h2.1, h2.2, (Option.some.inj h).symm⟩
    · rename_i h2
      split at h
      · rename_i h3
        refine Or.inr ⟨fun hl => ?_, fun i hi => List.contains_iff_mem.mp (List.all_eq_true.mp h3 i hi),
          (Option.some.inj h).symm⟩
        rw [hl, Bool.not_false, Bool.true_and, Bool.not_eq_true', Bool.not_eq_false] at h2
        exact h2
      · exact nomatch h

theorem allAtMax_spec {a : Algo} (h : a.allAtMax = true) :
    ∀ i ∈ a.S, a.space.depthAt i = some a.maxDepth := by
  intro i hi
  simp only [Algo.allAtMax, List.all_eq_true] at h
  have := h i hi
  cases hp : a.space.nodes[i]? with
  | none => simp [hp] at this
  | some p =>
    simp only [hp, beq_iff_eq] at this
    simp [Space.depthAt, hp, this]

/-! ## preservation of `Algo.Inv` -/

/-- the space changed but leaves, depths and maximum depth did not (region updates) -/
theorem Algo.Inv.of_same {d : Nat} {a a' : Algo} (hi : a.Inv d) (hwf : a'.space.WF d)
    (hS : a'.S = a.S) (hP : a'.P = a.P) (hl : a'.latch = a.latch) (hm : a'.maxDepth = a.maxDepth)
    (hD : a'.dropped = a.dropped)
    (hsm : a'.space.maxDepth = a.space.maxDepth)
    (hleaves : a'.space.leaves = a.space.leaves)
    (hdepth : ∀ j, a'.space.depthAt j = a.space.depthAt j) : a'.Inv d := by
  refine ⟨hwf, ?_, ?_, ?_, ?_⟩
  · rw [hS, hP, hD, hleaves]; exact hi.part
  · rw [hm, hsm]; exact hi.maxEq
  · intro h i hi'
    rw [hdepth, hm]
    exact hi.latched (hl ▸ h) i (hS ▸ hP ▸ hi')
  · intro h; rw [hP]; exact hi.unlatched (hl ▸ h)

/-- only `samples` / `round` changed -/
theorem Algo.Inv.of_eq {d : Nat} {a a' : Algo} (hi : a.Inv d) (hs : a'.space = a.space) (hS : a'.S = a.S)
    (hP : a'.P = a.P) (hl : a'.latch = a.latch) (hm : a'.maxDepth = a.maxDepth)
    (hD : a'.dropped = a.dropped) : a'.Inv d :=
  hi.of_same (hs ▸ hi.wf) hS hP hl hm hD (by rw [hs]) (by rw [hs]) (fun _ => by rw [hs])

/-- `modeling` only changes the space, by a sequence of region updates -/
theorem modeling_space {P : Space → Prop}
    (hstep : ∀ {s s' i lo up}, P s → s.setRegion i lo up = some s' → P s') :
    ∀ (regs : List (Nat × List Rat × List Rat)) {a a' : Algo},
    P a.space → a.modeling regs = some a' → a' = { a with space := a'.space } ∧ P a'.space
  | [], a, a', hp, h => by
      obtain rfl := Option.some.inj h
      exact ⟨rfl, hp⟩
  | (i, lo, up) :: rest, a, a', hp, h => by
      rw [Algo.modeling] at h
      split at h
      · exact nomatch h
      · rename_i sp hs
        exact modeling_space hstep rest (a := { a with space := sp }) (hstep hp hs) h

theorem modeling_inv {d : Nat} {regs : List (Nat × List Rat × List Rat)} {a a' : Algo} (hi : a.Inv d)
    (h : a.modeling regs = some a') : a'.Inv d := by
  have hstep : ∀ {s s' i lo up}, Algo.Inv d { a with space := s } → s.setRegion i lo up = some s' →
      Algo.Inv d { a with space := s' } := by
    intro s s' i lo up hi hs
    obtain ⟨_, hm, _, _, hdepth, _, hleaves⟩ := setRegion_same hs
    exact hi.of_same (setRegion_wf hi.wf hs) rfl rfl rfl rfl rfl hm hleaves (congrFun hdepth)
  obtain ⟨heq, hinv⟩ := modeling_space hstep regs hi h
  rw [heq]
  exact hinv

/-- moving part of `S` to the end of `P` or of `dropped` permutes `S ++ P ++ dropped` -/
theorem perm_filter_to_mid (p : Nat → Bool) (S P D : List Nat) :
    (S.filter (fun i => !p i) ++ (P ++ S.filter p) ++ D).Perm (S ++ P ++ D) := by
  refine List.Perm.append_right D ?_
  rw [← List.append_assoc]
  refine List.perm_append_comm.trans ?_
  rw [← List.append_assoc]
  exact (List.filter_append_perm p S).append_right P

theorem perm_filter_to_end (p : Nat → Bool) (S P D : List Nat) :
    (S.filter (fun i => !p i) ++ P ++ (D ++ S.filter p)).Perm (S ++ P ++ D) := by
  rw [← List.append_assoc]
  refine List.perm_append_comm.trans ?_
  rw [← List.append_assoc, ← List.append_assoc]
  exact ((List.filter_append_perm p S).append_right P).append_right D

theorem discard_inv {d : Nat} {a a' : Algo} {D : List Nat} (hi : a.Inv d)
    (h : a.discard D = some a') : a'.Inv d := by
  obtain ⟨_, rfl⟩ := discard_cases h
  refine ⟨hi.wf, (perm_filter_to_end _ a.S a.P a.dropped).trans hi.part, hi.maxEq, ?_, hi.unlatched⟩
  intro hl i h
  exact hi.latched hl i (h.imp_left fun h => (List.mem_filter.mp h).1)

theorem cover_inv {d : Nat} {a a' : Algo} {N : List Nat} (hi : a.Inv d)
    (h : a.cover N = some a') : a'.Inv d := by
  rcases cover_cases h with ⟨_, _, rfl⟩ | ⟨hg, _, rfl⟩
  · exact hi
  · refine ⟨hi.wf, (perm_filter_to_mid _ a.S a.P a.dropped).trans hi.part, hi.maxEq, ?_,
      fun h => Bool.noConfusion h⟩
    intro _ i h
    have hmem : i ∈ a.S ∨ i ∈ a.P := by
      rcases h with h | h
      · exact Or.inl (List.mem_filter.mp h).1
      · exact (List.mem_append.mp h).symm.imp_left fun h => (List.mem_filter.mp h).1
    -- the latch was set already, or it is being set because all of `S` is at the maximum depth
    cases hl : a.latch with
    | true => exact hi.latched hl i hmem
    | false =>
      rcases hmem with hm | hm
      · exact allAtMax_spec (hg hl) i hm
      · exact absurd (hi.unlatched hl ▸ hm) List.not_mem_nil

theorem evalRefine_inv {d : Nat} {a a' : Algo} {c : Nat} {vh : Bool} (hi : a.Inv d)
    (h : a.evalRefine c vh = some a') : a'.Inv d := by
  obtain ⟨hc, p, hp, hcase⟩ := evalRefine_cases h
  rcases hcase with ⟨_, rfl⟩ | ⟨hlt, _, sp, ch, hr, hcase⟩
  · exact hi.of_eq rfl rfl rfl rfl rfl rfl
  · -- the latch cannot be set: the candidate would be at maximum depth
    have hnl : a.latch = false := by
      cases hl : a.latch with
      | false => rfl
      | true =>
        have := hi.latched hl c hc
        rw [Space.depthAt, hp, Option.map_some, Option.some.injEq, hi.maxEq] at this
        exact absurd this (Nat.ne_of_lt hlt)
    have hP := hi.unlatched hnl
    obtain ⟨p', hp', hn, hrf, hm, hch⟩ := Space.refine_eq hr
    cases hp.symm.trans hp'
    rcases hcase with ⟨hcS, rfl⟩ | ⟨_, hcP, _⟩
    · refine ⟨refine_wf hi.wf hr, ?_, hi.maxEq.trans hm.symm, fun hl => Bool.noConfusion (hnl.symm.trans hl),
        fun _ => hP⟩
      -- the leaves lose `c` and gain the children, and so does `S`; `c` is in neither `P` nor `dropped`
      have hcd : c ∉ a.dropped := fun hd => (hi.disjoint.2.2.2 c hd).1 hcS
      have hpart := hi.part.filter (fun j => j != c)
      rw [hP, List.append_nil, List.filter_append,
        List.filter_eq_self.mpr fun j hj => bne_iff_ne.mpr fun (hjc : j = c) => hcd (hjc ▸ hj)] at hpart
      show (a.S.filter (fun i => i != c) ++ ch ++ a.P ++ a.dropped).Perm sp.leaves
      rw [refine_leaves hi.wf.refinedLt (List.getElem?_eq_some_iff.mp hp).1 hn hrf, ← hch, hP,
        List.append_nil, List.append_assoc]
      refine (List.perm_append_comm.append_left _).trans ?_
      rw [← List.append_assoc]
      exact hpart.append_right ch
    · exact absurd (hP ▸ hcP) List.not_mem_nil

theorem apply_inv {d : Nat} {a a' : Algo} {op : Op} (hi : a.Inv d) (h : a.apply op = some a') :
    a'.Inv d := by
  cases op with
  | update regs => exact modeling_inv hi h
  | discard D => exact discard_inv hi h
  | cover N => exact cover_inv hi h
  | evalRefine c vh => exact evalRefine_inv hi h
  | endRound =>
    obtain rfl := Option.some.inj h
    exact hi.of_eq rfl rfl rfl rfl rfl rfl

/-- the candidate of a successful `evalRefine` on a state satisfying the invariant is a leaf -/
theorem evalRefine_space {d : Nat} {a a' : Algo} {c : Nat} {vh : Bool} (hi : a.Inv d)
    (h : a.evalRefine c vh = some a') :
    a'.space = a.space ∨
      ∃ p ch, a.space.nodes[c]? = some p ∧ p.depth < a.space.maxDepth ∧ a.space.isLeaf c = true ∧
        a.space.refine c = some (a'.space, ch) := by
  obtain ⟨hc, p, hp, hcase⟩ := evalRefine_cases h
  have hleaf : a.space.isLeaf c = true :=
    (hi.isLeaf_iff c).mpr (hc.elim Or.inl fun h => Or.inr (Or.inl h))
  rcases hcase with ⟨_, rfl⟩ | ⟨hlt, _, sp, ch, hr, hcase⟩
  · exact Or.inl rfl
  · refine Or.inr ⟨p, ch, hp, hlt, hleaf, ?_⟩
    rcases hcase with ⟨_, rfl⟩ | ⟨_, _, rfl⟩ <;> exact hr

theorem apply_space {d : Nat} {P : Space → Prop} {a a' : Algo} {op : Op} (hi : a.Inv d)
    (hP : Space.Stable d True P) (hp : P a.space) (h : a.apply op = some a') : P a'.space := by
  cases op with
  | update regs => exact (modeling_space hP.setRegion regs hp h).2
  | discard D => obtain ⟨_, rfl⟩ := discard_cases h; exact hp
  | cover N => rcases cover_cases h with ⟨_, _, rfl⟩ | ⟨_, _, rfl⟩ <;> exact hp
  | evalRefine c vh =>
    rcases evalRefine_space hi h with heq | ⟨p, ch, hpn, hlt, hleaf, hr⟩
    · exact heq ▸ hp
    · exact hP.refine hp hi.wf hleaf (fun _ => ⟨p, hpn, hlt⟩) hr
  | endRound => obtain rfl := Option.some.inj h; exact hp

end VOPy.Adaptive
