import VOPyVerif.Proofs.AccuracyGeom
import VOPyVerif.Proofs.AccuracyPaveba
import VOPyVerif.Proofs.AccuracyVogp
/-!
# From valid confidence regions to sound oracles (C01, C05)

Regions are predicates on vectors.  `SemDominated` / `SemCoverable` are the semantic ∀∀ / ∃∃
meanings of `confidence_region_is_dominated` / `confidence_region_is_covered` (C09 / C10 tie the
code's Booleans to them).  This file derives, for a PaVeBa-family run, the per-round `RoundSound`
from

* the oracles deciding the semantic predicates on the displayed regions,
* validity: the true mean of every *active* design (S ∪ U) is inside the region displayed in that
  round, regions of designs that are not active keep their last displayed value,
* non-degeneracy of the active regions (two points on which some facet functional differs),

so that the chain *valid regions ⇒ oracle soundness ⇒ accuracy* is explicit; and the analogous
(simpler) statement for VOGP / ε-PAL.
-/
namespace VOPy.Accuracy
open VOPy VOPy.Steps

/-- a region: a set of vectors -/
abbrev Region := Vec → Prop

/-- `∀ z ∈ R₁, ∀ z' ∈ R₂, z' ≽ z`  (zero slack) -/
def SemDominated (W : Mat) (R1 R2 : Region) : Prop :=
  ∀ z, R1 z → ∀ z', R2 z' → dominates W z' z = true

/-- `∃ z ∈ R₁, ∃ z' ∈ R₂, ∀ n, w_n·(z' − z) ≥ t_n`  (facet thresholds `t`) -/
def SemCoverable (W : Mat) (t : Vec) (R1 R2 : Region) : Prop :=
  ∃ z, R1 z ∧ ∃ z', R2 z' ∧ notCovers W t z z' = false

/-- `∀ z ∈ R₁, ∀ z' ∈ R₂, z' + s ≽ z`  (slack `s` in objective space) -/
def SemDominatedS (W : Mat) (s : Vec) (R1 R2 : Region) : Prop :=
  ∀ z, R1 z → ∀ z', R2 z' → dominates W (vadd z' s) z = true

/-- `∃ z ∈ R₁, ∃ z' ∈ R₂, z' ≽ z + s`  (slack `s` in objective space) -/
def SemCoverableS (W : Mat) (s : Vec) (R1 R2 : Region) : Prop :=
  ∃ z, R1 z ∧ ∃ z', R2 z' ∧ dominates W z' (vadd z s) = true

/-! ### region domination is a strict partial order on non-empty, non-degenerate regions -/

theorem semDominated_trans (W : Mat) (m : Nat) (R1 R2 R3 : Region)
    (h1 : ∀ z, R1 z → z.length = m) (h2 : ∀ z, R2 z → z.length = m) (h3 : ∀ z, R3 z → z.length = m)
    (hne : ∃ z, R2 z) (h12 : SemDominated W R1 R2) (h23 : SemDominated W R2 R3) :
    SemDominated W R1 R3 := by
  intro z hz z'' hz''
  obtain ⟨z', hz'⟩ := hne
  exact dominates_trans W z'' z' z ((h3 z'' hz'').trans (h2 z' hz').symm)
    ((h2 z' hz').trans (h1 z hz).symm) (h23 z' hz' z'' hz'') (h12 z hz z' hz')

/-- a region on which some facet functional is not constant does not dominate itself -/
theorem semDominated_irrefl (W : Mat) (m : Nat) (R : Region) (hlen : ∀ z, R z → z.length = m)
    (hnd : ∃ z, R z ∧ ∃ z', R z' ∧ ∃ w ∈ W, dot w z ≠ dot w z') : ¬ SemDominated W R R := by
  intro h
  obtain ⟨z, hz, z', hz', w, hw, hne⟩ := hnd
  have h1 := (dominates_iff W z' z).mp (h z hz z' hz') w hw
  have h2 := (dominates_iff W z z').mp (h z' hz' z hz) w hw
  rw [dot_vsub_right _ _ _ ((hlen z' hz').trans (hlen z hz).symm)] at h1
  rw [dot_vsub_right _ _ _ ((hlen z hz).trans (hlen z' hz').symm)] at h2
  exact hne (le_antisymm (sub_nonneg.mp h1) (sub_nonneg.mp h2))

/-! ### bookkeeping of a PaVeBa run -/

/-- What holds of the active designs (S ∪ U) of every round, and passes from round `r` to `r + 1` for
the designs not active in round `r + 1`, holds of the living designs (S ∪ P) of every round. -/
theorem pavebaRun_alive_of_active (K : Nat) (isDom isCov : Nat → Rel) (Q : Nat → Nat → Prop) (T : Nat)
    (hact : ∀ r, r < T → ∀ i,
      (i ∈ (pavebaRun K isDom isCov r).1 ∨ i ∈ (pavebaRun K isDom isCov r).2.2) → Q r i)
    (hpersist : ∀ r, r + 1 < T → ∀ i,
      ¬ (i ∈ (pavebaRun K isDom isCov (r + 1)).1 ∨ i ∈ (pavebaRun K isDom isCov (r + 1)).2.2) →
      Q r i → Q (r + 1) i) :
    ∀ r, r < T → ∀ i,
      (i ∈ (pavebaRun K isDom isCov r).1 ∨ i ∈ (pavebaRun K isDom isCov r).2.1) → Q r i := by
  intro r
  induction r with
  | zero =>
    intro h0 i hi
    exact hi.elim (fun hi => hact 0 h0 i (Or.inl hi)) nofun
  | succ r ih =>
    intro hr i hi
    by_cases ha : i ∈ (pavebaRun K isDom isCov (r + 1)).1 ∨ i ∈ (pavebaRun K isDom isCov (r + 1)).2.2
    · exact hact (r + 1) hr i ha
    · -- the living designs of round `r + 1` were alive in round `r`
      exact hpersist r hr i ha (ih (Nat.lt_of_succ_lt hr) i
        (pavebaRound_subset (isDom r) (isCov r) _ _ _ (hi.imp_right Or.inl)))

/-! ### the truth relations for a cone `W`, thresholds `t` and true means `μ` -/

/-- the `Truth` structure of the PaVeBa proof instantiated at
`dom j i := μ_j ≽ μ_i`, `good i j := ∃ n, w_n·(μ_j − μ_i) < t_n` -/
theorem truth_of_means (W : Mat) (t : Vec) (m K : Nat) (mu : Nat → Vec)
    (hmu : ∀ i, i < K → (mu i).length = m)
    (hpos : ∃ n, ∃ _ : n < W.length, ∃ h2 : n < t.length, 0 < t[n]) :
    Truth K (fun j i => dominates W (mu j) (mu i) = true)
      (fun i j => notCovers W t (mu i) (mu j) = true) where
  dom_trans := fun i j k hi hj hk h1 h2 =>
    dominates_trans W _ _ _ ((hmu i hi).trans (hmu j hj).symm) ((hmu j hj).trans (hmu k hk).symm) h1 h2
  good_refl := fun i _ => notCovers_self W t (mu i) hpos
  good_mono := fun i k j hi hk hj h1 h2 =>
    notCovers_mono W t _ _ _ ((hmu i hi).trans (hmu k hk).symm) ((hmu k hk).trans (hmu j hj).symm) h1 h2

/-! ### valid regions ⇒ sound oracles, PaVeBa family -/

/-- **Valid regions give sound oracles (PaVeBa family).**  `R r i` is the region object of design
`i` as the decision phases of round `r` see it.  Hypotheses: the two oracles decide the semantic
predicates; the truth is inside the region of every design *active* in round `r` (S ∪ U, the ones
`modeling()` refreshes); a design that is not active keeps its region; active regions are
non-degenerate.  Conclusion: every round is `RoundSound`. -/
theorem paveba_roundSound_of_valid_regions (W : Mat) (t : Vec) (m K : Nat) (mu : Nat → Vec)
    (R : Nat → Nat → Region) (isDom isCov : Nat → Rel) (T : Nat)
    (hlen : ∀ r i z, R r i z → z.length = m)
    (hDom : ∀ r, r < T → ∀ i j, isDom r i j = true ↔ SemDominated W (R r i) (R r j))
    (hCov : ∀ r, r < T → ∀ i j, isCov r i j = false → ¬ SemCoverable W t (R r i) (R r j))
    (hvalid : ∀ r, r < T → ∀ i,
      (i ∈ (pavebaRun K isDom isCov r).1 ∨ i ∈ (pavebaRun K isDom isCov r).2.2) → R r i (mu i))
    (hpersist : ∀ r, r + 1 < T → ∀ i,
      ¬ (i ∈ (pavebaRun K isDom isCov (r + 1)).1 ∨ i ∈ (pavebaRun K isDom isCov (r + 1)).2.2) →
      R (r + 1) i = R r i)
    (hnondeg : ∀ r, r < T → ∀ i,
      (i ∈ (pavebaRun K isDom isCov r).1 ∨ i ∈ (pavebaRun K isDom isCov r).2.2) →
      ∃ z, R r i z ∧ ∃ z', R r i z' ∧ ∃ w ∈ W, dot w z ≠ dot w z') :
    ∀ r, r < T → RoundSound (fun j i => dominates W (mu j) (mu i) = true)
      (fun i j => notCovers W t (mu i) (mu j) = true) (isDom r) (isCov r)
      (pavebaRun K isDom isCov r).1 (pavebaRun K isDom isCov r).2.1 (pavebaRun K isDom isCov r).2.2 := by
  -- the truth is inside the region of every *living* design (S ∪ P), refreshed or not
  have halive := pavebaRun_alive_of_active K isDom isCov (fun r i => R r i (mu i)) T hvalid
    fun r hr i hi h => (congrFun (hpersist r hr i hi) (mu i)).mpr h
  intro r hr
  refine ⟨?_, ?_, ?_, ?_⟩
  · intro i hi j hj _ hij
    exact (hDom r hr i j).mp hij (mu i) (hvalid r hr i (Or.inl hi)) (mu j) (hvalid r hr j hj)
  · intro i j k _ hj _ hij hjk
    rw [hDom r hr] at hij hjk ⊢
    exact semDominated_trans W m _ _ _ (hlen r i) (hlen r j) (hlen r k) ⟨mu j, hvalid r hr j hj⟩ hij hjk
  · intro i hi
    exact Bool.eq_false_iff.mpr fun h =>
      semDominated_irrefl W m _ (hlen r i) (hnondeg r hr i hi) ((hDom r hr i i).mp h)
  · intro i j hi hj _ hij
    exact Decidable.byContradiction fun h => hCov r hr i j hij
      ⟨mu i, halive r hr i hi, mu j, halive r hr j hj, Bool.eq_false_iff.mpr h⟩

/-! ### valid regions ⇒ sound oracles, VOGP / ε-PAL -/

/-- **Valid regions give sound oracles (VOGP / ε-PAL).**  All regions of S ∪ P are refreshed every
round; only the implications "oracle says dominated ⇒ ∀∀" and "oracle says not covered ⇒ ¬∃∃" are
needed, and nothing about the pessimistic test. -/
theorem vogp_roundSound_of_valid_regions (W : Mat) (s : Vec) (K : Nat) (mu : Nat → Vec)
    (R : Nat → Nat → Region) (isDom isCov pessDom : Nat → Rel) (T : Nat)
    (hDom : ∀ r, r < T → ∀ i j, isDom r i j = true → SemDominatedS W s (R r i) (R r j))
    (hCov : ∀ r, r < T → ∀ i j, isCov r i j = false → ¬ SemCoverableS W s (R r i) (R r j))
    (hvalid : ∀ r, r < T → ∀ i,
      (i ∈ (vogpRun K isDom isCov pessDom r).1 ∨ i ∈ (vogpRun K isDom isCov pessDom r).2) →
      R r i (mu i)) :
    ∀ r, r < T → VRoundSound (fun j i => dominates W (vadd (mu j) s) (mu i) = true)
      (fun j i => dominates W (mu j) (vadd (mu i) s) = true) (isDom r) (isCov r)
      (vogpRun K isDom isCov pessDom r).1 (vogpRun K isDom isCov pessDom r).2 := by
  intro r hr
  refine ⟨?_, ?_⟩
  · intro i hi j hj _ hij
    exact hDom r hr i j hij (mu i) (hvalid r hr i (Or.inl hi)) (mu j) (hvalid r hr j hj)
  · intro i hi j hj _ hij hsd
    exact hCov r hr i j hij ⟨mu i, hvalid r hr i (Or.inl hi), mu j, hvalid r hr j hj, hsd⟩

/-! ### objective-space slack versus facet thresholds -/

/-- A slack `s` in objective space is the facet-threshold vector `W·s`: "`z'` covers `z` with
thresholds `W s`" (`notCovers … = false`) iff `z' ≽ z + s`, for vectors of one length. -/
theorem notCovers_matVec_iff (W : Mat) (s z z' : Vec) (hz : z.length = s.length) (hz' : z'.length = z.length) :
    notCovers W (matVec W s) z z' = false ↔ dominates W z' (vadd z s) = true := by
  rw [← Bool.not_eq_true, notCovers_iff, dominates_iff_get]
  -- facet by facet: `w·(z' − (z + s)) = w·(z' − z) − w·s`
  have hsub : ∀ w : Vec, dot w (vsub z' (vadd z s)) = dot w (vsub z' z) - dot w s := fun w => by
    rw [dot_vsub_right w _ _ (by rw [length_vadd _ _ hz, hz']), dot_vadd_right w _ _ hz, dot_vsub_right w _ _ hz',
      sub_add_eq_sub_sub]
  have hm : ∀ n (h : n < (matVec W s).length), (matVec W s)[n] = dot (W[n]'(List.length_map _ ▸ h)) s :=
    fun n h => List.getElem_map _
  constructor
  · intro h n hn
    rw [hsub, sub_nonneg, ← hm n (by rw [matVec, List.length_map]; exact hn)]
    exact not_lt.mp fun hc => h ⟨n, hn, _, hc⟩
  · rintro h ⟨n, hn, hn2, hlt⟩
    have := h n hn
    rw [hsub, sub_nonneg, ← hm n hn2] at this
    exact not_lt.mpr this hlt

/-- the semantic covering predicate with an objective-space slack is the one with thresholds `W·s` -/
theorem semCoverableS_iff (W : Mat) (s : Vec) (R1 R2 : Region)
    (h1 : ∀ z, R1 z → z.length = s.length) (h2 : ∀ z, R2 z → z.length = s.length) :
    SemCoverableS W s R1 R2 ↔ SemCoverable W (matVec W s) R1 R2 :=
  exists_congr fun z => and_congr_right fun hz => exists_congr fun z' => and_congr_right fun hz' =>
    (notCovers_matVec_iff W s z z' (h1 z hz) ((h2 z' hz').trans (h1 z hz).symm)).symm

/-! ### decidable sufficient conditions for round soundness (used for the non-vacuity examples) -/

/-- Boolean check of `RoundSound` at the true means for a concrete state and concrete oracles -/
def roundSoundB (W : Mat) (t : Vec) (mu : Nat → Vec) (isDom isCov : Rel) (S P U : List Nat) : Bool :=
  let A := S ++ U
  let L := S ++ P
  S.all (fun i => A.all (fun j => j == i || !isDom i j || dominates W (mu j) (mu i))) &&
  A.all (fun i => A.all (fun j => A.all (fun k => !(isDom i j && isDom j k) || isDom i k))) &&
  A.all (fun i => !isDom i i) &&
  L.all (fun i => L.all (fun j => j == i || isCov i j || notCovers W t (mu i) (mu j)))

theorem roundSound_of_check (W : Mat) (t : Vec) (mu : Nat → Vec) (isDom isCov : Rel) (S P U : List Nat)
    (h : roundSoundB W t mu isDom isCov S P U = true) :
    RoundSound (fun j i => dominates W (mu j) (mu i) = true)
      (fun i j => notCovers W t (mu i) (mu j) = true) isDom isCov S P U := by
  unfold roundSoundB at h
  simp only [Bool.and_eq_true, List.all_eq_true, List.mem_append, Bool.or_eq_true, beq_iff_eq,
    Bool.not_eq_true', Bool.and_eq_false_imp] at h
  obtain ⟨⟨⟨h1, h2⟩, h3⟩, h4⟩ := h
  -- each clause of the check, with the alternatives the hypotheses exclude removed
  exact
    { dom_sound := fun i hi j hj hne hij => (h1 i hi j hj).resolve_left fun h =>
        h.elim hne fun h => Bool.false_ne_true (h.symm.trans hij)
      dom_trans := fun i j k hi hj hk hij hjk => (h2 i hi j hj k hk).resolve_left fun h =>
        Bool.false_ne_true ((h hij).symm.trans hjk)
      dom_irrefl := h3
      cov_sound := fun i j hi hj hne hij => (h4 i hi j hj).resolve_left fun h =>
        h.elim hne fun h => Bool.false_ne_true (hij.symm.trans h) }

/-- Boolean check of `VRoundSound` at the true values -/
def vroundSoundB (W : Mat) (s : Vec) (mu : Nat → Vec) (isDom isCov : Rel) (S P : List Nat) : Bool :=
  let L := S ++ P
  S.all (fun i => L.all (fun j => j == i || !isDom i j || dominates W (vadd (mu j) s) (mu i))) &&
  S.all (fun i => L.all (fun j => j == i || isCov i j || !dominates W (mu j) (vadd (mu i) s)))

theorem vroundSound_of_check (W : Mat) (s : Vec) (mu : Nat → Vec) (isDom isCov : Rel) (S P : List Nat)
    (h : vroundSoundB W s mu isDom isCov S P = true) :
    VRoundSound (fun j i => dominates W (vadd (mu j) s) (mu i) = true)
      (fun j i => dominates W (mu j) (vadd (mu i) s) = true) isDom isCov S P := by
  unfold vroundSoundB at h
  simp only [Bool.and_eq_true, List.all_eq_true, List.mem_append, Bool.or_eq_true, beq_iff_eq,
    Bool.not_eq_true'] at h
  obtain ⟨h1, h2⟩ := h
  exact
    { dom_sound := fun i hi j hj hne hij => (h1 i hi j hj).resolve_left fun h =>
        h.elim hne fun h => Bool.false_ne_true (h.symm.trans hij)
      cov_sound := fun i hi j hj hne hij hsd => (h2 i hi j hj).elim
        (fun h => h.elim hne fun h => Bool.false_ne_true (hij.symm.trans h))
        fun h => Bool.false_ne_true (h.symm.trans hsd) }

end VOPy.Accuracy
