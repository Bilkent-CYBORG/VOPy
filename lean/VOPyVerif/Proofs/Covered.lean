import VOPyVerif.Model.Covered
import VOPyVerif.Proofs.LinCertComplete
import Mathlib.Data.Set.Defs
import Mathlib.Data.List.GetD
import Mathlib.Data.List.Forall2
/-!
# Semantics of "is covered" over `ℝ` and the rectangle LP

`Cov R₁ R₂ W s t` — `∃ z ∈ R₁, ∃ z' ∈ R₂, W (z' − z − s) ≥ t` — is the semantic predicate of C10,
with an objective-space shift `s` *and* a per-facet margin `t`.  For boxes it is feasibility over `ℝ`
of the LP `rectSys` the code builds (`rectSys_sat`, `rectSys_feasible_iff`).

Every verdict function `f` of the model gets one lemma `f_sound : (f …).Sound P` (`Verdict.Sound`: right
whenever conclusive; built from `Sound.ite_yes/no`, `Sound.orElse`, `Sound.congr`) and one `f_total`;
`Sound.decides` turns the pair into `yes ↔ P`, `no ↔ ¬P`.  Here: `feasibleC` (`feasibleC_decides`) and
`rectVerdict` (`rectVerdict_lp`, `rectVerdict_total`, `rectVerdict_iff`).
-/
namespace VOPy.Covered
open VOPy.LinCert

/-- `z ∈ [l, u]` componentwise; all three lists have the same length -/
def InBox : Vec → Vec → RVec → Prop
  | l :: ls, u :: us, z :: zs => (l : ℝ) ≤ z ∧ z ≤ (u : ℝ) ∧ InBox ls us zs
  | [], [], [] => True
  | _, _, _ => False

/-- the real box `[l, u]` -/
def box (l u : Vec) : Set RVec := {z | InBox l u z}

/-- `w · d ≥ tᵢ` for every facet `w` (rows of `W` and thresholds `t` in one-to-one correspondence) -/
def FacetGe : Mat → RVec → Vec → Prop
  | w :: W, d, t :: ts => (t : ℝ) ≤ rdot (castV w) d ∧ FacetGe W d ts
  | [], _, [] => True
  | _, _, _ => False

/-- **The semantic predicate of C10**: some point of `R₂` dominates some point of `R₁` shifted by
`s`, with margin `tᵢ` on facet `i`:  `∃ z ∈ R₁, ∃ z' ∈ R₂, ∀ i, wᵢ · (z' − z − s) ≥ tᵢ`. -/
def Cov (R₁ R₂ : Set RVec) (W : Mat) (s t : Vec) : Prop :=
  ∃ z ∈ R₁, ∃ z' ∈ R₂, FacetGe W (rsub (rsub z' z) (castV s)) t

/-! ### boxes and facets entry by entry -/

theorem InBox.induction {P : ∀ (l u : Vec) (z : RVec), InBox l u z → Prop} (nil : P [] [] [] trivial)
    (cons : ∀ (a b : ℚ) (c : ℝ) (l u : Vec) (z : RVec) (h1 : (a : ℝ) ≤ c) (h2 : c ≤ (b : ℝ))
      (h : InBox l u z), P l u z h → P (a :: l) (b :: u) (c :: z) ⟨h1, h2, h⟩) :
    ∀ (l u : Vec) (z : RVec) (h : InBox l u z), P l u z h
  | [], [], [], _ => nil
  | [], [], _ :: _, h => h.elim
  | [], _ :: _, _, h => h.elim
  | _ :: _, [], _, h => h.elim
  | _ :: _, _ :: _, [], h => h.elim
  | a :: l, b :: u, c :: z, h => cons a b c l u z h.1 h.2.1 h.2.2 (InBox.induction nil cons l u z h.2.2)

theorem InBox.length_eq {l u : Vec} {z : RVec} (h : InBox l u z) :
    z.length = l.length ∧ u.length = l.length := by
  induction l, u, z, h using InBox.induction with
  | nil => exact ⟨rfl, rfl⟩
  | cons a b c l u z _ _ _ ih => exact ⟨congrArg Nat.succ ih.1, congrArg Nat.succ ih.2⟩

/-- `FacetGe` is the row-by-row relation `tᵢ ≤ wᵢ · d` -/
theorem facetGe_iff_forall₂ : ∀ (W : Mat) (d : RVec) (t : Vec),
    FacetGe W d t ↔ List.Forall₂ (fun w τ => ((τ : ℚ) : ℝ) ≤ rdot (castV w) d) W t
  | [], _, [] => by simp [FacetGe]
  | [], _, _ :: _ => by simp [FacetGe]
  | _ :: _, _, [] => by simp [FacetGe]
  | w :: W, d, τ :: t => by simp only [FacetGe, List.forall₂_cons, facetGe_iff_forall₂ W d t]

theorem FacetGe.length_eq : ∀ {W : Mat} {d : RVec} {t : Vec}, FacetGe W d t → W.length = t.length :=
  fun h => ((facetGe_iff_forall₂ _ _ _).1 h).length_eq

theorem expandSlack_length {k : ℕ} {s sv : Vec} (h : expandSlack k s = some sv) : sv.length = k := by
  unfold expandSlack at h
  split at h
  · simp only [Option.some.injEq] at h; rw [← h]; simp
  · split at h
    · rename_i hl; simp only [Option.some.injEq] at h; rw [← h]; exact hl
    · cases h

theorem inBox_iff_getD (l u : Vec) (z : RVec) :
    InBox l u z ↔ z.length = l.length ∧ u.length = l.length ∧
      ∀ i, i < l.length → ((l.getD i 0 : ℚ) : ℝ) ≤ z.getD i 0 ∧ z.getD i 0 ≤ ((u.getD i 0 : ℚ) : ℝ) := by
  -- for lists of one length, entry by entry
  have key : ∀ (l u : Vec) (z : RVec), l.length = u.length → z.length = l.length →
      (InBox l u z ↔ ∀ i, i < l.length →
        ((l.getD i 0 : ℚ) : ℝ) ≤ z.getD i 0 ∧ z.getD i 0 ≤ ((u.getD i 0 : ℚ) : ℝ)) := by
    intro l u z hu hz
    induction l, u, hu using eqLen_induction generalizing z with
    | nil => cases z with
      | nil => exact ⟨fun _ i hi => absurd hi (Nat.not_lt_zero i), fun _ => trivial⟩
      | cons c z => cases hz
    | cons a l b u _ ih => cases z with
      | nil => cases hz
      | cons c z =>
        simp only [InBox, ih z (Nat.succ.inj hz), List.length_cons, Nat.forall_lt_succ_left,
          List.getD_cons_zero, List.getD_cons_succ, and_assoc]
  exact ⟨fun h => ⟨h.length_eq.1, h.length_eq.2, (key l u z h.length_eq.2.symm h.length_eq.1).1 h⟩,
    fun ⟨hz, hu, h⟩ => (key l u z hu.symm hz).2 h⟩

/-! ### the rows of the LP -/

theorem rdot_unitVec : ∀ (n k : ℕ) (c : ℚ) (x : RVec), x.length = n →
    rdot (castV (unitVec n k c)) x = (c : ℝ) * x.getD k 0
  | 0, k, c, x, h => by
    rw [List.length_eq_zero_iff.1 h, unitVec, castV_nil, rdot_nil_left, List.getD_nil, mul_zero]
  | n + 1, _, c, [], h => nomatch h
  | n + 1, 0, c, x :: xs, h => by
    rw [unitVec, castV_cons, rdot_cons, rdot_castV_zeros, add_zero, List.getD_cons_zero]
  | n + 1, k + 1, c, x :: xs, h => by
    rw [unitVec, castV_cons, rdot_cons, rdot_unitVec n k c xs (Nat.succ.inj h), Rat.cast_zero,
      zero_mul, zero_add, List.getD_cons_succ]

theorem axisRows_sat (n : ℕ) (c : ℚ) (x : RVec) (hx : x.length = n) : ∀ (bs : Vec) (k : ℕ),
    (∀ r ∈ axisRows n c k bs, (r.b : ℝ) ≤ rdot (castV r.a) x) ↔
      ∀ i, i < bs.length → ((bs.getD i 0 : ℚ) : ℝ) ≤ (c : ℝ) * x.getD (k + i) 0
  | [], k => by simp [axisRows]
  | b :: bs, k => by
    simp only [axisRows, List.forall_mem_cons, axisRows_sat n c x hx bs (k + 1), List.length_cons,
      Nat.forall_lt_succ_left, List.getD_cons_zero, List.getD_cons_succ, rdot_unitVec n k c x hx,
      Nat.add_zero, Nat.add_right_comm k 1, Nat.add_assoc k _ 1]

theorem unitVec_length : ∀ (n k : ℕ) (c : ℚ), (unitVec n k c).length = n
  | 0, _, _ => rfl
  | n + 1, 0, c => by simp [unitVec]
  | n + 1, k + 1, c => by simp [unitVec, unitVec_length n k c]

theorem axisRows_wf (n : ℕ) (c : ℚ) : ∀ (bs : Vec) (k : ℕ), ∀ r ∈ axisRows n c k bs, r.a.length = n
  | [], _ => by simp [axisRows]
  | b :: bs, k => by
    intro r hr
    simp only [axisRows, List.mem_cons] at hr
    rcases hr with rfl | hr
    · exact unitVec_length n k c
    · exact axisRows_wf n c bs (k + 1) r hr

theorem getD_vneg (u : Vec) (i : ℕ) : (vneg u).getD i 0 = -u.getD i 0 := by
  have := List.getD_map (l := u) (d := (0 : ℚ)) (n := i) (fun x : ℚ => -x)
  rwa [neg_zero] at this

theorem getD_vsub : ∀ (a b : Vec) (i : ℕ), i < a.length → i < b.length →
    (vsub a b).getD i 0 = a.getD i 0 - b.getD i 0 :=
  fun a b i h1 h2 => getD_zipWith _ a b i h1 h2 0 0 0

theorem getD_rsub : ∀ (a b : RVec) (i : ℕ), i < a.length → i < b.length →
    (rsub a b).getD i 0 = a.getD i 0 - b.getD i 0 :=
  fun a b i h1 h2 => getD_zipWith _ a b i h1 h2 0 0 0

theorem getD_castV (v : Vec) (i : ℕ) : (castV v).getD i 0 = ((v.getD i 0 : ℚ) : ℝ) := by
  have := List.getD_map (l := v) (d := (0 : ℚ)) (n := i) (fun q : ℚ => (q : ℝ))
  rwa [Rat.cast_zero] at this

theorem rdot_append (a b x y : RVec) (h : a.length = x.length) :
    rdot (a ++ b) (x ++ y) = rdot a x + rdot b y := by
  induction a, x, h using eqLen_induction with
  | nil => exact (zero_add _).symm
  | cons a as x xs _ ih => rw [List.cons_append, List.cons_append, rdot_cons, rdot_cons, ih, add_assoc]

theorem rdot_castV_vneg (w : Vec) (z : RVec) : rdot (castV (vneg w)) z = -rdot (castV w) z := by
  have e : castV (vneg w) = (castV w).map (- ·) := by
    simp only [castV, vneg, List.map_map, Function.comp_def, Rat.cast_neg]
  rw [e, rdot_comm, rdot_eq_gdot, ConeOrd.gdot_neg, ← rdot_eq_gdot, rdot_comm]

/-- one cone row of the `(z, z')` LP: `(−w, w) · (z, z') − w · s = w · (z' − z − s)` -/
theorem coneRow2 (m : ℕ) (w s : Vec) (z z' : RVec) (hw : w.length = m) (hz : z.length = m)
    (hz' : z'.length = m) (hs : s.length = m) :
    rdot (castV (vneg w ++ w)) (z ++ z') - ((dot w s : ℚ) : ℝ) =
      rdot (castV w) (rsub (rsub z' z) (castV s)) := by
  rw [castV_append, rdot_append _ _ _ _ (by rw [castV_length, vneg_length, hw, hz]),
    rdot_castV_vneg, cast_dot,
    rdot_rsub_right _ _ _ (by rw [rsub_length, hz', hz, Nat.min_self, castV_length, hs]),
    rdot_rsub_right _ _ _ (hz'.trans hz.symm)]
  ring

/-- cone rows of the `(z, z')` LP ⇔ `W (z' − z − s) ≥ t` -/
theorem coneRows2_sat (m : ℕ) (z z' : RVec) (s : Vec) (hz : z.length = m) (hz' : z'.length = m)
    (hs : s.length = m) (W : Mat) (t : Vec) (hW : ∀ w ∈ W, w.length = m) (hl : W.length = t.length) :
    ((∀ r ∈ coneRows2 W s t, (r.b : ℝ) ≤ rdot (castV r.a) (z ++ z')) ↔
      FacetGe W (rsub (rsub z' z) (castV s)) t) := by
  induction W, t, hl using eqLen_induction with
  | nil => simp [coneRows2, FacetGe]
  | cons w W t ts _ ih =>
    have ih := ih fun w hw => hW w (List.mem_cons_of_mem _ hw)
    simp only [coneRows2] at ih
    simp only [coneRows2, List.zipWith_cons_cons, List.forall_mem_cons, FacetGe, ih]
    rw [← coneRow2 m w s z z' (hW w List.mem_cons_self) hz hz' hs, Rat.cast_add, le_sub_iff_add_le']

/-- the two blocks of box rows at offset `k`: `x_{k+i} ≥ lᵢ`, `−x_{k+i} ≥ −uᵢ` ⇔ the entries of `x`
from `k` on form a point of `[l, u]` -/
theorem boxRows_sat (n k : ℕ) (l u : Vec) (x z : RVec) (hx : x.length = n)
    (hu : u.length = l.length) (hz : z.length = l.length)
    (hxz : ∀ i, i < l.length → x.getD (k + i) 0 = z.getD i 0) :
    (∀ r ∈ axisRows n 1 k l ++ axisRows n (-1) k (vneg u), (r.b : ℝ) ≤ rdot (castV r.a) x) ↔
      InBox l u z := by
  rw [List.forall_mem_append, axisRows_sat n _ x hx, axisRows_sat n _ x hx, inBox_iff_getD,
    vneg_length, hu]
  constructor
  · rintro ⟨ha, hb⟩
    refine ⟨hz, rfl, fun i hi => ?_⟩
    have ha := ha i hi
    have hb := hb i hi
    rw [hxz i hi] at ha hb
    rw [getD_vneg] at hb
    push_cast at ha hb
    exact ⟨by linarith only [ha], by linarith only [hb]⟩
  · rintro ⟨-, -, h⟩
    refine ⟨fun i hi => ?_, fun i hi => ?_⟩
    · rw [hxz i hi]; push_cast; linarith only [(h i hi).1]
    · rw [hxz i hi, getD_vneg]; push_cast; linarith only [(h i hi).2]

/-! ### the LP `rectSys` -/

/-- the shape of a rectangle instance: bounds, shift and cone rows of one dimension `l1.length`, one
margin per facet -/
structure RectWF (W : Mat) (l1 u1 l2 u2 s t : Vec) : Prop where
  hu1 : u1.length = l1.length
  hl2 : l2.length = l1.length
  hu2 : u2.length = l1.length
  hs : s.length = l1.length
  ht : W.length = t.length
  hW : ∀ w ∈ W, w.length = l1.length

/-- **The LP of the code describes the semantic predicate.**  For real `z, z'` of the right length:
`z ++ z'` satisfies `rectSys` iff `z ∈ [l₁,u₁]`, `z' ∈ [l₂,u₂]` and `W (z' − z − s) ≥ t`. -/
theorem rectSys_sat {W : Mat} {l1 u1 l2 u2 s t : Vec} {z z' : RVec} (h : RectWF W l1 u1 l2 u2 s t)
    (hz : z.length = l1.length) (hz' : z'.length = l1.length) :
    RSat (2 * l1.length) (rectSys W l1 u1 l2 u2 s t) (z ++ z') ↔
      InBox l1 u1 z ∧ InBox l2 u2 z' ∧ FacetGe W (rsub (rsub z' z) (castV s)) t := by
  have hx : (z ++ z').length = 2 * l1.length := by rw [List.length_append, hz, hz', Nat.two_mul]
  have b1 := boxRows_sat (2 * l1.length) 0 l1 u1 (z ++ z') z hx h.hu1 hz fun i hi => by
    rw [Nat.zero_add, List.getD_append _ _ _ _ (hz.symm ▸ hi)]
  have b2 := boxRows_sat (2 * l1.length) l1.length l2 u2 (z ++ z') z' hx (h.hu2.trans h.hl2.symm)
    (hz'.trans h.hl2.symm) fun i _ => by
    rw [List.getD_append_right _ _ _ _ (hz ▸ Nat.le_add_right _ _), hz, Nat.add_sub_cancel_left]
  rw [RSat, rectSys, ← b1, ← b2, ← coneRows2_sat l1.length z z' s hz hz' h.hs W t h.hW h.ht]
  simp only [List.forall_mem_append, and_assoc, hx, true_and]

theorem split_two (m : ℕ) (x : RVec) (hx : x.length = 2 * m) :
    ∃ z z' : RVec, x = z ++ z' ∧ z.length = m ∧ z'.length = m :=
  ⟨x.take m, x.drop m, (List.take_append_drop m x).symm,
    by rw [List.length_take, hx]; exact Nat.min_eq_left (Nat.le_mul_of_pos_left m Nat.two_pos),
    by rw [List.length_drop, hx, Nat.two_mul, Nat.add_sub_cancel]⟩

/-- **The LP is feasible over `ℝ` iff the semantic predicate holds.** -/
theorem rectSys_feasible_iff {W : Mat} {l1 u1 l2 u2 s t : Vec} (h : RectWF W l1 u1 l2 u2 s t) :
    (∃ x : RVec, RSat (2 * l1.length) (rectSys W l1 u1 l2 u2 s t) x) ↔
      Cov (box l1 u1) (box l2 u2) W s t := by
  constructor
  · rintro ⟨x, hx⟩
    obtain ⟨z, z', hzz, hz, hz'⟩ := split_two l1.length _ hx.1
    rw [hzz] at hx
    have := (rectSys_sat h hz hz').1 hx
    exact ⟨z, this.1, z', this.2.1, this.2.2⟩
  · rintro ⟨z, hz, z', hz', hc⟩
    exact ⟨z ++ z', (rectSys_sat h (InBox.length_eq hz).1
      ((InBox.length_eq hz').1.trans h.hl2)).2 ⟨hz, hz', hc⟩⟩

/-! ### verdicts that are right whenever they are conclusive -/

/-- `v` answers `yes` only if `P` holds and `no` only if it fails -/
structure Verdict.Sound (v : Verdict) (P : Prop) : Prop where
  of_yes : v = .yes → P
  of_no : v = .no → ¬ P

/-- the first conclusive answer of two procedures -/
def Verdict.orElse : Verdict → Verdict → Verdict
  | .inconclusive, v' => v'
  | v, _ => v

/-- a certified feasibility answer read as a verdict -/
def Verdict.ofOpt : Option Bool → Verdict
  | some true => .yes
  | some false => .no
  | none => .inconclusive

namespace Verdict
variable {v v' : Verdict} {P Q : Prop}

theorem Sound.spec (h : Sound v P) : (v = .yes → P) ∧ (v = .no → ¬ P) := ⟨h.of_yes, h.of_no⟩

theorem Sound.inconclusive : Sound .inconclusive P := ⟨nofun, nofun⟩
theorem Sound.yes (h : P) : Sound .yes P := ⟨fun _ => h, nofun⟩
theorem Sound.no (h : ¬ P) : Sound .no P := ⟨nofun, fun _ => h⟩

theorem Sound.ite_yes {c : Prop} [Decidable c] (h : c → P) :
    Sound (if c then .yes else .inconclusive) P := by
  split
  · exact .yes (h ‹_›)
  · exact .inconclusive

theorem Sound.ite_no {c : Prop} [Decidable c] (h : c → ¬ P) :
    Sound (if c then .no else .inconclusive) P := by
  split
  · exact .no (h ‹_›)
  · exact .inconclusive

theorem Sound.orElse (h : Sound v P) (h' : Sound v' P) : Sound (v.orElse v') P := by
  cases v <;> first | exact h | exact h'

theorem Sound.congr (h : Sound v P) (e : P ↔ Q) : Sound v Q :=
  ⟨fun hv => e.1 (h.of_yes hv), fun hv hq => h.of_no hv (e.2 hq)⟩

/-- sound and total: the verdict decides `P` -/
theorem Sound.decides (h : Sound v P) (ht : v ≠ .inconclusive) : (v = .yes ↔ P) ∧ (v = .no ↔ ¬ P) := by
  cases v with
  | yes => exact ⟨iff_of_true rfl (h.of_yes rfl), iff_of_false nofun (not_not_intro (h.of_yes rfl))⟩
  | no => exact ⟨iff_of_false nofun (h.of_no rfl), iff_of_true rfl (h.of_no rfl)⟩
  | inconclusive => exact absurd rfl ht

theorem orElse_ne (h' : v' ≠ .inconclusive) : v.orElse v' ≠ .inconclusive := by
  cases v <;> first | exact h' | nofun

@[simp] theorem ofOpt_eq_yes {o : Option Bool} : ofOpt o = .yes ↔ o = some true := by
  rcases o with _ | _ | _ <;> simp [ofOpt]

@[simp] theorem ofOpt_eq_no {o : Option Bool} : ofOpt o = .no ↔ o = some false := by
  rcases o with _ | _ | _ <;> simp [ofOpt]

theorem ofOpt_ne {o : Option Bool} (h : o = some true ∨ o = some false) : ofOpt o ≠ .inconclusive := by
  rcases h with rfl | rfl <;> nofun

end Verdict

open Verdict

/-- a guarded decision: `o.map f` answers `yes` / `no` exactly when the guard passes with some `a` and
`P a` holds / fails, `none` exactly when the guard fails, and never `inconclusive` -/
theorem map_decides {α : Type} {o : Option α} {f : α → Verdict} {P : α → Prop}
    (h : ∀ a, o = some a → ((f a = .yes ↔ P a) ∧ (f a = .no ↔ ¬ P a)) ∧ f a ≠ .inconclusive) :
    (o.map f = some .yes ↔ ∃ a, o = some a ∧ P a) ∧ (o.map f = some .no ↔ ∃ a, o = some a ∧ ¬ P a) ∧
    (o.map f = none ↔ o = none) ∧ o.map f ≠ some .inconclusive := by
  cases o with
  | none => simp
  | some a =>
    obtain ⟨⟨hy, hn⟩, ht⟩ := h a rfl
    simp only [Option.map_some, Option.some.injEq, reduceCtorEq, exists_eq_left', ne_eq, true_and]
    exact ⟨hy, hn, ht⟩

/-- the same for a verdict that is only known to be right when conclusive -/
theorem map_sound {α : Type} {o : Option α} {f : α → Verdict} {P : α → Prop}
    (h : ∀ a, o = some a → (f a).Sound (P a)) :
    (o.map f = some .yes → ∃ a, o = some a ∧ P a) ∧ (o.map f = some .no → ∃ a, o = some a ∧ ¬ P a) := by
  cases o with
  | none => exact ⟨nofun, nofun⟩
  | some a =>
    exact ⟨fun hv => ⟨a, rfl, (h a rfl).of_yes (Option.some.inj hv)⟩,
      fun hv => ⟨a, rfl, (h a rfl).of_no (Option.some.inj hv)⟩⟩

theorem verdict_congr {v v' : Verdict} {P P' : Prop} (hv : v ≠ .inconclusive)
    (hv' : v' ≠ .inconclusive) (h : v = .yes ↔ P) (h' : v' = .yes ↔ P') (hP : P ↔ P') : v = v' := by
  have := h.trans (hP.trans h'.symm)
  cases v <;> cases v' <;> simp_all

/-! ### certified feasibility -/

/-- a search answer kept only if its checker accepts it is right about real feasibility -/
theorem certified_sound (n : ℕ) (S : Sys) (res : Result) :
    (ofOpt (certified n S res)).Sound (∃ x : RVec, RSat n S x) := by
  cases res with
  | witness x =>
    show Sound (ofOpt (if checkWitness n S x = true then some true else none)) _
    split
    · exact .yes ⟨_, checkWitness_sound ‹_›⟩
    · exact .inconclusive
  | farkas y =>
    show Sound (ofOpt (if checkFarkas n S y = true then some false else none)) _
    split
    · exact .no (checkFarkas_sound ‹_›)
    · exact .inconclusive

theorem feasibleC_eq (n : ℕ) (S : Sys) :
    ofOpt (feasibleC n S) = (ofOpt (feasible n S)).orElse (ofOpt (feasibleFM n S)) := by
  unfold feasibleC
  rcases feasible n S with _ | _ | _ <;> rfl

theorem feasibleC_sound (n : ℕ) (S : Sys) : (ofOpt (feasibleC n S)).Sound (∃ x : RVec, RSat n S x) :=
  feasibleC_eq n S ▸ (certified_sound n S (solve n S)).orElse (certified_sound n S (solvePlain n S))

/-- `feasibleC` decides real feasibility of a well-formed system -/
theorem feasibleC_decides (n : ℕ) (S : Sys) (hwf : wf n S = true) :
    (feasibleC n S = some true ↔ ∃ x : RVec, RSat n S x) ∧
    (feasibleC n S = some false ↔ ¬ ∃ x : RVec, RSat n S x) := by
  simpa using (feasibleC_sound n S).decides (ofOpt_ne (feasibleC_complete n S hwf))

theorem feasibleC_true_iff (n : ℕ) (S : Sys) (hwf : wf n S = true) :
    feasibleC n S = some true ↔ ∃ x : RVec, RSat n S x := (feasibleC_decides n S hwf).1

theorem feasibleC_false_iff (n : ℕ) (S : Sys) (hwf : wf n S = true) :
    feasibleC n S = some false ↔ ¬ ∃ x : RVec, RSat n S x := (feasibleC_decides n S hwf).2

/-! ### the rectangle verdict -/

theorem rectSys_wf (W : Mat) (l1 u1 l2 u2 s t : Vec) (hW : ∀ w ∈ W, w.length = l1.length) :
    wf (2 * l1.length) (rectSys W l1 u1 l2 u2 s t) = true := by
  rw [wf_iff]
  intro r hr
  simp only [rectSys, List.mem_append] at hr
  rcases hr with (((hr | hr) | hr) | hr) | hr
  · exact axisRows_wf _ _ _ _ r hr
  · exact axisRows_wf _ _ _ _ r hr
  · exact axisRows_wf _ _ _ _ r hr
  · exact axisRows_wf _ _ _ _ r hr
  · simp only [coneRows2] at hr
    obtain ⟨i, hi, rfl⟩ := List.mem_iff_getElem.1 hr
    simp only [List.getElem_zipWith, List.length_append, vneg_length]
    rw [hW _ (List.getElem_mem _)]; omega

/-- what the fast path certifies about the LP of the code -/
theorem rectVerdictFast_sound (W : Mat) (l1 u1 l2 u2 s t : Vec) :
    (rectVerdictFast W l1 u1 l2 u2 s t).Sound
      (∃ x : RVec, RSat (2 * l1.length) (rectSys W l1 u1 l2 u2 s t) x) := by
  unfold rectVerdictFast
  simp only
  split
  · exact Sound.ite_yes fun h => ⟨_, checkWitness_sound h⟩
  · exact Sound.ite_no fun h => checkFarkas_sound h

/-- the verdict is the fast verdict when that is conclusive, the complete decision otherwise -/
theorem rectVerdict_eq (W : Mat) (l1 u1 l2 u2 s t : Vec) :
    rectVerdict W l1 u1 l2 u2 s t = (rectVerdictFast W l1 u1 l2 u2 s t).orElse
      (ofOpt (feasibleFM (2 * l1.length) (rectSys W l1 u1 l2 u2 s t))) := by
  unfold rectVerdict
  cases rectVerdictFast W l1 u1 l2 u2 s t <;> rfl

/-- what a conclusive rectangle verdict certifies about the LP of the code -/
theorem rectVerdict_lp (W : Mat) (l1 u1 l2 u2 s t : Vec) :
    (rectVerdict W l1 u1 l2 u2 s t).Sound
      (∃ x : RVec, RSat (2 * l1.length) (rectSys W l1 u1 l2 u2 s t) x) :=
  rectVerdict_eq .. ▸ (rectVerdictFast_sound ..).orElse (certified_sound _ _ (solvePlain _ _))

/-- **The rectangle verdict is total**: with cone rows of the right length it is never
`inconclusive` (completeness of Fourier–Motzkin elimination). -/
theorem rectVerdict_total (W : Mat) (l1 u1 l2 u2 s t : Vec) (hW : ∀ w ∈ W, w.length = l1.length) :
    rectVerdict W l1 u1 l2 u2 s t ≠ .inconclusive :=
  rectVerdict_eq .. ▸ orElse_ne (ofOpt_ne (feasibleFM_complete _ _ (rectSys_wf W l1 u1 l2 u2 s t hW)))

/-- **The rectangle verdict decides** `Cov`: `yes ↔ Cov`, `no ↔ ¬Cov`. -/
theorem rectVerdict_iff {W : Mat} {l1 u1 l2 u2 s t : Vec} (h : RectWF W l1 u1 l2 u2 s t) :
    (rectVerdict W l1 u1 l2 u2 s t = .yes ↔ Cov (box l1 u1) (box l2 u2) W s t) ∧
    (rectVerdict W l1 u1 l2 u2 s t = .no ↔ ¬ Cov (box l1 u1) (box l2 u2) W s t) :=
  ((rectVerdict_lp ..).congr (rectSys_feasible_iff h)).decides (rectVerdict_total _ _ _ _ _ _ _ h.hW)

theorem rectVerdict_congr {W W' : Mat} {l1 u1 l2 u2 s t l1' u1' l2' u2' s' t' : Vec}
    (h : RectWF W l1 u1 l2 u2 s t) (h' : RectWF W' l1' u1' l2' u2' s' t')
    (hcov : Cov (box l1' u1') (box l2' u2') W' s' t' ↔ Cov (box l1 u1) (box l2 u2) W s t) :
    rectVerdict W' l1' u1' l2' u2' s' t' = rectVerdict W l1 u1 l2 u2 s t :=
  verdict_congr (rectVerdict_total _ _ _ _ _ _ _ h'.hW) (rectVerdict_total _ _ _ _ _ _ _ h.hW)
    (rectVerdict_iff h').1 (rectVerdict_iff h).1 hcov

end VOPy.Covered
