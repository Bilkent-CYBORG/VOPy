import VOPyVerif.Proofs.Adaptive
import Mathlib.Data.List.Nodup
import Mathlib.Data.List.Range
/-!
# Invariants of the cell tree

`Space.WF` (node list well formed), `Space.Tiles` (the leaves tile the cube), `Space.DepthOk`; what
`refine` and `setRegion` do to the node list; `Space.Stable`: a predicate on spaces that survives both,
which is all the operation sequences (`Algo.run`, `Space.runOps`) need to know about it.
-/
namespace VOPy.Adaptive

/-- the domain `[0,1]^d` as a cell (the root's cell) -/
def unitCell (d : Nat) : Cell := List.replicate d ((0 : Rat), (1 : Rat))

def Space.cellAt (s : Space) (i : Nat) : Option Cell := (s.nodes[i]?).map Node.cell
def Space.depthAt (s : Space) (i : Nat) : Option Nat := (s.nodes[i]?).map Node.depth

theorem Space.isLeaf_iff (s : Space) (i : Nat) :
    s.isLeaf i = true ↔ i < s.nodes.length ∧ i ∉ s.refined := by
  simp [Space.isLeaf]

theorem leaves_nodup (s : Space) : s.leaves.Nodup :=
  List.nodup_range.filter _

theorem mem_leaves {s : Space} {i : Nat} : i ∈ s.leaves ↔ s.isLeaf i = true := by
  simp only [Space.leaves, List.mem_filter, List.mem_range, Space.isLeaf_iff]
  constructor
  · exact fun h => h.2
  · exact fun h => ⟨h.1, h⟩

/-- well-formedness of the node list (independent of the point space `K`) -/
structure Space.WF (d : Nat) (s : Space) : Prop where
  refinedLt : ∀ i ∈ s.refined, i < s.nodes.length
  cellLen : ∀ n ∈ s.nodes, n.cell.length = d
  centre : ∀ n ∈ s.nodes, n.point = centre n.cell
  depthPos : ∀ n ∈ s.nodes, 1 ≤ n.depth
  side : ∀ n ∈ s.nodes, ∀ q ∈ n.cell, q.2 - q.1 = 1 / 2 ^ (n.depth - 1)

/-- the leaves tile `[0,1]^d` -/
structure Space.Tiles (K : Type*) [Field K] [LinearOrder K] [IsStrictOrderedRing K] (d : Nat)
    (s : Space) : Prop where
  cover : ∀ x : List K, InCell x (unitCell d) →
    ∃ i c, s.isLeaf i = true ∧ s.cellAt i = some c ∧ InCell x c
  inside : ∀ i c, s.isLeaf i = true → s.cellAt i = some c →
    ∀ x : List K, InCell x c → InCell x (unitCell d)
  disjoint : ∀ i j ci cj, s.isLeaf i = true → s.isLeaf j = true → i ≠ j →
    s.cellAt i = some ci → s.cellAt j = some cj → IntDisjoint K ci cj

/-- no node is deeper than the maximum depth -/
def Space.DepthOk (s : Space) : Prop := ∀ n ∈ s.nodes, n.depth ≤ s.maxDepth

theorem Space.cellAt_of_getElem? {s : Space} {i : Nat} {p : Node} (hp : s.nodes[i]? = some p) :
    s.cellAt i = some p.cell := by
  rw [Space.cellAt, hp]
  rfl

/-! ## `refine` -/

theorem Space.refine_eq {s : Space} {i : Nat} {s' : Space} {ch : List Nat}
    (h : s.refine i = some (s', ch)) :
    ∃ p, s.nodes[i]? = some p ∧ s'.nodes = s.nodes ++ children p ∧ s'.refined = i :: s.refined ∧
      s'.maxDepth = s.maxDepth ∧
      ch = (List.range (children p).length).map (fun k => s.nodes.length + k) := by
  unfold Space.refine at h
  split at h
  · exact nomatch h
  · rename_i p hp
    rw [Option.some.injEq, Prod.mk.injEq] at h
    obtain ⟨rfl, rfl⟩ := h
    exact ⟨p, hp, rfl, rfl, rfl, rfl⟩

theorem children_length (p : Node) : (children p).length = 2 ^ p.cell.length := by
  rw [children, List.length_map, childCells_length]

theorem mem_children {p nd : Node} (h : nd ∈ children p) :
    ∃ c ∈ childCells p.cell, nd = mkChild p c := by
  obtain ⟨c, hc, rfl⟩ := List.mem_map.mp h
  exact ⟨c, hc, rfl⟩

theorem children_getElem? (p : Node) (a : Nat) :
    (children p)[a]? = ((childCells p.cell)[a]?).map (mkChild p) :=
  List.getElem?_map

section refine
variable {s s' : Space} {i : Nat} {ch : List Nat} {p : Node}

theorem refine_cellAt_old (hs : s'.nodes = s.nodes ++ children p) {j : Nat} (hj : j < s.nodes.length) :
    s'.cellAt j = s.cellAt j := by
  rw [Space.cellAt, Space.cellAt, hs, List.getElem?_append_left hj]

theorem refine_depthAt_old (hs : s'.nodes = s.nodes ++ children p) {j : Nat} (hj : j < s.nodes.length) :
    s'.depthAt j = s.depthAt j := by
  rw [Space.depthAt, Space.depthAt, hs, List.getElem?_append_left hj]

theorem refine_cellAt_new (hs : s'.nodes = s.nodes ++ children p) {j : Nat} (hj : s.nodes.length ≤ j) :
    s'.cellAt j = (childCells p.cell)[j - s.nodes.length]? := by
  rw [Space.cellAt, hs, List.getElem?_append_right hj, children_getElem?, Option.map_map]
  exact Option.map_id'

theorem refine_depthAt_new (hs : s'.nodes = s.nodes ++ children p) {j : Nat} (hj : s.nodes.length ≤ j)
    (hj2 : j < s'.nodes.length) : s'.depthAt j = some (p.depth + 1) := by
  have hlt : j - s.nodes.length < (childCells p.cell).length := by
    rw [hs, List.length_append, children, List.length_map] at hj2
    omega
  rw [Space.depthAt, hs, List.getElem?_append_right hj, children_getElem?, List.getElem?_eq_getElem hlt]
  rfl

theorem refine_isLeaf (hwf : ∀ k ∈ s.refined, k < s.nodes.length) (hi : i < s.nodes.length)
    (hn : s'.nodes = s.nodes ++ children p) (hr : s'.refined = i :: s.refined) (j : Nat) :
    s'.isLeaf j = true ↔
      (j < s.nodes.length ∧ s.isLeaf j = true ∧ j ≠ i) ∨
      (s.nodes.length ≤ j ∧ j < s.nodes.length + (children p).length) := by
  rw [Space.isLeaf_iff, Space.isLeaf_iff, hn, hr, List.length_append, List.mem_cons, not_or]
  constructor
  · rintro ⟨h1, h2, h3⟩
    rcases Nat.lt_or_ge j s.nodes.length with hj | hj
    · exact Or.inl ⟨hj, ⟨hj, h3⟩, h2⟩
    · exact Or.inr ⟨hj, h1⟩
  · rintro (⟨h1, ⟨_, h2⟩, h3⟩ | ⟨h1, h2⟩)
    · exact ⟨Nat.lt_add_right _ h1, h3, h2⟩
    · exact ⟨h2, fun h => absurd (h ▸ hi) (Nat.not_lt.mpr h1), fun h => absurd (hwf j h) (Nat.not_lt.mpr h1)⟩

theorem refine_leaf_cell (hwf : ∀ k ∈ s.refined, k < s.nodes.length) (hi : i < s.nodes.length)
    (hn : s'.nodes = s.nodes ++ children p) (hr : s'.refined = i :: s.refined) {j : Nat} {c : Cell}
    (hl : s'.isLeaf j = true) (hc : s'.cellAt j = some c) :
    (s.isLeaf j = true ∧ j ≠ i ∧ s.cellAt j = some c) ∨
      (s.nodes.length ≤ j ∧ (childCells p.cell)[j - s.nodes.length]? = some c) := by
  rcases (refine_isLeaf hwf hi hn hr j).mp hl with ⟨hj, hl, hji⟩ | ⟨hj, _⟩
  · exact Or.inl ⟨hl, hji, refine_cellAt_old hn hj ▸ hc⟩
  · exact Or.inr ⟨hj, refine_cellAt_new hn hj ▸ hc⟩

theorem refine_leaves (hwf : ∀ k ∈ s.refined, k < s.nodes.length) (hi : i < s.nodes.length)
    (hn : s'.nodes = s.nodes ++ children p) (hr : s'.refined = i :: s.refined) :
    s'.leaves = s.leaves.filter (fun j => j != i) ++
      (List.range (children p).length).map (fun k => s.nodes.length + k) := by
  have hleaf' := refine_isLeaf (p := p) hwf hi hn hr
  unfold Space.leaves
  rw [hn, List.length_append, List.range_add, List.filter_append, List.filter_filter]
  congr 1
  · apply List.filter_congr
    intro j hj
    have hj' : j < s.nodes.length := List.mem_range.mp hj
    rw [Bool.eq_iff_iff, hleaf' j]
    simp only [Bool.and_eq_true, bne_iff_ne, ne_eq]
    constructor
    · rintro (⟨_, h2, h3⟩ | ⟨h1, _⟩)
      · exact ⟨h3, h2⟩
      · exact absurd hj' (Nat.not_lt.mpr h1)
    · rintro ⟨h1, h2⟩; exact Or.inl ⟨hj', h2, h1⟩
  · rw [List.filter_eq_self]
    intro j hj
    rw [hleaf' j]
    simp only [List.mem_map, List.mem_range] at hj
    obtain ⟨k, hk, rfl⟩ := hj
    exact Or.inr ⟨Nat.le_add_right _ _, Nat.add_lt_add_left hk _⟩

end refine

/-- a property of nodes holds after a refinement if it held before and holds of the new children -/
theorem forall_mem_refine {s s' : Space} {p : Node} (hn : s'.nodes = s.nodes ++ children p)
    {Q : Node → Prop} (hold : ∀ n ∈ s.nodes, Q n) (hnew : ∀ c ∈ childCells p.cell, Q (mkChild p c)) :
    ∀ n ∈ s'.nodes, Q n := by
  intro n hnm
  rcases List.mem_append.mp (hn ▸ hnm) with hnm | hnm
  · exact hold n hnm
  · obtain ⟨c, hc, rfl⟩ := mem_children hnm
    exact hnew c hc

theorem refine_wf {d : Nat} {s s' : Space} {i : Nat} {ch : List Nat} (hwf : s.WF d)
    (h : s.refine i = some (s', ch)) : s'.WF d := by
  obtain ⟨p, hp, hn, hr, _⟩ := Space.refine_eq h
  have hi := (List.getElem?_eq_some_iff.mp hp).1
  have hpm : p ∈ s.nodes := List.mem_of_getElem? hp
  refine ⟨fun k hk => ?_,
    forall_mem_refine hn hwf.cellLen
      (fun c hc => (length_of_mem_childCells hc).trans (hwf.cellLen p hpm)),
    forall_mem_refine hn hwf.centre (fun _ _ => rfl),
    forall_mem_refine hn hwf.depthPos (fun _ _ => Nat.le_add_left 1 p.depth),
    forall_mem_refine hn hwf.side (fun c hc q hq => ?_)⟩
  · rw [hn, List.length_append]
    rcases List.mem_cons.mp (hr ▸ hk) with rfl | hk
    · exact Nat.lt_add_right _ hi
    · exact Nat.lt_add_right _ (hwf.refinedLt k hk)
  · -- the side of a child is half the parent's side `1 / 2 ^ (p.depth - 1)`
    have hq1 : q.2 - q.1 ∈ c.map (fun q => q.2 - q.1) := List.mem_map_of_mem hq
    rw [sides_of_mem_childCells hc, List.mem_map] at hq1
    obtain ⟨r, hr1, hr2⟩ := hq1
    show q.2 - q.1 = 1 / 2 ^ (p.depth + 1 - 1)
    rw [← hr2, hwf.side p hpm r hr1, Nat.add_sub_cancel, div_div, ← pow_succ,
      Nat.sub_add_cancel (hwf.depthPos p hpm)]

theorem refine_depthOk {s s' : Space} {i : Nat} {ch : List Nat} {p : Node} (hd : s.DepthOk)
    (hp : s.nodes[i]? = some p) (hlt : p.depth < s.maxDepth)
    (h : s.refine i = some (s', ch)) : s'.DepthOk := by
  obtain ⟨p', hp', hn, _, hm, _⟩ := Space.refine_eq h
  cases hp.symm.trans hp'
  rw [Space.DepthOk, hm]
  exact forall_mem_refine hn hd (fun _ _ => hlt)

theorem refine_tiles {K : Type*} [Field K] [LinearOrder K] [IsStrictOrderedRing K]
    {d : Nat} {s s' : Space} {i : Nat} {ch : List Nat} (hwf : s.WF d)
    (ht : s.Tiles K d) (hleaf : s.isLeaf i = true) (h : s.refine i = some (s', ch)) :
    s'.Tiles K d := by
  obtain ⟨p, hp, hn, hr, _⟩ := Space.refine_eq h
  have hi := (List.getElem?_eq_some_iff.mp hp).1
  have hleaf' := refine_isLeaf (p := p) hwf.refinedLt hi hn hr
  have hcases := @refine_leaf_cell s s' i p hwf.refinedLt hi hn hr
  have hci := Space.cellAt_of_getElem? hp
  -- an old leaf other than `i` and a child of `i` are disjoint, since `i` and the old leaf were
  have hmixed : ∀ {j j' cj cj'}, s.isLeaf j = true → j ≠ i → s.cellAt j = some cj →
      (childCells p.cell)[j']? = some cj' → IntDisjoint K cj cj' :=
    fun hl hji hc hc' x hx =>
      ht.disjoint _ i _ p.cell hl hleaf hji hc hci x ⟨hx.1, inInt_of_child (List.mem_of_getElem? hc') hx.2⟩
  refine ⟨?_, ?_, ?_⟩
  · intro x hx
    obtain ⟨i0, c0, hl0, hc0, hx0⟩ := ht.cover x hx
    by_cases hii : i0 = i
    · -- the leaf that held `x` was refined: `x` lies in one of its children
      subst hii
      cases hci.symm.trans hc0
      obtain ⟨c', hc', hxc'⟩ := exists_child_of_inCell hx0
      obtain ⟨a, ha, hac⟩ := List.getElem_of_mem hc'
      have ha' : a < (children p).length := by rw [children, List.length_map]; exact ha
      refine ⟨s.nodes.length + a, c', (hleaf' _).mpr (Or.inr ⟨Nat.le_add_right _ _, Nat.add_lt_add_left ha' _⟩), ?_, hxc'⟩
      rw [refine_cellAt_new hn (Nat.le_add_right _ _), Nat.add_sub_cancel_left, List.getElem?_eq_getElem ha, hac]
    · have hi0 := ((Space.isLeaf_iff s i0).mp hl0).1
      exact ⟨i0, c0, (hleaf' _).mpr (Or.inl ⟨hi0, hl0, hii⟩), (refine_cellAt_old hn hi0).trans hc0, hx0⟩
  · intro j c hl hc x hx
    rcases hcases hl hc with ⟨hl, _, hc⟩ | ⟨_, hc⟩
    · exact ht.inside j c hl hc x hx
    · exact ht.inside i p.cell hleaf hci x (inCell_of_child (List.mem_of_getElem? hc) hx)
  · intro j j' cj cj' hl hl' hne hc hc'
    rcases hcases hl hc with ⟨hl, hji, hc⟩ | ⟨hj, hc⟩ <;>
      rcases hcases hl' hc' with ⟨hl', hji', hc'⟩ | ⟨hj', hc'⟩
    · exact ht.disjoint j j' cj cj' hl hl' hne hc hc'
    · exact hmixed hl hji hc hc'
    · exact (hmixed hl' hji' hc' hc).symm
    · exact childCells_disjoint_of_ne hc hc' (fun h => hne ((tsub_left_inj hj hj').mp h))

/-! ## `shouldRefine` -/

theorem shouldRefine_true {s : Space} {i : Nat} {vh : Bool} (h : s.shouldRefine i vh = some true) :
    ∃ p, s.nodes[i]? = some p ∧ p.depth < s.maxDepth ∧ vh = true := by
  unfold Space.shouldRefine at h
  split at h
  · exact nomatch h
  · rename_i p hp
    refine ⟨p, hp, ?_⟩
    by_cases hd : p.depth ≥ s.maxDepth
    · rw [if_pos hd] at h
      exact nomatch h
    · rw [if_neg hd] at h
      exact ⟨Nat.lt_of_not_ge hd, Option.some.inj h⟩

theorem shouldRefine_false {s : Space} {i : Nat} {vh : Bool} (h : s.shouldRefine i vh = some false) :
    ∃ p, s.nodes[i]? = some p ∧ (s.maxDepth ≤ p.depth ∨ vh = false) := by
  unfold Space.shouldRefine at h
  split at h
  · exact nomatch h
  · rename_i p hp
    refine ⟨p, hp, ?_⟩
    by_cases hd : p.depth ≥ s.maxDepth
    · exact Or.inl hd
    · rw [if_neg hd] at h
      exact Or.inr (Option.some.inj h)

/-! ## `setRegion` -/

theorem setRegion_eq {s s' : Space} {i : Nat} {lo up : List Rat} (h : s.setRegion i lo up = some s') :
    ∃ p, s.nodes[i]? = some p ∧
      s' = { s with nodes := s.nodes.set i { p with lower := lo, upper := up } } := by
  unfold Space.setRegion at h
  split at h
  · exact nomatch h
  · rename_i p hp
    exact ⟨p, hp, (Option.some.inj h).symm⟩

theorem getElem?_set_map {α β : Type} (f : α → β) {l : List α} {i : Nat} {p a : α}
    (hp : l[i]? = some p) (hf : f a = f p) (j : Nat) : ((l.set i a)[j]?).map f = (l[j]?).map f := by
  rw [List.getElem?_set]
  split
  · rename_i hij
    subst hij
    rw [if_pos (List.getElem?_eq_some_iff.mp hp).1, hp, Option.map_some, Option.map_some, hf]
  · rfl

/-- a region update changes nothing the tree invariants can see -/
theorem setRegion_same {s s' : Space} {i : Nat} {lo up : List Rat} (h : s.setRegion i lo up = some s') :
    s'.refined = s.refined ∧ s'.maxDepth = s.maxDepth ∧ s'.nodes.length = s.nodes.length ∧
    s'.cellAt = s.cellAt ∧ s'.depthAt = s.depthAt ∧ s'.isLeaf = s.isLeaf ∧ s'.leaves = s.leaves := by
  obtain ⟨p, hp, rfl⟩ := setRegion_eq h
  have hlen : (s.nodes.set i { p with lower := lo, upper := up }).length = s.nodes.length := List.length_set
  have hl : Space.isLeaf { s with nodes := s.nodes.set i { p with lower := lo, upper := up } } = s.isLeaf :=
    funext fun j => by rw [Space.isLeaf, Space.isLeaf, hlen]
  exact ⟨rfl, rfl, hlen, funext (getElem?_set_map Node.cell hp rfl),
    funext (getElem?_set_map Node.depth hp rfl), hl, by rw [Space.leaves, Space.leaves, hl, hlen]⟩

theorem forall_mem_setRegion {s s' : Space} {i : Nat} {lo up : List Rat}
    (h : s.setRegion i lo up = some s') {Q : Node → Prop}
    (hQ : ∀ n : Node, Q n → Q { n with lower := lo, upper := up }) (hold : ∀ n ∈ s.nodes, Q n) :
    ∀ n ∈ s'.nodes, Q n := by
  obtain ⟨p, hp, rfl⟩ := setRegion_eq h
  intro n hn
  rcases List.mem_or_eq_of_mem_set hn with hm | rfl
  · exact hold n hm
  · exact hQ p (hold p (List.mem_of_getElem? hp))

theorem setRegion_wf {d : Nat} {s s' : Space} {i : Nat} {lo up : List Rat} (hwf : s.WF d)
    (h : s.setRegion i lo up = some s') : s'.WF d := by
  obtain ⟨h1, _, h3, _⟩ := setRegion_same h
  exact ⟨h1 ▸ h3 ▸ hwf.refinedLt, forall_mem_setRegion h (fun _ hq => hq) hwf.cellLen,
    forall_mem_setRegion h (fun _ hq => hq) hwf.centre, forall_mem_setRegion h (fun _ hq => hq) hwf.depthPos,
    forall_mem_setRegion h (fun _ hq => hq) hwf.side⟩

theorem setRegion_tiles {K : Type*} [Field K] [LinearOrder K] [IsStrictOrderedRing K]
    {d : Nat} {s s' : Space} {i : Nat} {lo up : List Rat} (ht : s.Tiles K d)
    (h : s.setRegion i lo up = some s') : s'.Tiles K d := by
  obtain ⟨_, _, _, hc, _, hl, _⟩ := setRegion_same h
  exact ⟨hl ▸ hc ▸ ht.cover, hl ▸ hc ▸ ht.inside, hl ▸ hc ▸ ht.disjoint⟩

theorem setRegion_depthOk {s s' : Space} {i : Nat} {lo up : List Rat} (hd : s.DepthOk)
    (h : s.setRegion i lo up = some s') : s'.DepthOk := by
  rw [Space.DepthOk, (setRegion_same h).2.1]
  exact forall_mem_setRegion h (fun _ hq => hq) hd

/-! ## the root -/

theorem root_wf (d m md : Nat) : (Space.root d m md).WF d := by
  refine ⟨fun i hi => absurd hi List.not_mem_nil, ?_, ?_, ?_, ?_⟩ <;>
    intro n hn <;> obtain rfl := List.mem_singleton.mp hn
  · exact List.length_replicate
  · show List.replicate d ((1 : Rat) / 2) = (List.replicate d ((0 : Rat), (1 : Rat))).map mid
    rw [List.map_replicate]
    congr 1
    norm_num [mid]
  · exact Nat.le_refl 1
  · intro q hq
    rw [(List.mem_replicate.mp hq).2]
    norm_num

theorem root_cellAt (d m md : Nat) (j : Nat) (c : Cell) (h : (Space.root d m md).cellAt j = some c) :
    j = 0 ∧ c = unitCell d := by
  cases j with
  | zero => exact ⟨rfl, (Option.some.inj h).symm⟩
  | succ k => exact nomatch h

theorem root_leaves (d m md : Nat) : (Space.root d m md).leaves = [0] := rfl

theorem root_tiles {K : Type*} [Field K] [LinearOrder K] [IsStrictOrderedRing K] (d m md : Nat) :
    (Space.root d m md).Tiles K d := by
  refine ⟨fun x hx => ⟨0, unitCell d, rfl, rfl, hx⟩, ?_, ?_⟩
  · intro j c _ hc x hx
    obtain ⟨_, rfl⟩ := root_cellAt d m md j c hc
    exact hx
  · intro j j' cj cj' _ _ hne hc hc'
    obtain ⟨rfl, _⟩ := root_cellAt d m md j cj hc
    obtain ⟨rfl, _⟩ := root_cellAt d m md j' cj' hc'
    exact absurd rfl hne

theorem root_depthOk (d m md : Nat) (h : 1 ≤ md) : (Space.root d m md).DepthOk := by
  intro n hn
  obtain rfl := List.mem_singleton.mp hn
  exact h

/-! ## predicates that survive every operation -/

/-- `P` survives region updates and the refinement of a leaf of a well-formed space; where `g` holds
only refinements of nodes below the maximum depth are asked for (`g := True`: VOGP_AD, where every
refinement goes through `should_refine_design`) -/
structure Space.Stable (d : Nat) (g : Prop) (P : Space → Prop) : Prop where
  setRegion : ∀ {s s' i lo up}, P s → s.setRegion i lo up = some s' → P s'
  refine : ∀ {s s' i ch}, P s → s.WF d → s.isLeaf i = true →
    (g → ∃ p, s.nodes[i]? = some p ∧ p.depth < s.maxDepth) → s.refine i = some (s', ch) → P s'

theorem Space.Stable.and {d : Nat} {g : Prop} {P Q : Space → Prop} (hP : Space.Stable d g P)
    (hQ : Space.Stable d g Q) : Space.Stable d g (fun s => P s ∧ Q s) :=
  ⟨fun h hs => ⟨hP.setRegion h.1 hs, hQ.setRegion h.2 hs⟩,
   fun h hwf hl hg hr => ⟨hP.refine h.1 hwf hl hg hr, hQ.refine h.2 hwf hl hg hr⟩⟩

theorem Space.Stable.mono {d : Nat} {g g' : Prop} {P : Space → Prop} (hgg : g → g')
    (hP : Space.Stable d g P) : Space.Stable d g' P :=
  ⟨hP.setRegion, fun h hwf hl hg hr => hP.refine h hwf hl (fun h' => hg (hgg h')) hr⟩

theorem stable_true (d : Nat) (g : Prop) : Space.Stable d g (fun _ => True) :=
  ⟨fun _ _ => trivial, fun _ _ _ _ _ => trivial⟩

theorem stable_tiles {K : Type*} [Field K] [LinearOrder K] [IsStrictOrderedRing K] (d : Nat) (g : Prop) :
    Space.Stable d g (Space.Tiles K d) :=
  ⟨setRegion_tiles, fun ht hwf hl _ hr => refine_tiles hwf ht hl hr⟩

theorem stable_maxDepth (d : Nat) (g : Prop) (md : Nat) : Space.Stable d g (fun s => s.maxDepth = md) :=
  ⟨fun h hs => (setRegion_same hs).2.1.trans h,
   fun h _ _ _ hr => by obtain ⟨_, _, _, _, hm, _⟩ := Space.refine_eq hr; exact hm.trans h⟩

theorem stable_depthOk (d : Nat) : Space.Stable d True Space.DepthOk :=
  ⟨setRegion_depthOk, fun hd _ _ hg hr => by
    obtain ⟨p, hp, hlt⟩ := hg trivial
    exact refine_depthOk hd hp hlt hr⟩

end VOPy.Adaptive
