import VOPyVerif.Proofs.ConeConst
import VOPyVerif.Proofs.RealInst
import VOPyVerif.Model.ConeConst
import Mathlib.Analysis.SpecialFunctions.Trigonometric.Basic
import Mathlib.Analysis.InnerProductSpace.PiL2
import Mathlib.Tactic.Ring
/-!
# The 2-D θ-cone: closed form of α and β (C17)

Two unit facet normals `w₁, w₂` with `⟪w₁, w₂⟫ = −cos θ` (`0 < θ < π`; this is `get_2d_w(θ)`: the angle
between the normals is `π − θ`).  Explicit primal/dual witnesses give

* `θ ≤ π/2`: `x = (w₁ + cos θ · w₂)/sin θ` on the facet of `w₂`, `λ = (0, cos θ)` ⇒ `α₁ = sin θ`;
* `θ ≥ π/2`: `x = w₁`, `λ = 0` ⇒ `α₁ = 1`,

and symmetrically for `w₂`; the supremum is attained.  `coneBeta` (the `RealLike` term mirroring
`ConeTheta2D.beta`) evaluated at `ℝ` is `1/sin θ` resp. `1`, i.e. `1/α`.
-/
namespace VOPy.ConeConst
open scoped RealInnerProductSpace
open Real

variable {E : Type*} [NormedAddCommGroup E] [InnerProductSpace ℝ E]

theorem inCone_pair {w1 w2 x : E} : InCone [w1, w2] x ↔ 0 ≤ ⟪w1, x⟫ ∧ 0 ≤ ⟪w2, x⟫ := by
  simp [InCone]

/-- the cone does not depend on the order of its two facets -/
theorem alpha_swap (w1 w2 c : E) : alpha [w1, w2] c = alpha [w2, w1] c := by
  simp only [alpha, alphaSet, inCone_pair, and_comm]

/-- acute (or right) θ-cone: `α₁ = sin θ`.  The dual vector `v = w₁ + cos θ · w₂` (`λ = (0, cos θ)`)
lies on the facet of `w₂` and has `⟪w₁, v⟫ = sin² θ = ‖v‖²`, so `α₁ = ‖v‖`, attained at `v/‖v‖`. -/
theorem alpha_theta_acute (w1 w2 : E) (θ : ℝ) (h1 : ‖w1‖ = 1) (h2 : ‖w2‖ = 1)
    (h12 : ⟪w1, w2⟫ = -cos θ) (h0 : 0 < θ) (hle : θ ≤ π / 2) :
    alpha [w1, w2] w1 = sin θ ∧ IsGreatest (alphaSet [w1, w2] w1) (sin θ) := by
  have hs : 0 ≤ sin θ := sin_nonneg_of_nonneg_of_le_pi h0.le (hle.trans (half_le_self pi_pos.le))
  have hc : 0 ≤ cos θ :=
    cos_nonneg_of_neg_pi_div_two_le_of_le ((neg_nonpos.mpr pi_div_two_pos.le).trans h0.le) hle
  have hv1 : ⟪w1, w1 + cos θ • w2⟫ = sin θ ^ 2 := by
    rw [inner_add_right, real_inner_smul_right, real_inner_self_eq_norm_sq, h1, h12, sin_sq,
      one_pow, mul_neg, ← sq, ← sub_eq_add_neg]
  have hv2 : ⟪w2, w1 + cos θ • w2⟫ = 0 := by
    rw [inner_add_right, real_inner_smul_right, real_inner_self_eq_norm_sq, h2, real_inner_comm,
      h12, one_pow, mul_one, neg_add_cancel]
  have hnorm : ‖w1 + cos θ • w2‖ = sin θ := by
    refine (sq_eq_sq₀ (norm_nonneg _) hs).mp ?_
    rw [← real_inner_self_eq_norm_sq, inner_add_left, real_inner_smul_left, hv1, hv2, mul_zero,
      add_zero]
  have key := alpha_eq_norm_of_slack [w1, w2] w1 [0, cos θ]
  rw [comb_cons, comb_cons, comb_nil_left, zero_smul, zero_add, add_zero, hnorm] at key
  exact key (by simp [NonnegL, hc]) (inCone_pair.mpr ⟨hv1 ▸ sq_nonneg _, hv2.ge⟩)
    (by rw [real_inner_smul_left, hv2, mul_zero])

/-- obtuse (or right) θ-cone: `α₁ = 1`, attained at `x = w₁` (`λ = 0`: `w₁` itself lies in the cone) -/
theorem alpha_theta_obtuse (w1 w2 : E) (θ : ℝ) (h1 : ‖w1‖ = 1)
    (h12 : ⟪w1, w2⟫ = -cos θ) (hge : π / 2 ≤ θ) (hπ : θ < π) :
    alpha [w1, w2] w1 = 1 ∧ IsGreatest (alphaSet [w1, w2] w1) 1 := by
  have hc : cos θ ≤ 0 :=
    cos_nonpos_of_pi_div_two_le_of_le hge (hπ.le.trans (le_add_of_nonneg_right pi_div_two_pos.le))
  have h21 : 0 ≤ ⟪w2, w1⟫ := by rw [real_inner_comm, h12]; exact neg_nonneg.mpr hc
  have key := alpha_eq_norm_of_slack [w1, w2] w1 []
  rw [comb_nil_left, add_zero, h1] at key
  exact key (List.forall_mem_nil _) (inCone_pair.mpr ⟨real_inner_self_nonneg, h21⟩)
    (inner_zero_left _)

/-- **Closed form of α for the 2-D θ-cone**, both facets, every `θ ∈ (0, π)`. -/
theorem alpha_theta (w1 w2 : E) (θ : ℝ) (h1 : ‖w1‖ = 1) (h2 : ‖w2‖ = 1)
    (h12 : ⟪w1, w2⟫ = -cos θ) (h0 : 0 < θ) (hπ : θ < π) :
    alpha [w1, w2] w1 = (if θ ≤ π / 2 then sin θ else 1) ∧
    alpha [w1, w2] w2 = (if θ ≤ π / 2 then sin θ else 1) := by
  have h21 : ⟪w2, w1⟫ = -cos θ := by rw [real_inner_comm]; exact h12
  by_cases hle : θ ≤ π / 2
  · simp only [hle, if_true]
    refine ⟨(alpha_theta_acute w1 w2 θ h1 h2 h12 h0 hle).1, ?_⟩
    rw [alpha_swap]
    exact (alpha_theta_acute w2 w1 θ h2 h1 h21 h0 hle).1
  · simp only [hle, if_false]
    have hge : π / 2 ≤ θ := le_of_lt (not_le.mp hle)
    refine ⟨(alpha_theta_obtuse w1 w2 θ h1 h12 hge hπ).1, ?_⟩
    rw [alpha_swap]
    exact (alpha_theta_obtuse w2 w1 θ h2 h21 hge hπ).1

/-! ### `coneBeta` at `ℝ` -/

/-- the branch test of `ConeTheta2D.beta` at `ℝ` -/
noncomputable instance : LtB ℝ := ⟨fun a b => decide (a < b)⟩

theorem coneBeta_real (deg : ℝ) :
    coneBeta deg = if deg / 180 * π < π / 2 then 1 / sin (deg / 180 * π) else 1 := by
  simp [coneBeta, LtB.ltb]

/-- the branch test in degrees -/
theorem rad_lt_iff (deg : ℝ) : deg / 180 * π < π / 2 ↔ deg < 90 := by
  rw [show π / 2 = 90 / 180 * π by ring, mul_lt_mul_iff_left₀ pi_pos,
    div_lt_div_iff_of_pos_right (by norm_num)]

theorem rad_pos_lt_pi {deg : ℝ} (hd0 : 0 < deg) (hd1 : deg < 180) :
    0 < deg / 180 * π ∧ deg / 180 * π < π :=
  ⟨mul_pos (div_pos hd0 (by norm_num)) pi_pos,
    mul_lt_of_lt_one_left pi_pos ((div_lt_one (by norm_num)).mpr hd1)⟩

/-- `coneBeta` with the branch test of `α`: the two tests differ only at `θ = π/2`, where
`1/sin θ = 1` -/
theorem coneBeta_real_le (deg : ℝ) :
    coneBeta deg = if deg / 180 * π ≤ π / 2 then 1 / sin (deg / 180 * π) else 1 := by
  rw [coneBeta_real]
  rcases lt_trichotomy (deg / 180 * π) (π / 2) with h | h | h
  · rw [if_pos h, if_pos h.le]
  · rw [if_neg h.not_lt, if_pos h.le, h, sin_pi_div_two, one_div_one]
  · rw [if_neg h.not_gt, if_neg h.not_ge]

/-- **β of the 2-D θ-cone** is `1/sin θ` for acute cones and `1` for right or obtuse cones, and it is
the reciprocal of `α₁` and of `α₂`, for every opening angle `deg ∈ (0°, 180°)`. -/
theorem coneBeta_eq (w1 w2 : E) (deg : ℝ) (hd0 : 0 < deg) (hd1 : deg < 180) (h1 : ‖w1‖ = 1)
    (h2 : ‖w2‖ = 1) (h12 : ⟪w1, w2⟫ = -cos (deg / 180 * π)) :
    coneBeta deg = (if deg < 90 then 1 / sin (deg / 180 * π) else 1) ∧
    coneBeta deg = 1 / alpha [w1, w2] w1 ∧ coneBeta deg = 1 / alpha [w1, w2] w2 := by
  obtain ⟨h0, hπ⟩ := rad_pos_lt_pi hd0 hd1
  obtain ⟨ha1, ha2⟩ := alpha_theta w1 w2 _ h1 h2 h12 h0 hπ
  rw [ha1, ha2, div_ite, one_div_one]
  exact ⟨by simp only [coneBeta_real, rad_lt_iff], coneBeta_real_le deg, coneBeta_real_le deg⟩

/-! ### coordinates in `ℝ²` (where the rows of `get_2d_w` live) -/

theorem norm_vec2_eq_one {a b : ℝ} (h : a ^ 2 + b ^ 2 = 1) :
    ‖(!₂[a, b] : EuclideanSpace ℝ (Fin 2))‖ = 1 := by
  rw [← pow_eq_one_iff_of_nonneg (norm_nonneg _) two_ne_zero, EuclideanSpace.real_norm_sq_eq,
    Fin.sum_univ_two]
  exact h

theorem inner_vec2 (a b c d : ℝ) :
    ⟪(!₂[a, b] : EuclideanSpace ℝ (Fin 2)), !₂[c, d]⟫ = a * c + b * d := by
  rw [EuclideanSpace.inner_toLp_toLp, dotProduct, Fin.sum_univ_two]
  simp [mul_comm]

end VOPy.ConeConst
