import VOPyVerif.Model.Rect
import VOPyVerif.Proofs.ListFin
import Mathlib.Data.Real.Basic
import Mathlib.Data.Rat.BigOperators
import Mathlib.Algebra.Order.BigOperators.Ring.Finset
import Mathlib.Tactic.Ring
/-!
# Rectangles: helper lemmas for C09

* bridge between the list model (`Vec = List Rat`) and `Fin m`-indexed data: `toVec`, `toMat`,
  `dot_toVec`, `vsub_toVec`, `vadd_toVec`, `mem_vertices_toVec` (the `List.ofFn` facts under them are in
  `Proofs/ListFin.lean`);
* the slack-size guard `expandSlack` on each kind of input (`expandSlack_of_length`,
  `expandSlack_singleton`, `expandSlack_eq_none_iff`);
* the semantic predicate `Rect.Dominated` over `ℝ`;
* `isDominatedTol_iff`: the vertex-pair loop decides the ∀∀ statement (a linear functional on a
  product of two boxes attains its minimum at a vertex pair).
-/
namespace VOPy

variable {m N : ℕ}

/-- a `Fin m`-indexed rational vector as a model vector -/
def toVec (f : Fin m → ℚ) : Vec := List.ofFn f
/-- an `N × m` rational matrix as a model matrix (list of rows) -/
def toMat (W : Fin N → Fin m → ℚ) : Mat := List.ofFn fun n => List.ofFn (W n)

@[simp] theorem toVec_length (f : Fin m → ℚ) : (toVec f).length = m := by simp [toVec]
@[simp] theorem toMat_length (W : Fin N → Fin m → ℚ) : (toMat W).length = N := by simp [toMat]

theorem toVec_getElem (l : Vec) (h : l.length = m) :
    toVec (fun i : Fin m => l[i.1]'(lt_of_lt_of_eq i.2 h.symm)) = l := by
  subst h
  exact List.ofFn_getElem

theorem toVec_const (x : ℚ) : toVec (fun _ : Fin m => x) = List.replicate m x := List.ofFn_const m x

theorem mem_toMat {W : Fin N → Fin m → ℚ} {w : Vec} : w ∈ toMat W ↔ ∃ n, w = toVec (W n) := by
  simp only [toMat, toVec, List.mem_ofFn]
  constructor
  · rintro ⟨n, rfl⟩; exact ⟨n, rfl⟩
  · rintro ⟨n, rfl⟩; exact ⟨n, rfl⟩

theorem vsub_toVec (a b : Fin m → ℚ) : vsub (toVec a) (toVec b) = toVec fun i => a i - b i :=
  zipWith_ofFn _ a b

theorem vadd_toVec (a b : Fin m → ℚ) : vadd (toVec a) (toVec b) = toVec fun i => a i + b i :=
  zipWith_ofFn _ a b

theorem dot_toVec (a b : Fin m → ℚ) : dot (toVec a) (toVec b) = ∑ i, a i * b i :=
  dot_ofFn a b

theorem matVec_toMat (W : Fin N → Fin m → ℚ) (x : Fin m → ℚ) :
    matVec (toMat W) (toVec x) = toVec fun n => ∑ i, W n i * x i := by
  simp only [matVec, toMat, toVec, List.map_ofFn]
  congr 1
  funext n
  exact dot_toVec (W n) x

namespace Rect

/-- `v` is a corner of the box `[l, u]` -/
def IsVertex (l u v : Fin m → ℚ) : Prop := ∀ i, v i = l i ∨ v i = u i

theorem mem_vertices_toVec : ∀ {m : ℕ} (l u : Fin m → ℚ) (v : Vec),
    v ∈ vertices (toVec l) (toVec u) ↔ ∃ f : Fin m → ℚ, IsVertex l u f ∧ v = toVec f
  | 0, l, u, v => by
    simp only [toVec, List.ofFn_zero, vertices, List.mem_singleton]
    exact ⟨fun h => ⟨Fin.elim0, fun i => i.elim0, h⟩, fun ⟨f, _, h⟩ => h⟩
  | m + 1, l, u, v => by
    have ih := mem_vertices_toVec (fun i => l i.succ) (fun i => u i.succ)
    simp only [toVec] at ih ⊢
    simp only [List.ofFn_succ, vertices, List.mem_append, List.mem_map, ih]
    constructor
    · rintro (⟨_, ⟨f, hf, rfl⟩, rfl⟩ | ⟨_, ⟨f, hf, rfl⟩, rfl⟩)
      · exact ⟨Fin.cons (l 0) f, Fin.forall_fin_succ.2 ⟨Or.inl rfl, hf⟩, rfl⟩
      · exact ⟨Fin.cons (u 0) f, Fin.forall_fin_succ.2 ⟨Or.inr rfl, hf⟩, rfl⟩
    · rintro ⟨f, hf, rfl⟩
      have tail : ∃ g, IsVertex (fun i => l i.succ) (fun i => u i.succ) g ∧
          (List.ofFn fun i => f i.succ) = List.ofFn g := ⟨_, fun i => hf i.succ, rfl⟩
      rcases hf 0 with h0 | h0
      · exact Or.inl ⟨_, tail, by rw [h0]⟩
      · exact Or.inr ⟨_, tail, by rw [h0]⟩

theorem vertices_length : ∀ {m : ℕ} (l u : Fin m → ℚ), (vertices (toVec l) (toVec u)).length = 2 ^ m
  | 0, _, _ => by simp [toVec, vertices]
  | m + 1, l, u => by
    have ih := vertices_length (fun i => l i.succ) (fun i => u i.succ)
    simp only [toVec] at ih ⊢
    simp only [List.ofFn_succ, vertices, List.length_append, List.length_map, ih]
    ring

/-- the vertex-pair loop with threshold `t`, unfolded to quantifiers over lists -/
theorem isDominatedTol_eq_true (W : Mat) (l1 u1 l2 u2 s : Vec) (t : ℚ) :
    isDominatedTol W l1 u1 l2 u2 s t = true ↔
      ∀ v1 ∈ vertices l1 u1, ∀ v2 ∈ vertices l2 u2, ∀ w ∈ W, t ≤ dot w (vsub (vadd v2 s) v1) := by
  simp only [isDominatedTol, inConeTol, matVec, List.all_eq_true, List.mem_map, decide_eq_true_eq,
    forall_exists_index, and_imp, forall_apply_eq_imp_iff₂]

theorem isDominatedTol_zero (W : Mat) (l1 u1 l2 u2 s : Vec) :
    isDominatedTol W l1 u1 l2 u2 s 0 = isDominated W l1 u1 l2 u2 s := rfl

theorem isDominated_eq_true (W : Mat) (l1 u1 l2 u2 s : Vec) :
    isDominated W l1 u1 l2 u2 s = true ↔
      ∀ v1 ∈ vertices l1 u1, ∀ v2 ∈ vertices l2 u2, ∀ w ∈ W, 0 ≤ dot w (vsub (vadd v2 s) v1) :=
  isDominatedTol_eq_true W l1 u1 l2 u2 s 0

/-! ### the slack guard -/

theorem expandSlack_singleton (m : ℕ) (x : ℚ) : expandSlack m [x] = some (List.replicate m x) := rfl

theorem expandSlack_of_length {m : ℕ} {s : Vec} (h : s.length = m) : expandSlack m s = some s := by
  unfold expandSlack
  split
  · subst h; rfl
  · exact if_pos h

theorem expandSlack_eq_none_iff (m : ℕ) (s : Vec) :
    expandSlack m s = none ↔ s.length ≠ 1 ∧ s.length ≠ m := by
  unfold expandSlack
  split
  · simp
  · rename_i hs
    have h1 : s.length ≠ 1 := fun h => by
      obtain ⟨x, rfl⟩ := List.length_eq_one_iff.1 h
      exact hs x rfl
    simp [h1]

/-! ### the semantic predicate -/

/-- the closed real box `[l, u]` -/
def box (l u : Fin m → ℚ) : Set (Fin m → ℝ) := {z | ∀ i, (l i : ℝ) ≤ z i ∧ z i ≤ (u i : ℝ)}

/-- **Semantic predicate (rectangles), threshold form.**  Every point of box 2, shifted by `s` in
objective space, exceeds every point of box 1 by at least `t` on every facet functional of `W`.
`t = 0` is "`z' + s` dominates `z` in the cone order for all `z ∈ R₁`, `z' ∈ R₂`". -/
def DominatedTol (W : Fin N → Fin m → ℚ) (l1 u1 l2 u2 s : Fin m → ℚ) (t : ℚ) : Prop :=
  ∀ z ∈ box l1 u1, ∀ z' ∈ box l2 u2, ∀ n, (t : ℝ) ≤ ∑ i, (W n i : ℝ) * (z' i + (s i : ℝ) - z i)

/-- **Semantic predicate (rectangles).** `∀ z ∈ R₁, ∀ z' ∈ R₂, z' + s ≽_W z` over `ℝ`. -/
def Dominated (W : Fin N → Fin m → ℚ) (l1 u1 l2 u2 s : Fin m → ℚ) : Prop :=
  ∀ z ∈ box l1 u1, ∀ z' ∈ box l2 u2, ∀ n, 0 ≤ ∑ i, (W n i : ℝ) * (z' i + (s i : ℝ) - z i)

theorem dominatedTol_zero (W : Fin N → Fin m → ℚ) (l1 u1 l2 u2 s : Fin m → ℚ) :
    DominatedTol W l1 u1 l2 u2 s 0 ↔ Dominated W l1 u1 l2 u2 s := by
  unfold DominatedTol Dominated
  rw [Rat.cast_zero]

theorem vertex_mem_box {l u f : Fin m → ℚ} (hlu : ∀ i, l i ≤ u i) (hf : IsVertex l u f) :
    (fun i => (f i : ℝ)) ∈ box l u := by
  intro i
  rcases hf i with h' | h' <;> simp only [h']
  · exact ⟨le_refl _, Rat.cast_le.2 (hlu i)⟩
  · exact ⟨Rat.cast_le.2 (hlu i), le_refl _⟩

/-- a facet functional of the list model at `a + s − b`, read over `ℝ` -/
theorem le_dot_toVec_cast (w a s b : Fin m → ℚ) (t : ℚ) :
    t ≤ dot (toVec w) (vsub (vadd (toVec a) (toVec s)) (toVec b)) ↔
      (t : ℝ) ≤ ∑ i, (w i : ℝ) * ((a i : ℝ) + (s i : ℝ) - (b i : ℝ)) := by
  rw [vadd_toVec, vsub_toVec, dot_toVec, ← Rat.cast_le (K := ℝ)]
  simp only [Rat.cast_sum, Rat.cast_mul, Rat.cast_sub, Rat.cast_add]

/-- the loop with threshold `t` decides the threshold ∀∀ statement: a linear functional on a
product of two boxes attains its minimum at a vertex pair -/
theorem isDominatedTol_iff (W : Fin N → Fin m → ℚ) (l1 u1 l2 u2 s : Fin m → ℚ) (t : ℚ)
    (h1 : ∀ i, l1 i ≤ u1 i) (h2 : ∀ i, l2 i ≤ u2 i) :
    isDominatedTol (toMat W) (toVec l1) (toVec u1) (toVec l2) (toVec u2) (toVec s) t = true ↔
      DominatedTol W l1 u1 l2 u2 s t := by
  rw [isDominatedTol_eq_true]
  constructor
  · intro h z hz z' hz' n
    -- the minimising vertex pair for facet `n`
    let v' : Fin m → ℚ := fun i => if 0 ≤ W n i then l2 i else u2 i
    let v : Fin m → ℚ := fun i => if 0 ≤ W n i then u1 i else l1 i
    have hv' : IsVertex l2 u2 v' := fun i => ite_eq_or_eq _ _ _
    have hv : IsVertex l1 u1 v := fun i => (ite_eq_or_eq _ _ _).symm
    have key := h (toVec v) ((mem_vertices_toVec _ _ _).2 ⟨v, hv, rfl⟩)
      (toVec v') ((mem_vertices_toVec _ _ _).2 ⟨v', hv', rfl⟩) (toVec (W n)) (mem_toMat.2 ⟨n, rfl⟩)
    refine le_trans ((le_dot_toVec_cast _ _ _ _ _).1 key) (Finset.sum_le_sum fun i _ => ?_)
    by_cases hw : 0 ≤ W n i
    · simp only [v, v', hw, if_true]
      exact mul_le_mul_of_nonneg_left (sub_le_sub (add_le_add_left (hz' i).1 _) (hz i).2)
        (Rat.cast_nonneg.2 hw)
    · simp only [v, v', hw, if_false]
      exact mul_le_mul_of_nonpos_left (sub_le_sub (add_le_add_left (hz' i).2 _) (hz i).1)
        (Rat.cast_nonpos.2 (le_of_not_ge hw))
  · intro h v1 hv1 v2 hv2 w hw
    obtain ⟨f, hf, rfl⟩ := (mem_vertices_toVec _ _ _).1 hv1
    obtain ⟨f', hf', rfl⟩ := (mem_vertices_toVec _ _ _).1 hv2
    obtain ⟨n, rfl⟩ := mem_toMat.1 hw
    exact (le_dot_toVec_cast _ _ _ _ _).2 (h _ (vertex_mem_box h1 hf) _ (vertex_mem_box h2 hf') n)

end Rect
end VOPy
