import Mathlib.MeasureTheory.Constructions.Pi
import Mathlib.MeasureTheory.Measure.Lebesgue.Basic
import Mathlib.MeasureTheory.Group.Measure
import Mathlib.Data.Matrix.Mul
/-!
# C19: the (mathematical) hypervolume indicator

`HV(S) = volume (⋃_{p ∈ S} [ref, W p])` in `ℝⁿ` (`n` = number of facets of the cone, Lebesgue
measure), exactly the quantity `calculate_hypervolume_discrepancy_for_model` asks botorch's
`Hypervolume` for (`f_W = f @ W.T`, `ref = min f_W`).  This file is about that mathematical
quantity only; botorch's implementation is compared with it in the harness.
-/
namespace VOPy.Eval
open MeasureTheory

variable {n m : Nat}

/-- the region dominated by the transformed points: `⋃_{p ∈ S} box[ref, W p]` -/
def hvRegion (W : Matrix (Fin n) (Fin m) ℝ) (ref : Fin n → ℝ) (S : Set (Fin m → ℝ)) :
    Set (Fin n → ℝ) :=
  ⋃ p ∈ S, Set.Icc ref (W.mulVec p)

/-- hypervolume indicator of a set of objective vectors w.r.t. the cone matrix `W` -/
noncomputable def HV (W : Matrix (Fin n) (Fin m) ℝ) (ref : Fin n → ℝ) (S : Set (Fin m → ℝ)) :
    ENNReal :=
  volume (hvRegion W ref S)

/-- `q` dominates `p` in the order of the cone `{x | W x ≥ 0}` -/
def ConeDom (W : Matrix (Fin n) (Fin m) ℝ) (q p : Fin m → ℝ) : Prop :=
  ∀ k, 0 ≤ (W.mulVec (q - p)) k

theorem coneDom_iff (W : Matrix (Fin n) (Fin m) ℝ) (q p : Fin m → ℝ) :
    ConeDom W q p ↔ W.mulVec p ≤ W.mulVec q := by
  simp only [ConeDom, Matrix.mulVec_sub, Pi.sub_apply, sub_nonneg, Pi.le_def]

theorem hvRegion_mono (W : Matrix (Fin n) (Fin m) ℝ) (ref : Fin n → ℝ) {S T : Set (Fin m → ℝ)}
    (h : S ⊆ T) : hvRegion W ref S ⊆ hvRegion W ref T :=
  Set.biUnion_subset_biUnion_left h

theorem hv_mono' (W : Matrix (Fin n) (Fin m) ℝ) (ref : Fin n → ℝ) {S T : Set (Fin m → ℝ)}
    (h : S ⊆ T) : HV W ref S ≤ HV W ref T :=
  measure_mono (hvRegion_mono W ref h)

/-- a covering subset dominates the same region -/
theorem hvRegion_eq_of_cover (W : Matrix (Fin n) (Fin m) ℝ) (ref : Fin n → ℝ)
    {P S : Set (Fin m → ℝ)} (hPS : P ⊆ S) (hcov : ∀ p ∈ S, ∃ q ∈ P, ConeDom W q p) :
    hvRegion W ref P = hvRegion W ref S := by
  apply Set.Subset.antisymm (hvRegion_mono W ref hPS)
  intro x hx
  simp only [hvRegion, Set.mem_iUnion, Set.mem_Icc] at hx ⊢
  obtain ⟨p, hp, h1, h2⟩ := hx
  obtain ⟨q, hq, hd⟩ := hcov p hp
  exact ⟨q, hq, h1, h2.trans ((coneDom_iff W q p).mp hd)⟩

theorem hvRegion_translate (W : Matrix (Fin n) (Fin m) ℝ) (ref : Fin n → ℝ) (S : Set (Fin m → ℝ))
    (t : Fin m → ℝ) :
    hvRegion W (W.mulVec t + ref) ((fun p => t + p) '' S) =
      (fun x => W.mulVec t + x) '' hvRegion W ref S := by
  simp only [hvRegion, Set.biUnion_image, Matrix.mulVec_add, Set.image_iUnion₂,
    Set.image_const_add_Icc]

theorem hv_translate' (W : Matrix (Fin n) (Fin m) ℝ) (ref : Fin n → ℝ) (S : Set (Fin m → ℝ))
    (t : Fin m → ℝ) :
    HV W (W.mulVec t + ref) ((fun p => t + p) '' S) = HV W ref S := by
  unfold HV
  rw [hvRegion_translate, Set.image_add_left, measure_preimage_add]

end VOPy.Eval
