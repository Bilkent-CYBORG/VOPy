import VOPyVerif.Model.Ellipsoid
import VOPyVerif.Proofs.Rect
import Mathlib.Analysis.Real.Sqrt
import Mathlib.Data.Matrix.Mul
import Mathlib.Algebra.BigOperators.Field
import Mathlib.Tactic.NormNum
/-!
# Ellipsoids: helper lemmas for C09

* `sqrtIneq_eq_true`, `sqrt_add_sqrt_le_iff`, `sqrtIneq_iff`: the rational decision procedure for
  `p − √b − √c ≥ d`;
* `abs_dot_le`, `ball_attained`: a linear functional on the Euclidean unit ball (Cauchy–Schwarz,
  attained);
* `Ell` (the ellipsoid `{c + a·L u | ‖u‖ ≤ 1}`), its support function (`abs_dot_sub_le`,
  `ell_attained`) and `ell_pair_min`: minimum of `w·(z' − z)` over a pair of ellipsoids;
* bridge from the list model to `Matrix`/`Fin`: `quadForm_toMat`, `facetOk_iff`.
-/
namespace VOPy.Ellipsoid
open Matrix

/-! ### the decision procedure -/

/-- the three rational comparisons `sqrtIneq` makes -/
theorem sqrtIneq_eq_true (p b c d : ℚ) :
    sqrtIneq p b c d = true ↔ 0 ≤ p - d ∧ 0 ≤ (p - d) * (p - d) - b - c ∧
      4 * b * c ≤ ((p - d) * (p - d) - b - c) * ((p - d) * (p - d) - b - c) := by
  unfold sqrtIneq
  dsimp only
  split_ifs with h1 h2
  · exact iff_of_false not_false fun h => not_le.2 h1 h.1
  · exact iff_of_false not_false fun h => not_le.2 h2 h.2.1
  · exact decide_eq_true_iff.trans ⟨fun h => ⟨not_lt.1 h1, not_lt.1 h2, h⟩, fun h => h.2.2⟩

/-- squaring an inequality with a non-negative left side -/
theorem le_iff_sq_le {a r : ℝ} (ha : 0 ≤ a) : a ≤ r ↔ 0 ≤ r ∧ a ^ 2 ≤ r ^ 2 :=
  ⟨fun h => ⟨ha.trans h, pow_le_pow_left₀ ha h 2⟩, fun h => (sq_le_sq₀ ha h.1).1 h.2⟩

/-- `√b + √c ≤ r` with all square roots removed: square (`2√(bc) ≤ r² − b − c`), square again. -/
theorem sqrt_add_sqrt_le_iff {b c r : ℝ} (hb : 0 ≤ b) (hc : 0 ≤ c) :
    √b + √c ≤ r ↔ 0 ≤ r ∧ 0 ≤ r * r - b - c ∧ 4 * b * c ≤ (r * r - b - c) * (r * r - b - c) := by
  have e : (√b + √c) ^ 2 = b + c + √(4 * b * c) := by
    rw [show 4 * b * c = 2 * 2 * (b * c) by ring, Real.sqrt_mul (by norm_num), Real.sqrt_mul hb,
      Real.sqrt_mul_self (by norm_num), add_sq, Real.sq_sqrt hb, Real.sq_sqrt hc]
    ring
  rw [← sq (r * r - b - c), ← Real.sqrt_le_iff, sub_sub, le_sub_iff_add_le', ← e, ← sq r,
    ← le_iff_sq_le (add_nonneg (Real.sqrt_nonneg b) (Real.sqrt_nonneg c))]

/-- **`sqrtIneq` is correct**: for rationals `p, b, c, d` with `b, c ≥ 0` it returns `true` exactly
when `p − √b − √c ≥ d` holds in `ℝ`. -/
theorem sqrtIneq_iff (p b c d : ℚ) (hb : 0 ≤ b) (hc : 0 ≤ c) :
    sqrtIneq p b c d = true ↔ (d : ℝ) ≤ (p : ℝ) - Real.sqrt b - Real.sqrt c := by
  rw [sub_sub, le_sub_comm, sqrt_add_sqrt_le_iff (Rat.cast_nonneg.2 hb) (Rat.cast_nonneg.2 hc),
    sqrtIneq_eq_true]
  simp only [← Rat.cast_le (K := ℝ), Rat.cast_zero, Rat.cast_sub, Rat.cast_mul, Rat.cast_ofNat]

/-! ### linear functional on the unit ball -/

variable {m N : ℕ}

/-- Cauchy–Schwarz on the unit ball: `|g·u| ≤ ‖g‖`. -/
theorem abs_dot_le (g u : Fin m → ℝ) (hu : ∑ i, u i ^ 2 ≤ 1) :
    |g ⬝ᵥ u| ≤ Real.sqrt (∑ i, g i ^ 2) := by
  refine Real.abs_le_sqrt ((Finset.sum_mul_sq_le_sq_mul_sq Finset.univ g u).trans ?_)
  exact mul_le_of_le_one_right (Finset.sum_nonneg fun i _ => sq_nonneg _) hu

/-- the bound of `abs_dot_le` is attained from below, at `u = −g/‖g‖` (`u = 0` if `g = 0`) -/
theorem ball_attained (g : Fin m → ℝ) :
    ∃ u : Fin m → ℝ, ∑ i, u i ^ 2 ≤ 1 ∧ g ⬝ᵥ u = -Real.sqrt (∑ i, g i ^ 2) := by
  have hr0 := Real.sqrt_nonneg (∑ i, g i ^ 2)
  have hq := Real.mul_self_sqrt (Finset.sum_nonneg fun i (_ : i ∈ Finset.univ) => sq_nonneg (g i))
  generalize Real.sqrt (∑ i, g i ^ 2) = r at hr0 hq ⊢
  refine ⟨fun i => -(r⁻¹ * g i), ?_, ?_⟩
  · simp only [neg_sq, mul_pow]
    rw [← Finset.mul_sum, ← hq, ← sq, ← mul_pow]
    exact pow_le_one₀ (mul_nonneg (inv_nonneg.2 hr0) hr0) inv_mul_le_one
  · simp only [dotProduct, mul_neg, Finset.sum_neg_distrib, mul_left_comm (g _), ← Finset.mul_sum,
      ← sq]
    rw [← hq, ← mul_assoc, inv_mul_mul_self]

/-! ### ellipsoids -/

/-- The ellipsoid with centre `c`, shape factor `L` (`Σ = L Lᵀ`) and radius `a`:
`{c + a · L u | ‖u‖₂ ≤ 1}`.  For invertible `L` this is `{z | (z−c)ᵀ Σ⁻¹ (z−c) ≤ a²}`. -/
def Ell (c : Fin m → ℝ) (L : Matrix (Fin m) (Fin m) ℝ) (a : ℝ) : Set (Fin m → ℝ) :=
  {z | ∃ u : Fin m → ℝ, ∑ i, u i ^ 2 ≤ 1 ∧ z = c + a • (L *ᵥ u)}

/-- `wᵀ (L Lᵀ) w = ‖Lᵀ w‖²` -/
theorem quad_eq_sum_sq (L : Matrix (Fin m) (Fin m) ℝ) (w : Fin m → ℝ) :
    w ⬝ᵥ ((L * Lᵀ) *ᵥ w) = ∑ j, (w ᵥ* L) j ^ 2 := by
  rw [← mulVec_mulVec, dotProduct_mulVec, mulVec_transpose]
  simp only [dotProduct, pow_two]

theorem quad_nonneg (L : Matrix (Fin m) (Fin m) ℝ) (w : Fin m → ℝ) : 0 ≤ w ⬝ᵥ ((L * Lᵀ) *ᵥ w) := by
  rw [quad_eq_sum_sq]
  exact Finset.sum_nonneg fun j _ => sq_nonneg _

theorem dot_ell_point (w c u : Fin m → ℝ) (L : Matrix (Fin m) (Fin m) ℝ) (a : ℝ) :
    w ⬝ᵥ (c + a • (L *ᵥ u)) = w ⬝ᵥ c + a * ((w ᵥ* L) ⬝ᵥ u) := by
  rw [dotProduct_add, dotProduct_smul, dotProduct_mulVec, smul_eq_mul]

/-- **Support function of an ellipsoid**: on `Ell c L a` the functional `w·z` stays within
`a‖Lᵀw‖ = a√(wᵀ L Lᵀ w)` of `w·c` … -/
theorem abs_dot_sub_le {w c z : Fin m → ℝ} {L : Matrix (Fin m) (Fin m) ℝ} {a : ℝ} (ha : 0 ≤ a)
    (hz : z ∈ Ell c L a) : |w ⬝ᵥ z - w ⬝ᵥ c| ≤ a * Real.sqrt (w ⬝ᵥ ((L * Lᵀ) *ᵥ w)) := by
  obtain ⟨u, hu, rfl⟩ := hz
  rw [dot_ell_point, add_sub_cancel_left, abs_mul, abs_of_nonneg ha, quad_eq_sum_sq]
  exact mul_le_mul_of_nonneg_left (abs_dot_le _ u hu) ha

/-- … and the lower end is attained (the upper one too: take `-w`). -/
theorem ell_attained (w c : Fin m → ℝ) (L : Matrix (Fin m) (Fin m) ℝ) (a : ℝ) :
    ∃ z ∈ Ell c L a, w ⬝ᵥ z = w ⬝ᵥ c - a * Real.sqrt (w ⬝ᵥ ((L * Lᵀ) *ᵥ w)) := by
  obtain ⟨u, hu, e⟩ := ball_attained (w ᵥ* L)
  refine ⟨_, ⟨u, hu, rfl⟩, ?_⟩
  rw [dot_ell_point, e, quad_eq_sum_sq, mul_neg, sub_eq_add_neg]

/-- the minimum of `w·(z' − z)` over a pair of ellipsoids is attained at
`w·(c₂ − c₁) − a₁‖L₁ᵀw‖ − a₂‖L₂ᵀw‖` -/
theorem ell_pair_attained (w c1 c2 : Fin m → ℝ) (L1 L2 : Matrix (Fin m) (Fin m) ℝ) (a1 a2 : ℝ) :
    ∃ z ∈ Ell c1 L1 a1, ∃ z' ∈ Ell c2 L2 a2,
      w ⬝ᵥ (z' - z) = w ⬝ᵥ (c2 - c1) - a1 * Real.sqrt (w ⬝ᵥ ((L1 * L1ᵀ) *ᵥ w))
        - a2 * Real.sqrt (w ⬝ᵥ ((L2 * L2ᵀ) *ᵥ w)) := by
  obtain ⟨z, hz, e⟩ := ell_attained (-w) c1 L1 a1
  obtain ⟨z', hz', e'⟩ := ell_attained w c2 L2 a2
  simp only [neg_dotProduct, mulVec_neg, dotProduct_neg, neg_neg] at e
  refine ⟨z, hz, z', hz', ?_⟩
  rw [dotProduct_sub, dotProduct_sub, sub_eq_add_neg (w ⬝ᵥ z'), e, e']
  ring

/-- **Support function of a pair of ellipsoids**: a lower bound `t` for `w·(z' − z)` holds on the
whole pair iff it holds for the minimum. -/
theorem ell_pair_min (w c1 c2 : Fin m → ℝ) (L1 L2 : Matrix (Fin m) (Fin m) ℝ) (a1 a2 t : ℝ)
    (ha1 : 0 ≤ a1) (ha2 : 0 ≤ a2) :
    (∀ z ∈ Ell c1 L1 a1, ∀ z' ∈ Ell c2 L2 a2, t ≤ w ⬝ᵥ (z' - z)) ↔
      t ≤ w ⬝ᵥ (c2 - c1) - a1 * Real.sqrt (w ⬝ᵥ ((L1 * L1ᵀ) *ᵥ w))
        - a2 * Real.sqrt (w ⬝ᵥ ((L2 * L2ᵀ) *ᵥ w)) := by
  constructor
  · intro h
    obtain ⟨z, hz, z', hz', e⟩ := ell_pair_attained w c1 c2 L1 L2 a1 a2
    exact e ▸ h z hz z' hz'
  · intro h z hz z' hz'
    have b1 := (abs_le.1 (abs_dot_sub_le (w := w) ha1 hz)).2
    have b2 := (abs_le.1 (abs_dot_sub_le (w := w) ha2 hz')).1
    rw [dotProduct_sub] at h ⊢
    linarith

/-! ### bridge from the list model -/

abbrev castVec (v : Fin m → ℚ) : Fin m → ℝ := fun i => (v i : ℝ)

theorem castVec_sub (a b : Fin m → ℚ) : castVec (fun i => a i - b i) = castVec a - castVec b :=
  funext fun _ => Rat.cast_sub _ _

theorem dot_toVec_cast (a b : Fin m → ℚ) :
    ((dot (toVec a) (toVec b) : ℚ) : ℝ) = castVec a ⬝ᵥ castVec b := by
  rw [dot_toVec, Rat.cast_sum]
  exact Finset.sum_congr rfl fun i _ => Rat.cast_mul _ _

theorem quadForm_toMat (S : Fin m → Fin m → ℚ) (w : Fin m → ℚ) :
    quadForm (toMat S) (toVec w) = ∑ i, w i * ∑ j, S i j * w j := by
  rw [quadForm, matVec_toMat, dot_toVec]

/-- the model's quadratic form over `ℝ` -/
theorem quadForm_cast (S : Fin m → Fin m → ℚ) (w : Fin m → ℚ) :
    ((quadForm (toMat S) (toVec w) : ℚ) : ℝ) =
      castVec w ⬝ᵥ ((Matrix.of fun i j => (S i j : ℝ)) *ᵥ castVec w) := by
  rw [quadForm_toMat]
  simp only [castVec, mulVec, dotProduct, Matrix.of_apply, Rat.cast_sum, Rat.cast_mul]

theorem quadForm_nonneg (S : Fin m → Fin m → ℚ) (w : Fin m → ℚ) (L : Matrix (Fin m) (Fin m) ℝ)
    (hL : (Matrix.of fun i j => (S i j : ℝ)) = L * Lᵀ) : 0 ≤ quadForm (toMat S) (toVec w) := by
  rw [← Rat.cast_nonneg (K := ℝ), quadForm_cast, hL]
  exact quad_nonneg L _

theorem sqrt_mul_self_mul {a : ℝ} (ha : 0 ≤ a) (q : ℝ) : Real.sqrt (a * a * q) = a * Real.sqrt q := by
  rw [Real.sqrt_mul (mul_self_nonneg a), Real.sqrt_mul_self ha]

/-- the facet test of the model is the closed-form inequality over `ℝ` -/
theorem facetOk_iff (w c1 c2 : Fin m → ℚ) (S1 S2 : Fin m → Fin m → ℚ) (a1 a2 d : ℚ)
    (L1 L2 : Matrix (Fin m) (Fin m) ℝ)
    (hL1 : (Matrix.of fun i j => (S1 i j : ℝ)) = L1 * L1ᵀ)
    (hL2 : (Matrix.of fun i j => (S2 i j : ℝ)) = L2 * L2ᵀ)
    (ha1 : 0 ≤ a1) (ha2 : 0 ≤ a2) :
    facetOk (toVec w) (toVec c1) (toMat S1) a1 (toVec c2) (toMat S2) a2 d = true ↔
      (d : ℝ) ≤ castVec w ⬝ᵥ (castVec c2 - castVec c1)
        - a1 * Real.sqrt (castVec w ⬝ᵥ ((L1 * L1ᵀ) *ᵥ castVec w))
        - a2 * Real.sqrt (castVec w ⬝ᵥ ((L2 * L2ᵀ) *ᵥ castVec w)) := by
  rw [facetOk, sqrtIneq_iff _ _ _ _ (mul_nonneg (mul_self_nonneg a1) (quadForm_nonneg S1 w L1 hL1))
      (mul_nonneg (mul_self_nonneg a2) (quadForm_nonneg S2 w L2 hL2)),
    Rat.cast_mul, Rat.cast_mul, Rat.cast_mul, Rat.cast_mul, quadForm_cast, quadForm_cast, hL1, hL2,
    sqrt_mul_self_mul (Rat.cast_nonneg.2 ha1), sqrt_mul_self_mul (Rat.cast_nonneg.2 ha2),
    vsub_toVec, dot_toVec_cast, castVec_sub]

theorem zip_toMat_toVec (W : Fin N → Fin m → ℚ) (s : Fin N → ℚ) :
    (toMat W).zip (toVec s) = List.ofFn fun n => (toVec (W n), s n) := by
  rw [List.zip_eq_zipWith]
  exact zipWith_ofFn Prod.mk (fun n => toVec (W n)) s

/-- **Semantic predicate (ellipsoids), threshold form**: for all `z ∈ E₁`, `z' ∈ E₂` and every
facet `n`: `w_n·(z' − z) ≥ −s_n + t`. -/
def DominatedTol (W : Fin N → Fin m → ℚ) (c1 : Fin m → ℚ) (L1 : Matrix (Fin m) (Fin m) ℝ) (a1 : ℚ)
    (c2 : Fin m → ℚ) (L2 : Matrix (Fin m) (Fin m) ℝ) (a2 : ℚ) (s : Fin N → ℚ) (t : ℚ) : Prop :=
  ∀ z ∈ Ell (castVec c1) L1 a1, ∀ z' ∈ Ell (castVec c2) L2 a2, ∀ n,
    -(s n : ℝ) + t ≤ castVec (W n) ⬝ᵥ (z' - z)

/-- **Semantic predicate (ellipsoids)**: every point of `E₂` dominates every point of `E₁` up to
the per-facet allowance `s`: `∀ z ∈ E₁, ∀ z' ∈ E₂, ∀ n, w_n·(z' − z) ≥ −s_n`. -/
def Dominated (W : Fin N → Fin m → ℚ) (c1 : Fin m → ℚ) (L1 : Matrix (Fin m) (Fin m) ℝ) (a1 : ℚ)
    (c2 : Fin m → ℚ) (L2 : Matrix (Fin m) (Fin m) ℝ) (a2 : ℚ) (s : Fin N → ℚ) : Prop :=
  ∀ z ∈ Ell (castVec c1) L1 a1, ∀ z' ∈ Ell (castVec c2) L2 a2, ∀ n,
    -(s n : ℝ) ≤ castVec (W n) ⬝ᵥ (z' - z)

theorem dominatedTol_zero (W : Fin N → Fin m → ℚ) (c1 : Fin m → ℚ) (L1 : Matrix (Fin m) (Fin m) ℝ)
    (a1 : ℚ) (c2 : Fin m → ℚ) (L2 : Matrix (Fin m) (Fin m) ℝ) (a2 : ℚ) (s : Fin N → ℚ) :
    DominatedTol W c1 L1 a1 c2 L2 a2 s 0 ↔ Dominated W c1 L1 a1 c2 L2 a2 s := by
  simp only [DominatedTol, Dominated, Rat.cast_zero, add_zero]

/-- the slack guards of the two region classes are the same function -/
theorem expandSlack_eq_rect (N : ℕ) (s : Vec) : expandSlack N s = Rect.expandSlack N s := rfl

theorem isDominatedTol_zero (W : Mat) (c1 : Vec) (S1 : Mat) (a1 : ℚ) (c2 : Vec) (S2 : Mat) (a2 : ℚ)
    (s : Vec) : isDominatedTol W c1 S1 a1 c2 S2 a2 s 0 = isDominated W c1 S1 a1 c2 S2 a2 s := by
  simp only [isDominatedTol, isDominated, add_zero]

/-- the facet loop with thresholds `−s_n + t` decides the threshold ∀∀ statement -/
theorem isDominatedTol_iff (W : Fin N → Fin m → ℚ) (c1 c2 : Fin m → ℚ) (S1 S2 : Fin m → Fin m → ℚ)
    (a1 a2 : ℚ) (s : Fin N → ℚ) (t : ℚ) (L1 L2 : Matrix (Fin m) (Fin m) ℝ)
    (hL1 : (Matrix.of fun i j => (S1 i j : ℝ)) = L1 * L1ᵀ)
    (hL2 : (Matrix.of fun i j => (S2 i j : ℝ)) = L2 * L2ᵀ)
    (ha1 : 0 ≤ a1) (ha2 : 0 ≤ a2) :
    isDominatedTol (toMat W) (toVec c1) (toMat S1) a1 (toVec c2) (toMat S2) a2 (toVec s) t = true ↔
      DominatedTol W c1 L1 a1 c2 L2 a2 s t := by
  have hn : ¬ (a1 < 0 ∨ a2 < 0) := not_or.2 ⟨not_lt.2 ha1, not_lt.2 ha2⟩
  simp only [isDominatedTol, Bool.or_eq_true, decide_eq_true_eq, hn, if_false, zip_toMat_toVec,
    List.all_eq_true, List.mem_ofFn, forall_exists_index, forall_apply_eq_imp_iff]
  have hf : ∀ n, facetOk (toVec (W n)) (toVec c1) (toMat S1) a1 (toVec c2) (toMat S2) a2 (-s n + t)
      = true ↔ ∀ z ∈ Ell (castVec c1) L1 a1, ∀ z' ∈ Ell (castVec c2) L2 a2,
        -(s n : ℝ) + t ≤ castVec (W n) ⬝ᵥ (z' - z) := by
    intro n
    rw [facetOk_iff (W n) c1 c2 S1 S2 a1 a2 (-s n + t) L1 L2 hL1 hL2 ha1 ha2,
      ell_pair_min _ _ _ _ _ _ _ _ (Rat.cast_nonneg.2 ha1) (Rat.cast_nonneg.2 ha2),
      Rat.cast_add, Rat.cast_neg]
  constructor
  · intro h z hz z' hz' n
    exact (hf n).1 (h n) z hz z' hz'
  · intro h n
    exact (hf n).2 fun z hz z' hz' => h z hz z' hz' n

/-- the facet loop decides `Dominated` (radii `≥ 0`, `Σᵢ = Lᵢ Lᵢᵀ`) -/
theorem isDominated_iff (W : Fin N → Fin m → ℚ) (c1 c2 : Fin m → ℚ) (S1 S2 : Fin m → Fin m → ℚ)
    (a1 a2 : ℚ) (s : Fin N → ℚ) (L1 L2 : Matrix (Fin m) (Fin m) ℝ)
    (hL1 : (Matrix.of fun i j => (S1 i j : ℝ)) = L1 * L1ᵀ)
    (hL2 : (Matrix.of fun i j => (S2 i j : ℝ)) = L2 * L2ᵀ)
    (ha1 : 0 ≤ a1) (ha2 : 0 ≤ a2) :
    isDominated (toMat W) (toVec c1) (toMat S1) a1 (toVec c2) (toMat S2) a2 (toVec s) = true ↔
      Dominated W c1 L1 a1 c2 L2 a2 s := by
  rw [← isDominatedTol_zero, isDominatedTol_iff W c1 c2 S1 S2 a1 a2 s 0 L1 L2 hL1 hL2 ha1 ha2,
    dominatedTol_zero]

end VOPy.Ellipsoid
