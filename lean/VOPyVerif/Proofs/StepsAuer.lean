import VOPyVerif.Proofs.Steps
import Mathlib.Algebra.Order.Ring.Unbundled.Rat
/-! The numbers of Auer's rules (`vmin`, `vmax`, `m(·,·)`, `M(·,·)`, the `np.all` comparisons), and
positional versus by-design lookup of the width rows. -/
namespace VOPy.Steps

/-! ## numbers -/

/-- a fold with an operation that a predicate splits over (`min`, `max` against a bound) -/
theorem foldl_iff_forall {op : Rat → Rat → Rat} {p : Rat → Prop} (h : ∀ a b, p (op a b) ↔ p a ∧ p b)
    (xs : List Rat) (x : Rat) : p (xs.foldl op x) ↔ ∀ y ∈ x :: xs, p y := by
  induction xs generalizing x with
  | nil => exact List.forall_mem_singleton.symm
  | cons a xs ih => simp only [List.foldl_cons, ih, List.forall_mem_cons, h, and_assoc]

/-- `t < np.min(v)` for a non-empty vector -/
theorem lt_vmin_iff {v : Vec} (hv : v ≠ []) (t : Rat) : t < vmin v ↔ ∀ x ∈ v, t < x := by
  cases v with
  | nil => exact absurd rfl hv
  | cons a xs => exact foldl_iff_forall (p := (t < ·)) (fun _ _ => lt_min_iff) xs a

theorem vmax_lt_iff {v : Vec} (hv : v ≠ []) (t : Rat) : vmax v < t ↔ ∀ x ∈ v, x < t := by
  cases v with
  | nil => exact absurd rfl hv
  | cons a xs => exact foldl_iff_forall (p := (· < t)) (fun _ _ => max_lt_iff) xs a

theorem vmax_le_iff {v : Vec} (hv : v ≠ []) (t : Rat) : vmax v ≤ t ↔ ∀ x ∈ v, x ≤ t := by
  cases v with
  | nil => exact absurd rfl hv
  | cons a xs => exact foldl_iff_forall (p := (· ≤ t)) (fun _ _ => max_le_iff) xs a

/-- `β < m(c_i, c_j)` for a non-negative width `β`: every coordinate of `c_j − c_i` exceeds `β`. -/
theorem lt_smallM_iff {ci cj : Vec} (hv : vsub cj ci ≠ []) {b : Rat} (hb : 0 ≤ b) :
    b < smallM ci cj ↔ ∀ x ∈ vsub cj ci, b < x := by
  unfold smallM
  rw [lt_max_iff, lt_vmin_iff hv]
  constructor
  · rintro (h | h)
    · exact absurd h (not_lt.mpr hb)
    · exact h
  · intro h; exact Or.inr h

/-- `M(c_i, c_j) < β` : `β` is positive and exceeds every coordinate of `c_i + ε − c_j` (the `max`
with 0 takes care of the empty vector). -/
theorem bigM_lt_iff {eps : Rat} {ci cj : Vec} (b : Rat) :
    bigM eps ci cj < b ↔ 0 < b ∧ ∀ x ∈ vsub (ci.map (· + eps)) cj, x < b := by
  unfold bigM
  rw [max_lt_iff]
  refine and_congr_right fun hb => ?_
  cases hv : vsub (ci.map (· + eps)) cj with
  | nil => exact iff_of_true hb nofun
  | cons a xs => exact vmax_lt_iff (List.cons_ne_nil a xs) b

theorem bigM_le_iff {eps : Rat} {ci cj : Vec} (b : Rat) :
    bigM eps ci cj ≤ b ↔ 0 ≤ b ∧ ∀ x ∈ vsub (ci.map (· + eps)) cj, x ≤ b := by
  unfold bigM
  rw [max_le_iff]
  refine and_congr_right fun hb => ?_
  cases hv : vsub (ci.map (· + eps)) cj with
  | nil => exact iff_of_true hb nofun
  | cons a xs => exact vmax_le_iff (List.cons_ne_nil a xs) b

theorem allGt_iff (x : Rat) (beta : Vec) : allGt x beta = true ↔ ∀ b ∈ beta, b < x := by
  simp only [allGt, List.all_eq_true, decide_eq_true_eq]

theorem allLt_iff (x : Rat) (beta : Vec) : allLt x beta = true ↔ ∀ b ∈ beta, x < b := by
  simp only [allLt, List.all_eq_true, decide_eq_true_eq]

theorem allLe_iff (x : Rat) (beta : Vec) : allLe x beta = true ↔ ∀ b ∈ beta, x ≤ b := by
  simp only [allLe, List.all_eq_true, decide_eq_true_eq]

/-! ## width lookup -/

theorem mem_byDesign {width : Nat → Vec} {S : List Nat} {p : Nat × Vec} :
    p ∈ byDesign width S ↔ p.1 ∈ S ∧ p.2 = width p.1 := by
  unfold byDesign
  simp only [List.mem_map]
  constructor
  · rintro ⟨i, hi, rfl⟩; exact ⟨hi, rfl⟩
  · rintro ⟨h1, h2⟩; exact ⟨p.1, h1, by rw [← h2]⟩

theorem byPosition_aligned (width : Nat → Vec) (S : List Nat) :
    byPosition (S.map width) S = byDesign width S := by
  unfold byPosition byDesign
  induction S with
  | nil => rfl
  | cons a S ih => simp only [List.map_cons, List.zip_cons_cons, ih]

/-- in `discarding()` the rows are aligned with the very set that is scanned -/
theorem auerDiscardPos_aligned (centre width : Nat → Vec) (S : List Nat) :
    auerDiscardPos centre (S.map width) S = auerDiscard centre width S := by
  unfold auerDiscardPos auerDiscard
  rw [byPosition_aligned]

/-- positional lookup in general: the element of `S` at position `k` reads `rows[k]`, i.e. design
`i` reads the row at its own position `S.idxOf i` — whatever design that row was computed for. -/
theorem byPosition_eq_byDesign_idx {S : List Nat} (hS : S.Nodup) (rows : List Vec)
    (hlen : S.length ≤ rows.length) :
    byPosition rows S = byDesign (fun i => rows.getD (S.idxOf i) []) S := by
  induction S generalizing rows with
  | nil => rfl
  | cons a S ih =>
    match rows, hlen with
    | r :: rows, hlen =>
      rw [List.nodup_cons] at hS
      have e : byPosition (r :: rows) (a :: S) = (a, r) :: byPosition rows S := rfl
      rw [e, ih hS.2 rows (Nat.le_of_succ_le_succ hlen)]
      simp only [byDesign, List.map_cons, List.idxOf_cons_self, List.getD_cons_zero, List.cons.injEq, true_and]
      refine List.map_congr_left fun i hi => ?_
      have hne : a ≠ i := fun h => hS.1 (h ▸ hi)
      rw [List.idxOf_cons, beq_false_of_ne hne, cond_false, List.getD_cons_succ]

/-! ## stage 1 -/

/-- the stage-1 test of `pareto_updating` for design `i` with own widths -/
def passesP1 (eps : Rat) (centre width : Nat → Vec) (S : List Nat) (i : Nat) : Prop :=
  i ∈ S ∧ ∀ j ∈ S, j ≠ i →
    allLt (bigM eps (centre i) (centre j)) (vadd (width i) (width j)) = false

theorem mem_auerP1_iff_passesP1 {eps : Rat} {centre width : Nat → Vec} {S : List Nat} {i : Nat} :
    i ∈ auerP1 eps centre width S ↔ passesP1 eps centre width S i :=
  mem_auerP1

end VOPy.Steps
