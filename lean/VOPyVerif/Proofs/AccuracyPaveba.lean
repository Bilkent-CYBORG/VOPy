import VOPyVerif.Proofs.AccuracySets
/-!
# C01, PaVeBa family: the invariant over rounds, abstractly

The true means enter only through two relations on design indices,

* `dom j i`  — "μ_j weakly dominates μ_i" (transitive),
* `good i j` — "j does not exceed i by more than the tolerance" (reflexive; downward closed in `j`
  along `dom`),

and the geometry only through the per-round oracle soundness `RoundSound`.  `paveba_step` shows
that one `Steps.pavebaRound` preserves the invariant `PInv` (DESIGN §3.1: (I1) bookkeeping, (I2)
every discarded design is dominated by a living one, (I3) every member of `P` is `good` against
every design, plus (I5) every candidate is `good` against every member of `P` that is not useful);
`pinv_final` reads the two conclusions off the invariant at termination.
-/
namespace VOPy.Accuracy
open VOPy VOPy.Steps

/-- facts about the true means, abstractly, among the designs `0 … K-1` -/
structure Truth (K : Nat) (dom good : Nat → Nat → Prop) : Prop where
  dom_trans : ∀ i j k, i < K → j < K → k < K → dom i j → dom j k → dom i k
  good_refl : ∀ i, i < K → good i i
  good_mono : ∀ i k j, i < K → k < K → j < K → good i k → dom k j → good i j

/-- the invariant of the PaVeBa-family run -/
structure PInv (K : Nat) (dom good : Nat → Nat → Prop) (S P U : List Nat) : Prop where
  nodupS : S.Nodup
  nodupP : P.Nodup
  disj : ∀ x, x ∈ S → x ∉ P
  lt : ∀ x, x ∈ S ∨ x ∈ P → x < K
  subU : ∀ x, x ∈ U → x ∈ P
  /-- (I2) -/
  covered : ∀ i, i < K → i ∉ S → i ∉ P → ∃ j, (j ∈ S ∨ j ∈ P) ∧ dom j i
  /-- (I3) -/
  acc : ∀ i, i ∈ P → ∀ j, j < K → good i j
  /-- (I5) -/
  notUseful : ∀ s, s ∈ S → ∀ p, p ∈ P → p ∉ U → good s p

/-- what validity of the displayed regions gives about one round's oracles, for the state
`(S, P, U)` the round starts from -/
structure RoundSound (dom good : Nat → Nat → Prop) (isDom isCov : Rel) (S P U : List Nat) : Prop where
  /-- region domination (zero slack) implies domination of the true means -/
  dom_sound : ∀ i, i ∈ S → ∀ j, (j ∈ S ∨ j ∈ U) → j ≠ i → isDom i j = true → dom j i
  /-- region domination is a strict partial order on the active designs -/
  dom_trans : ∀ i j k, (i ∈ S ∨ i ∈ U) → (j ∈ S ∨ j ∈ U) → (k ∈ S ∨ k ∈ U) →
    isDom i j = true → isDom j k = true → isDom i k = true
  dom_irrefl : ∀ i, (i ∈ S ∨ i ∈ U) → isDom i i = false
  /-- a failed covering test certifies `good` at the true means (regions of all living designs,
  including the last displayed ones of `P ∖ U`, contain the truth) -/
  cov_sound : ∀ i j, (i ∈ S ∨ i ∈ P) → (j ∈ S ∨ j ∈ P) → j ≠ i → isCov i j = false → good i j

theorem pinv_init (K : Nat) (dom good : Nat → Nat → Prop) : PInv K dom good (List.range K) [] [] where
  nodupS := List.nodup_range
  nodupP := List.nodup_nil
  disj := fun _ _ h => nomatch h
  lt := fun _ hx => hx.elim List.mem_range.mp (fun h => nomatch h)
  subU := fun _ h => nomatch h
  covered := fun _ hi hS _ => absurd (List.mem_range.mpr hi) hS
  acc := fun _ h => nomatch h
  notUseful := fun _ _ _ h => nomatch h

section
variable {K : Nat} {dom good : Nat → Nat → Prop} {isDom isCov : Rel} {S P U : List Nat}

/-- A design discarded in this round is dominated by a living one: a witness that is maximal for
region domination is not discarded itself. -/
theorem paveba_discarded_dominated (hinv : PInv K dom good S P U)
    (hs : RoundSound dom good isDom isCov S P U) :
    ∀ i ∈ S, i ∉ pavebaDiscard isDom S U → ∃ k, (k ∈ pavebaDiscard isDom S U ∨ k ∈ P) ∧ dom k i := by
  intro i hiS hi1
  have hex : ∃ j ∈ union S U, isDom i j = true := by
    apply Classical.byContradiction
    intro hno
    exact hi1 ((mem_pavebaDiscard hinv.nodupS).mpr ⟨hiS, fun j hj _ =>
      Bool.eq_false_iff.mpr fun h => hno ⟨j, mem_union.mpr hj, h⟩⟩)
  obtain ⟨k, hkA, hik, hkmax⟩ := exists_maximal_above_of_lt isDom (fun a b => isDom a b = true)
    (union S U)
    (fun a ha b hb c hc => hs.dom_trans a b c (mem_union.mp ha) (mem_union.mp hb) (mem_union.mp hc))
    (fun a ha => Bool.eq_false_iff.mp (hs.dom_irrefl a (mem_union.mp ha)))
    (fun _ _ _ _ h => h) i (mem_union.mpr (Or.inl hiS)) hex
  have hkA' := mem_union.mp hkA
  have hki : k ≠ i := fun h => Bool.eq_false_iff.mp (hs.dom_irrefl i (Or.inl hiS)) (h ▸ hik)
  refine ⟨k, ?_, hs.dom_sound i hiS k hkA' hki hik⟩
  rcases hkA' with hkS | hkU
  · exact Or.inl ((mem_pavebaDiscard hinv.nodupS).mpr ⟨hkS, fun l hl _ => hkmax l (mem_union.mpr hl)⟩)
  · exact Or.inr (hinv.subU k hkU)

/-- A candidate among the survivors `S₁` that passes the covering test is `good` against every living
design: the test says so for `S₁ ∪ U`, (I5) for the rest of `P`. -/
theorem paveba_new_good_live (htruth : Truth K dom good) (hinv : PInv K dom good S P U)
    (hs : RoundSound dom good isDom isCov S P U) {S₁ : List Nat} (hsub : ∀ x ∈ S₁, x ∈ S) :
    ∀ i ∈ pavebaNewPareto isCov S₁ U, ∀ k, (k ∈ S₁ ∨ k ∈ P) → good i k := by
  intro i hi k hk
  obtain ⟨hi1, hnc⟩ := mem_pavebaNewPareto.mp hi
  have hiS := hsub i hi1
  by_cases hki : k = i
  · subst hki; exact htruth.good_refl k (hinv.lt k (Or.inl hiS))
  · rcases hk with hk1 | hkP
    · exact hs.cov_sound i k (Or.inl hiS) (Or.inl (hsub k hk1)) hki (hnc k (Or.inl hk1) hki)
    · by_cases hkU : k ∈ U
      · exact hs.cov_sound i k (Or.inl hiS) (Or.inr hkP) hki (hnc k (Or.inr hkU) hki)
      · exact hinv.notUseful i hiS k hkP hkU

/-- **One round preserves the invariant.** -/
theorem paveba_step (htruth : Truth K dom good) (hinv : PInv K dom good S P U)
    (hs : RoundSound dom good isDom isCov S P U) :
    PInv K dom good (pavebaRound isDom isCov S P U).1 (pavebaRound isDom isCov S P U).2.1
      (pavebaRound isDom isCov S P U).2.2 := by
  -- `S₁`: the survivors of discarding
  have hS1nd : (pavebaDiscard isDom S U).Nodup := nodup_removeAll hinv.nodupS
  have hS1sub : ∀ x ∈ pavebaDiscard isDom S U, x ∈ S :=
    fun x hx => ((mem_pavebaDiscard hinv.nodupS).mp hx).1
  have hsurv := paveba_discarded_dominated hinv hs
  show PInv K dom good (removeAll _ _) (addAll _ _) (pavebaUseful isCov (removeAll _ _) (addAll _ _))
  generalize pavebaDiscard isDom S U = S₁ at *
  have hNsub : ∀ x ∈ pavebaNewPareto isCov S₁ U, x ∈ S₁ := fun x hx => (mem_pavebaNewPareto.mp hx).1
  obtain ⟨hcov2, hacc2⟩ := covered_acc_of_move htruth.dom_trans htruth.good_mono hS1nd hS1sub hNsub
    hinv.lt hinv.covered hinv.acc hsurv (paveba_new_good_live htruth hinv hs hS1sub)
  have hdisj := move_disjoint (P := P) (new := pavebaNewPareto isCov S₁ U) hS1nd
    fun x hx => hinv.disj x (hS1sub x hx)
  refine
    { nodupS := nodup_removeAll hS1nd
      nodupP := nodup_addAll hinv.nodupP
      disj := hdisj
      lt := fun x hx => hinv.lt x ((move_subset hNsub hx).imp_left (hS1sub x))
      subU := fun x hx => (mem_pavebaUseful.mp hx).1
      covered := hcov2, acc := hacc2, notUseful := ?_ }
  -- a member of `P` that is not useful passes the covering test against every candidate
  intro s hs2 p hp2 hpU
  have hsS := hS1sub s (removeAll_subset hs2)
  have hpl : p ∈ S ∨ p ∈ P := (move_subset hNsub (Or.inr hp2)).imp_left (hS1sub p)
  exact hs.cov_sound s p (Or.inl hsS) hpl (fun h => hdisj s hs2 (h ▸ hp2))
    (Bool.eq_false_iff.mpr fun hc => hpU (mem_pavebaUseful.mpr ⟨hp2, s, hs2, hc⟩))

end

/-- **The invariant holds after every round** of a run all of whose rounds are sound. -/
theorem paveba_run_inv {K : Nat} {dom good : Nat → Nat → Prop} (htruth : Truth K dom good)
    (isDom isCov : Nat → Rel) (T : Nat)
    (hs : ∀ r, r < T → RoundSound dom good (isDom r) (isCov r)
      (pavebaRun K isDom isCov r).1 (pavebaRun K isDom isCov r).2.1 (pavebaRun K isDom isCov r).2.2) :
    PInv K dom good (pavebaRun K isDom isCov T).1 (pavebaRun K isDom isCov T).2.1
      (pavebaRun K isDom isCov T).2.2 := by
  induction T with
  | zero => exact pinv_init K dom good
  | succ T ih =>
    exact paveba_step htruth (ih fun r hr => hs r (Nat.lt_succ_of_lt hr)) (hs T (Nat.lt_succ_self T))

/-- at termination (`S = []`): (a) every design outside `P` is dominated by a member of `P`,
(b) every member of `P` is `good` against every design -/
theorem pinv_final {K : Nat} {dom good : Nat → Nat → Prop} {S P U : List Nat}
    (h : PInv K dom good S P U) (hS : S = []) :
    (∀ i, i < K → i ∉ P → ∃ j ∈ P, dom j i) ∧ (∀ i ∈ P, ∀ j, j < K → good i j) := by
  subst hS
  exact ⟨covered_of_nil h.covered, h.acc⟩

end VOPy.Accuracy
