import VOPyVerif.Model.GPWrap
import VOPyVerif.Proofs.ListBasic
/-! The wrapper state machine of `Model/GPWrap.lean` (core Lean only): only `update` moves `held`
into `conditioned`, so a history is read off at its last `update`; and what the model-list store
`mlAdd` does to each objective's list. -/
namespace VOPy.GPWrap

variable {D B β σ : Type}

/-- an op that is not `update` -/
def Op.isUpdate : Op B → Bool
  | .update => true
  | _ => false

@[simp] theorem run_nil (S : Store D B) (s : State D) : run S s [] = s := rfl

@[simp] theorem run_cons (S : Store D B) (s : State D) (o : Op B) (ops : List (Op B)) :
    run S s (o :: ops) = run S (step S s o) ops := rfl

theorem run_append (S : Store D B) (s : State D) (a b : List (Op B)) :
    run S s (a ++ b) = run S (run S s a) b :=
  List.foldl_append

theorem step_noUpdate (S : Store D B) (s : State D) (o : Op B) (ho : o.isUpdate = false) :
    (step S s o).conditioned = s.conditioned ∧ (step S s o).initialised = s.initialised := by
  cases o with
  | update => cases ho
  | _ => exact ⟨rfl, rfl⟩

theorem run_noUpdate (S : Store D B) (ops : List (Op B)) (s : State D)
    (h : ∀ o ∈ ops, o.isUpdate = false) :
    (run S s ops).conditioned = s.conditioned ∧ (run S s ops).initialised = s.initialised := by
  induction ops generalizing s with
  | nil => exact ⟨rfl, rfl⟩
  | cons o ops ih =>
    have h1 := step_noUpdate S s o (h o List.mem_cons_self)
    have h2 := ih (step S s o) (fun o' ho' => h o' (List.mem_cons_of_mem o ho'))
    exact ⟨h2.1.trans h1.1, h2.2.trans h1.2⟩

/-- `update` never touches `held` -/
theorem step_update_held (S : Store D B) (s : State D) : (step S s .update).held = s.held := rfl

/-- after `pre ++ [update] ++ tail` with no update in `tail`, `predict` is the posterior of what was
held when that last update ran -/
theorem predict_last_update (S : Store D B) (post : D → β) (s : State D) (pre tail : List (Op B))
    (h : ∀ o ∈ tail, o.isUpdate = false) :
    predict post (run S s (pre ++ .update :: tail)) = some (post (run S s pre).held) := by
  rw [run_append, run_cons]
  obtain ⟨h1, h2⟩ := run_noUpdate S tail (step S (run S s pre) .update) h
  rw [predict, h1, h2]
  rfl

theorem split_last_update (ops : List (Op B)) :
    (∀ o ∈ ops, o.isUpdate = false) ∨
    ∃ pre post, ops = pre ++ .update :: post ∧ ∀ o ∈ post, o.isUpdate = false := by
  induction ops with
  | nil => exact .inl (fun _ h => absurd h List.not_mem_nil)
  | cons o ops ih =>
    rcases ih with h | ⟨pre, post, rfl, hp⟩
    · cases o with
      | update => exact .inr ⟨[], ops, rfl, h⟩
      | _ => exact .inl (List.forall_mem_cons.mpr ⟨rfl, h⟩)
    · exact .inr ⟨o :: pre, post, rfl, hp⟩

theorem run_map_add (S : Store D B) (s : State D) (bs : List B) :
    run S s (bs.map .add) = { s with held := bs.foldl S.add s.held } := by
  induction bs generalizing s with
  | nil => rfl
  | cons b bs ih => exact ih (step S s (.add b))

theorem helperOpsConditional_none (train : List B) :
    helperOpsConditional train none = train.map .add ++ [.update, .clear] :=
  List.append_nil _

theorem helperOpsConditional_some (train : List B) (b : B) :
    helperOpsConditional train (some b) =
      (train.map .add ++ [.update, .clear, .add b]) ++ [.update] := by
  simp [helperOpsConditional]

/-- the pre-fix helper sequence with `initial_sample_cnt = 0` returns a model that holds nothing and
is still conditioned on the training set -/
theorem run_helperOpsConditional_none (S : Store D B) (train : List B) :
    run S (init S) (helperOpsConditional train none) =
      ⟨S.empty, train.foldl S.add S.empty, true⟩ := by
  rw [helperOpsConditional_none, run_append, run_map_add]
  rfl

/-! ### the model-list store -/

theorem getElem?_addSingle (d : List (List σ)) (j : Nat) (b : List σ) (i : Nat) :
    (addSingle d j b)[i]? = if j = i then d[i]?.map (· ++ b) else d[i]? := by
  unfold addSingle
  rw [List.getElem?_modify]
  by_cases h : j = i <;> simp [h]

theorem length_addSingle (d : List (List σ)) (j : Nat) (b : List σ) :
    (addSingle d j b).length = d.length :=
  List.length_modify ..

theorem getElem?_foldl_addSingle (js : List Nat) (hjs : js.Nodup) (f : Nat → List σ)
    (d : List (List σ)) (i : Nat) :
    (js.foldl (fun acc j => addSingle acc j (f j)) d)[i]? =
      if i ∈ js then d[i]?.map (· ++ f i) else d[i]? := by
  induction js generalizing d with
  | nil => simp
  | cons j js ih =>
    obtain ⟨hj, hjs⟩ := List.nodup_cons.mp hjs
    rw [List.foldl_cons, ih hjs, getElem?_addSingle]
    by_cases hij : j = i
    · subst hij
      simp [hj]
    · simp [hij, Ne.symm hij]

theorem masked_of_not_mem (idx : List Nat) (b : List σ) (j : Nat) (h : j ∉ idx) :
    masked idx b j = [] := by
  unfold masked
  rw [List.map_eq_nil_iff, List.filter_eq_nil_iff]
  intro p hp hpj
  exact h (beq_iff_eq.mp hpj ▸ (List.of_mem_zip hp).1)

theorem nodup_uniqSorted (l : List Nat) : (uniqSorted l).Nodup :=
  List.Nodup.sublist List.filter_sublist List.nodup_range

theorem mem_uniqSorted (l : List Nat) (j : Nat) : j ∈ uniqSorted l ↔ j ∈ l := by
  unfold uniqSorted
  simp only [List.mem_filter, List.mem_range, List.contains_iff_mem]
  exact ⟨fun h => h.2, fun h => ⟨Nat.lt_succ_of_le ((foldl_max_spec 0 l).2 j (List.mem_cons_of_mem _ h)), h⟩⟩

theorem getElem?_mlAdd_each (d : List (List σ)) (idx : List Nat) (b : List σ)
    (hlen : idx.length = b.length) (i : Nat) :
    (mlAdd d (.each idx, b))[i]? = d[i]?.map (· ++ masked idx b i) := by
  unfold mlAdd
  simp only [hlen, ne_eq, not_true_eq_false, ↓reduceIte]
  rw [getElem?_foldl_addSingle _ (nodup_uniqSorted idx)]
  by_cases h : i ∈ idx
  · rw [if_pos ((mem_uniqSorted idx i).mpr h)]
  · rw [if_neg (fun h' => h ((mem_uniqSorted idx i).mp h')), masked_of_not_mem idx b i h]
    cases d[i]? <;> simp

theorem getElem?_mlAdd_single (d : List (List σ)) (j : Nat) (b : List σ) (i : Nat) :
    (mlAdd d (.single j, b))[i]? = if j = i then d[i]?.map (· ++ b) else d[i]? :=
  getElem?_addSingle d j b i

end VOPy.GPWrap
