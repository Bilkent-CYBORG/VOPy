import VOPyVerif.Model.Pareto
import VOPyVerif.Proofs.ListBasic
/-! For C13: the loop invariant of the split-form Pareto loop, the Prop-level
specification `IsParetoIdx` and its equivalence with the decidable relation `specOk`, and the
characterisation of the naive routine.

All preorder hypotheses are taken *on the elements of the input list only* (`…_on` lemmas), so that
the theorems can be instantiated at `VOPy.dominates W`, which is transitive only among vectors of
equal length. -/
namespace VOPy.Pareto

variable {α : Type}

/-- `dom` is reflexive and transitive among the members of `xs` -/
structure PreorderOn (dom : α → α → Bool) (xs : List α) : Prop where
  refl : ∀ a ∈ xs, dom a a = true
  trans : ∀ a ∈ xs, ∀ b ∈ xs, ∀ c ∈ xs, dom a b = true → dom b c = true → dom a c = true

theorem PreorderOn.of_global {dom : α → α → Bool} (hrefl : ∀ a, dom a a = true)
    (htrans : ∀ a b c, dom a b = true → dom b c = true → dom a c = true) (xs : List α) :
    PreorderOn dom xs :=
  ⟨fun a _ => hrefl a, fun a _ b _ c _ => htrans a b c⟩

/-- antisymmetry among the members of `xs` (pointed cone) -/
def AntisymmOn (dom : α → α → Bool) (xs : List α) : Prop :=
  ∀ a ∈ xs, ∀ b ∈ xs, dom a b = true → dom b a = true → a = b

/-! ### the loop -/

theorem mem_rm {dom : α → α → Bool} {v e : Nat × α} {l : List (Nat × α)} :
    e ∈ rm dom v l ↔ e ∈ l ∧ dom v.2 e.2 = false := by
  simp only [rm, List.mem_filter, Bool.not_eq_true']

/-- what one iteration keeps is a sublist of what it was given -/
theorem rm_step_sublist (dom : α → α → Bool) (v : Nat × α) (pre post : List (Nat × α)) :
    ((rm dom v pre ++ [v]) ++ rm dom v post).Sublist (pre ++ v :: post) := by
  rw [List.append_assoc, List.singleton_append]
  exact List.Sublist.append List.filter_sublist (List.Sublist.cons_cons v List.filter_sublist)

/-- The loop result is always a sublist of what it was given (no hypothesis on `dom`). -/
theorem loop_sublist (dom : α → α → Bool) :
    ∀ (pre post : List (Nat × α)), (loop dom pre post).Sublist (pre ++ post) := by
  intro pre post
  induction pre, post using loop.induct dom with
  | case1 pre => simp [loop]
  | case2 pre v post ih =>
    rw [loop]
    exact ih.trans (rm_step_sublist dom v pre post)

/-- the loop invariant: the pivots `pre` dominate nothing else that is still there, and every
member of the input `L` is dominated by something still there -/
structure PInv (dom : α → α → Bool) (L pre post : List (Nat × α)) : Prop where
  sub : (pre ++ post).Sublist L
  anti : ∀ e ∈ pre, ∀ f ∈ pre ++ post, e ≠ f → dom e.2 f.2 = false
  cover : ∀ x ∈ L, ∃ f ∈ pre ++ post, dom f.2 x.2 = true

theorem inv_step_on {dom : α → α → Bool} {xs : List α} (hd : PreorderOn dom xs)
    {L : List (Nat × α)} (hL : ∀ e ∈ L, e.2 ∈ xs) {pre post : List (Nat × α)} {v : Nat × α}
    (h : PInv dom L pre (v :: post)) : PInv dom L (rm dom v pre ++ [v]) (rm dom v post) := by
  have hvL : v ∈ L := h.sub.subset (List.mem_append_right _ List.mem_cons_self)
  refine ⟨(rm_step_sublist dom v pre post).trans h.sub, fun e he f hf hne => ?_, fun x hx => ?_⟩
  · rcases List.mem_append.mp he with he | he
    · exact h.anti e (mem_rm.mp he).1 f ((rm_step_sublist dom v pre post).subset hf) hne
    · obtain rfl : e = v := List.mem_singleton.mp he
      simp only [List.mem_append, mem_rm, List.mem_singleton] at hf
      rcases hf with (⟨_, hf⟩ | hf) | ⟨_, hf⟩
      · exact hf
      · exact absurd hf.symm hne
      · exact hf
  · -- whatever dominated `x` before is still there, or the pivot dominates it and hence `x`
    obtain ⟨f, hf, hfx⟩ := h.cover x hx
    have hfL : f ∈ L := h.sub.subset hf
    cases hvf : dom v.2 f.2 with
    | true =>
      exact ⟨v, List.mem_append_left _ (List.mem_append_right _ (List.mem_singleton_self v)),
        hd.trans v.2 (hL v hvL) f.2 (hL f hfL) x.2 (hL x hx) hvf hfx⟩
    | false =>
      refine ⟨f, ?_, hfx⟩
      simp only [List.mem_append, mem_rm, List.mem_singleton]
      rcases List.mem_append.mp hf with hf | hf
      · exact Or.inl (Or.inl ⟨hf, hvf⟩)
      · rcases List.mem_cons.mp hf with hf | hf
        · exact Or.inl (Or.inr hf)
        · exact Or.inr ⟨hf, hvf⟩

theorem loop_inv_on {dom : α → α → Bool} {xs : List α} (hd : PreorderOn dom xs)
    {L : List (Nat × α)} (hL : ∀ e ∈ L, e.2 ∈ xs) :
    ∀ (pre post : List (Nat × α)), PInv dom L pre post → PInv dom L (loop dom pre post) [] := by
  intro pre post
  induction pre, post using loop.induct dom with
  | case1 pre => intro h; rw [loop]; exact h
  | case2 pre v post ih => intro h; rw [loop]; exact ih (inv_step_on hd hL h)

/-- Specification of the loop result, for a relation that is reflexive and transitive on the
elements `xs` that occur in `L`. -/
theorem loop_spec_on (dom : α → α → Bool) {xs : List α} (hd : PreorderOn dom xs)
    (L : List (Nat × α)) (hL : ∀ e ∈ L, e.2 ∈ xs) :
    let R := loop dom [] L
    R.Sublist L ∧
    (∀ e ∈ R, ∀ f ∈ R, e ≠ f → dom e.2 f.2 = false) ∧
    (∀ x ∈ L, ∃ f ∈ R, dom f.2 x.2 = true) ∧
    (∀ e ∈ R, ∀ x ∈ L, dom x.2 e.2 = true → dom e.2 x.2 = true) := by
  obtain ⟨hsub, hanti, hcov⟩ := loop_inv_on hd hL [] L
    ⟨List.Sublist.refl L, (fun _ he => nomatch he), fun x hx => ⟨x, hx, hd.refl x.2 (hL x hx)⟩⟩
  rw [List.append_nil] at hsub hanti hcov
  refine ⟨hsub, hanti, hcov, fun e he x hx hxe => ?_⟩
  -- some kept `f` dominates `x`, hence `e`; two different kept elements are unrelated, so `f = e`
  obtain ⟨f, hf, hfx⟩ := hcov x hx
  have hfe : dom f.2 e.2 = true :=
    hd.trans f.2 (hL f (hsub.subset hf)) x.2 (hL x hx) e.2 (hL e (hsub.subset he)) hfx hxe
  by_cases hef : f = e
  · exact hef ▸ hfx
  · rw [hanti f hf e he hef] at hfe; cases hfe

/-! ### the indexed list -/

theorem mem_indexed {xs : List α} {p : Nat × α} : p ∈ indexed xs ↔ xs[p.1]? = some p.2 := by
  simp only [indexed, List.mem_map, Prod.exists, List.mem_zipIdx_iff_getElem?]
  constructor
  · rintro ⟨a, i, h, rfl⟩; exact h
  · intro h; exact ⟨p.2, p.1, h, rfl⟩

theorem indexed_map_fst (xs : List α) : (indexed xs).map (·.1) = List.range xs.length := by
  have h : (indexed xs).map (·.1) = (xs.zipIdx).map Prod.snd := by
    simp only [indexed, List.map_map]
    rfl
  rw [h, List.zipIdx_map_snd, List.range'_eq_map_range]
  simp

theorem snd_mem_of_mem_indexed {xs : List α} {p : Nat × α} (h : p ∈ indexed xs) : p.2 ∈ xs :=
  List.mem_of_getElem? (mem_indexed.mp h)

theorem exists_indexed_of_mem {xs : List α} {x : α} (hx : x ∈ xs) : ∃ p ∈ indexed xs, p.2 = x := by
  obtain ⟨i, hi, rfl⟩ := List.getElem_of_mem hx
  exact ⟨(i, xs[i]), mem_indexed.mpr (List.getElem?_eq_getElem hi), rfl⟩

/-- a pair of the indexed list is determined by its index -/
theorem indexed_inj {xs : List α} {p q : Nat × α} (hp : p ∈ indexed xs) (hq : q ∈ indexed xs)
    (h : p.1 = q.1) : p = q := by
  have h1 := mem_indexed.mp hp
  have h2 := mem_indexed.mp hq
  rw [h] at h1
  rw [h1] at h2
  exact Prod.ext h (Option.some.inj h2)

/-- a sublist of `0, 1, …, n-1` consists of valid positions in strictly increasing order -/
theorem of_sublist_range {l : List Nat} {n : Nat} (h : l.Sublist (List.range n)) :
    (∀ i ∈ l, i < n) ∧ l.Pairwise (· < ·) :=
  ⟨fun _ hi => List.mem_range.mp (h.subset hi), List.Pairwise.sublist h List.pairwise_lt_range⟩

/-! ### the fast routine -/

/-- the four facts about the kept (index, element) pairs of the fast routine -/
theorem fast_pairs_on (dom : α → α → Bool) (xs : List α) (h : PreorderOn dom xs) :
    let R := loop dom [] (indexed xs)
    R.Sublist (indexed xs) ∧
    (∀ e ∈ R, ∀ f ∈ R, e ≠ f → dom e.2 f.2 = false) ∧
    (∀ x ∈ xs, ∃ f ∈ R, dom f.2 x = true) ∧
    (∀ e ∈ R, ∀ x ∈ xs, dom x e.2 = true → dom e.2 x = true) := by
  have hs := loop_spec_on dom h (indexed xs) (fun _ => snd_mem_of_mem_indexed)
  refine ⟨hs.1, hs.2.1, fun x hx => ?_, fun e he x hx hxe => ?_⟩
  · obtain ⟨p, hp, rfl⟩ := exists_indexed_of_mem hx
    exact hs.2.2.1 p hp
  · obtain ⟨p, hp, rfl⟩ := exists_indexed_of_mem hx
    exact hs.2.2.2 e he p hp hxe

/-- a kept pair holds a position of `xs` and the element there -/
theorem getElem?_of_mem_loop {dom : α → α → Bool} {xs : List α} {e : Nat × α}
    (he : e ∈ loop dom [] (indexed xs)) : xs[e.1]? = some e.2 :=
  mem_indexed.mp ((loop_sublist dom [] (indexed xs)).subset he)

theorem mem_loop_of_mem_fast {dom : α → α → Bool} {xs : List α} {i : Nat} {a : α}
    (hi : i ∈ fast dom xs) (ha : xs[i]? = some a) : (i, a) ∈ loop dom [] (indexed xs) := by
  obtain ⟨e, he, rfl⟩ := List.mem_map.mp hi
  have := getElem?_of_mem_loop he
  rw [ha] at this
  obtain rfl : a = e.2 := Option.some.inj this
  exact he

/-- `fast` returns a sublist of `0, 1, …, n-1` -/
theorem fast_sublist_range (dom : α → α → Bool) (xs : List α) :
    (fast dom xs).Sublist (List.range xs.length) := by
  rw [← indexed_map_fst]
  exact (loop_sublist dom [] (indexed xs)).map _

/-! ### Prop-level specification of an index list and the decidable relation `specOk` -/

/-- The Pareto specification of a list of indices into `xs`: valid, strictly increasing (hence
distinct); kept elements pairwise unrelated; every input dominated by a kept element; no kept
element strictly dominated by an input. -/
structure IsParetoIdx (dom : α → α → Bool) (xs : List α) (idx : List Nat) : Prop where
  valid : ∀ i ∈ idx, i < xs.length
  incr : idx.Pairwise (· < ·)
  anti : ∀ i ∈ idx, ∀ j ∈ idx, i ≠ j → ∀ a b, xs[i]? = some a → xs[j]? = some b → dom a b = false
  cover : ∀ x ∈ xs, ∃ i ∈ idx, ∃ a, xs[i]? = some a ∧ dom a x = true
  maximal : ∀ i ∈ idx, ∀ a, xs[i]? = some a → ∀ x ∈ xs, dom x a = true → dom a x = true

theorem fast_isParetoIdx_on (dom : α → α → Bool) (xs : List α) (h : PreorderOn dom xs) :
    IsParetoIdx dom xs (fast dom xs) := by
  obtain ⟨_, hanti, hcov, hmax⟩ := fast_pairs_on dom xs h
  refine ⟨(of_sublist_range (fast_sublist_range dom xs)).1,
    (of_sublist_range (fast_sublist_range dom xs)).2, fun i hi j hj hne a b ha hb => ?_,
    fun x hx => ?_, fun i hi a ha x hx hxa => ?_⟩
  · exact hanti (i, a) (mem_loop_of_mem_fast hi ha) (j, b) (mem_loop_of_mem_fast hj hb)
      (fun h => hne (congrArg Prod.fst h))
  · obtain ⟨f, hf, hfx⟩ := hcov x hx
    exact ⟨f.1, List.mem_map_of_mem hf, f.2, getElem?_of_mem_loop hf, hfx⟩
  · exact hmax (i, a) (mem_loop_of_mem_fast hi ha) x hx hxa

theorem zipTail_all_iff (l : List Nat) :
    (l.zip l.tail).all (fun (a, b) => decide (a < b)) = true ↔ l.Pairwise (· < ·) :=
  zip_tail_all_iff (· < ·) (fun _ _ _ => Nat.lt_trans) l

theorem specOk_iff (dom : α → α → Bool) (xs : List α) (idx : List Nat) :
    specOk dom xs idx = true ↔ IsParetoIdx dom xs idx := by
  unfold specOk
  simp only [Bool.and_eq_true, ↓zipTail_all_iff, List.all_eq_true, List.any_eq_true,
    decide_eq_true_eq, Bool.or_eq_true, beq_iff_eq]
  constructor
  · rintro ⟨⟨⟨⟨h1, h2⟩, h3⟩, h4⟩, h5⟩
    refine ⟨h1, h2, ?_, ?_, ?_⟩
    · intro i hi j hj hne a b ha hb
      have := h3 i hi j hj
      rw [ha, hb] at this
      rcases this with h | h
      · exact absurd h hne
      · simpa using h
    · intro x hx
      obtain ⟨i, hi, h⟩ := h4 x hx
      cases ha : xs[i]? with
      | none => rw [ha] at h; simp at h
      | some a => rw [ha] at h; exact ⟨i, hi, a, ha, h⟩
    · intro i hi a ha x hx hxa
      have := h5 i hi x hx
      rw [ha] at this
      simp only [Bool.or_eq_true, Bool.not_eq_true'] at this
      rcases this with h | h
      · rw [h] at hxa; exact absurd hxa (by simp)
      · exact h
  · intro h
    have hget : ∀ i ∈ idx, ∃ a, xs[i]? = some a := fun i hi =>
      ⟨xs[i]'(h.valid i hi), List.getElem?_eq_getElem (h.valid i hi)⟩
    refine ⟨⟨⟨⟨h.valid, h.incr⟩, ?_⟩, ?_⟩, ?_⟩
    · intro i hi j hj
      obtain ⟨a, ha⟩ := hget i hi
      obtain ⟨b, hb⟩ := hget j hj
      rw [ha, hb]
      by_cases hij : i = j
      · exact Or.inl hij
      · right; simp [h.anti i hi j hj hij a b ha hb]
    · intro x hx
      obtain ⟨i, hi, a, ha, hd⟩ := h.cover x hx
      exact ⟨i, hi, by rw [ha]; exact hd⟩
    · intro i hi x hx
      obtain ⟨a, ha⟩ := hget i hi
      rw [ha]
      simp only [Bool.or_eq_true, Bool.not_eq_true']
      cases hxa : dom x a with
      | false => exact Or.inl rfl
      | true => exact Or.inr (h.maximal i hi a ha x hx hxa)

/-! ### the naive routine -/

theorem mem_naive_iff (eqv dom : α → α → Bool) (xs : List α) (i : Nat) :
    i ∈ naive eqv dom xs ↔
      ∃ a, xs[i]? = some a ∧ ∀ o ∈ xs, eqv a o = false → dom o a = false := by
  unfold naive
  simp only [List.mem_map, List.mem_filter, Bool.not_eq_true', List.any_eq_false,
    Bool.and_eq_true, Bool.not_eq_true', not_and, Bool.not_eq_true]
  constructor
  · rintro ⟨e, ⟨he, hk⟩, rfl⟩
    exact ⟨e.2, mem_indexed.mp he, hk⟩
  · rintro ⟨a, ha, hk⟩
    exact ⟨(i, a), ⟨mem_indexed.mpr ha, hk⟩, rfl⟩

theorem naive_sublist_range (eqv dom : α → α → Bool) (xs : List α) :
    (naive eqv dom xs).Sublist (List.range xs.length) := by
  rw [← indexed_map_fst]
  exact List.filter_sublist.map _

theorem naiveSpecOk_naive (eqv dom : α → α → Bool) (xs : List α) :
    naiveSpecOk eqv dom xs (naive eqv dom xs) = true := by
  unfold naiveSpecOk
  simp only [Bool.and_eq_true, zipTail_all_iff]
  refine ⟨⟨?_, (of_sublist_range (naive_sublist_range eqv dom xs)).2⟩,
    List.all_eq_true.mpr (fun i hi => ?_)⟩
  · simp only [List.all_eq_true, decide_eq_true_eq]
    exact (of_sublist_range (naive_sublist_range eqv dom xs)).1
  have hi' := List.mem_range.mp hi
  rw [List.getElem?_eq_getElem hi', beq_iff_eq, Bool.eq_iff_iff, List.contains_iff_mem,
    mem_naive_iff]
  simp only [List.getElem?_eq_getElem hi', Option.some.injEq, exists_eq_left', Bool.not_eq_true',
    List.any_eq_false, Bool.and_eq_true, not_and, Bool.not_eq_true]

/-! ### naive routine with `eqv` = equality, for a partial order on the members of `xs` -/

theorem eqv_eq_false_iff {eqv : α → α → Bool} (heqv : ∀ a b, eqv a b = true ↔ a = b) {a b : α} :
    eqv a b = false ↔ a ≠ b := by
  rw [← Bool.not_eq_true, heqv]

/-- every pair kept by the fast loop is kept by the naive routine -/
theorem fast_pair_mem_naive_on (eqv dom : α → α → Bool) (xs : List α)
    (heqv : ∀ a b, eqv a b = true ↔ a = b) (h : PreorderOn dom xs) (hanti : AntisymmOn dom xs)
    (e : Nat × α) (he : e ∈ loop dom [] (indexed xs)) : e.1 ∈ naive eqv dom xs := by
  have hmax := (fast_pairs_on dom xs h).2.2.2
  have hex := getElem?_of_mem_loop he
  refine (mem_naive_iff eqv dom xs e.1).mpr ⟨e.2, hex, fun o ho hne => ?_⟩
  -- an `o` that dominates the kept `e.2` is dominated back, so it is the same value
  cases hd : dom o e.2 with
  | false => rfl
  | true =>
    exact absurd (hanti o ho e.2 (List.mem_of_getElem? hex) hd (hmax e he o ho hd)).symm
      ((eqv_eq_false_iff heqv).mp hne)

theorem naive_cover_on (eqv dom : α → α → Bool) (xs : List α)
    (heqv : ∀ a b, eqv a b = true ↔ a = b) (h : PreorderOn dom xs) (hanti : AntisymmOn dom xs) :
    ∀ x ∈ xs, ∃ i ∈ naive eqv dom xs, ∃ a, xs[i]? = some a ∧ dom a x = true := by
  intro x hx
  obtain ⟨f, hf, hfx⟩ := (fast_pairs_on dom xs h).2.2.1 x hx
  exact ⟨f.1, fast_pair_mem_naive_on eqv dom xs heqv h hanti f hf, f.2, getElem?_of_mem_loop hf, hfx⟩

theorem naive_values_eq_fast_on (eqv dom : α → α → Bool) (xs : List α)
    (heqv : ∀ a b, eqv a b = true ↔ a = b) (h : PreorderOn dom xs) (hanti : AntisymmOn dom xs)
    (v : α) :
    (∃ i ∈ naive eqv dom xs, xs[i]? = some v) ↔ (∃ i ∈ fast dom xs, xs[i]? = some v) := by
  constructor
  · rintro ⟨i, hi, hv⟩
    obtain ⟨a, ha, hk⟩ := (mem_naive_iff eqv dom xs i).mp hi
    obtain rfl : v = a := Option.some.inj (hv.symm.trans ha)
    -- the kept element that dominates `v` cannot be a different value
    obtain ⟨f, hf, hfv⟩ := (fast_pairs_on dom xs h).2.2.1 v (List.mem_of_getElem? hv)
    have hfx := getElem?_of_mem_loop hf
    by_cases hfe : v = f.2
    · exact ⟨f.1, List.mem_map_of_mem hf, hfe ▸ hfx⟩
    · rw [hk f.2 (List.mem_of_getElem? hfx) ((eqv_eq_false_iff heqv).mpr hfe)] at hfv
      cases hfv
  · rintro ⟨i, hi, hv⟩
    obtain ⟨e, he, rfl⟩ := List.mem_map.mp hi
    exact ⟨e.1, fast_pair_mem_naive_on eqv dom xs heqv h hanti e he, hv⟩

end VOPy.Pareto
