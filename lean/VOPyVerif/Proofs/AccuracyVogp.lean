import VOPyVerif.Proofs.AccuracySets
/-!
# C05, VOGP / ε-PAL: the invariant over rounds, abstractly

The true values enter through two relations on design indices,

* `near j i` — "μ_j + slack ≽ μ_i" (j matches i up to the slack),
* `sd j i`   — "μ_j ≽ μ_i + slack" (j dominates i by more than the slack),

and the geometry through `VRoundSound`.  Nothing at all is assumed about the pessimistic test
(`pessDom` is arbitrary): the proof only uses that a discard needs a witness `j ≠ i` among the living
designs.  `vinv_final` reads the two conclusions off the invariant at termination.
-/
namespace VOPy.Accuracy
open VOPy VOPy.Steps

/-- invariant of a VOGP / ε-PAL run -/
structure VInv (K : Nat) (near sd : Nat → Nat → Prop) (S P : List Nat) : Prop where
  nodupS : S.Nodup
  nodupP : P.Nodup
  disj : ∀ x, x ∈ S → x ∉ P
  lt : ∀ x, x ∈ S ∨ x ∈ P → x < K
  /-- every isolated design is still alive -/
  isoKept : ∀ i, i < K → (∀ j, j < K → j ≠ i → ¬ near j i) → i ∈ S ∨ i ∈ P
  /-- no living design dominates a member of `P` by more than the slack -/
  internal : ∀ i, i ∈ P → ∀ j, (j ∈ S ∨ j ∈ P) → j ≠ i → ¬ sd j i

/-- what validity of the displayed regions of `S ∪ P` gives about one round's oracles -/
structure VRoundSound (near sd : Nat → Nat → Prop) (isDom isCov : Rel) (S P : List Nat) : Prop where
  dom_sound : ∀ i, i ∈ S → ∀ j, (j ∈ S ∨ j ∈ P) → j ≠ i → isDom i j = true → near j i
  cov_sound : ∀ i, i ∈ S → ∀ j, (j ∈ S ∨ j ∈ P) → j ≠ i → isCov i j = false → ¬ sd j i

theorem vinv_init (K : Nat) (near sd : Nat → Nat → Prop) : VInv K near sd (List.range K) [] where
  nodupS := List.nodup_range
  nodupP := List.nodup_nil
  disj := fun _ _ h => nomatch h
  lt := fun _ hx => hx.elim List.mem_range.mp (fun h => nomatch h)
  isoKept := fun _ hi _ => Or.inl (List.mem_range.mpr hi)
  internal := fun _ h => nomatch h

/-- a discarded design has a witness `j ≠ i` among the living designs -/
theorem exists_witness_of_mem_vogpToDiscard {isDom pessDom : Rel} {S P : List Nat} {i : Nat}
    (h : i ∈ vogpToDiscard isDom pessDom S P) :
    ∃ j, (j ∈ S ∨ j ∈ P) ∧ j ≠ i ∧ isDom i j = true := by
  obtain ⟨_, hip, j, hj, hij⟩ := mem_vogpToDiscard.mp h
  exact ⟨j, (mem_pessimisticSet.mp hj).1, fun hji => hip (hji ▸ hj), hij⟩

/-- **One round preserves the invariant** — for an arbitrary pessimistic oracle. -/
theorem vogp_step {K : Nat} {near sd : Nat → Nat → Prop} {isDom isCov pessDom : Rel}
    {S P : List Nat} (hinv : VInv K near sd S P) (hs : VRoundSound near sd isDom isCov S P) :
    VInv K near sd (vogpRound isDom isCov pessDom S P).1 (vogpRound isDom isCov pessDom S P).2 := by
  -- `S₁`: the survivors of discarding, `new`: the designs that move to `P`
  have hS1nd : (vogpDiscard isDom pessDom S P).Nodup := nodup_removeAll hinv.nodupS
  have hmemS1 : ∀ x, x ∈ vogpDiscard isDom pessDom S P ↔
      x ∈ S ∧ x ∉ vogpToDiscard isDom pessDom S P := fun x => mem_removeAll hinv.nodupS
  show VInv K near sd (removeAll _ _) (addAll _ _)
  generalize vogpDiscard isDom pessDom S P = S₁ at *
  have hmemNew : ∀ x, x ∈ coverNew isCov S₁ P ↔
      x ∈ S₁ ∧ ∀ j, (j ∈ S₁ ∨ j ∈ P) → j ≠ x → isCov x j = false := fun x => mem_coverNew
  generalize coverNew isCov S₁ P = new at *
  have hS1sub : ∀ x ∈ S₁, x ∈ S := fun x hx => ((hmemS1 x).mp hx).1
  have hNsub : ∀ x ∈ new, x ∈ S₁ := fun x hx => ((hmemNew x).mp hx).1
  have halive := move_alive (P := P) hS1nd hNsub
  refine
    { nodupS := nodup_removeAll hS1nd
      nodupP := nodup_addAll hinv.nodupP
      disj := move_disjoint hS1nd fun x hx => hinv.disj x (hS1sub x hx)
      lt := fun x hx => hinv.lt x (((halive x).mp hx).imp_left (hS1sub x))
      isoKept := ?_, internal := ?_ }
  · intro i hiK hiso
    rw [halive]
    refine (hinv.isoKept i hiK hiso).imp_left fun hiS => (hmemS1 i).mpr ⟨hiS, fun hd => ?_⟩
    obtain ⟨j, hj, hji, hij⟩ := exists_witness_of_mem_vogpToDiscard hd
    exact hiso j (hinv.lt j hj) hji (hs.dom_sound i hiS j hj hji hij)
  · intro i hi j hj hji
    have hj' : j ∈ S₁ ∨ j ∈ P := (halive j).mp hj
    rcases mem_addAll.mp hi with h | h
    · exact hinv.internal i h j (hj'.imp_left (hS1sub j)) hji
    · obtain ⟨hi1, hnc⟩ := (hmemNew i).mp h
      exact hs.cov_sound i (hS1sub i hi1) j (hj'.imp_left (hS1sub j)) hji (hnc j hj' hji)

/-- **The invariant holds after every round** of a run all of whose rounds are sound. -/
theorem vogp_run_inv {K : Nat} {near sd : Nat → Nat → Prop} (isDom isCov pessDom : Nat → Rel) (T : Nat)
    (hs : ∀ r, r < T → VRoundSound near sd (isDom r) (isCov r)
      (vogpRun K isDom isCov pessDom r).1 (vogpRun K isDom isCov pessDom r).2) :
    VInv K near sd (vogpRun K isDom isCov pessDom T).1 (vogpRun K isDom isCov pessDom T).2 := by
  induction T with
  | zero => exact vinv_init K near sd
  | succ T ih =>
    exact vogp_step (ih fun r hr => hs r (Nat.lt_succ_of_lt hr)) (hs T (Nat.lt_succ_self T))

/-- at termination (`S = []`): every isolated design is in `P`, and no member of `P` dominates
another by more than the slack -/
theorem vinv_final {K : Nat} {near sd : Nat → Nat → Prop} {S P : List Nat}
    (h : VInv K near sd S P) (hS : S = []) :
    (∀ i, i < K → (∀ j, j < K → j ≠ i → ¬ near j i) → i ∈ P) ∧
    (∀ i ∈ P, ∀ j ∈ P, j ≠ i → ¬ sd j i) := by
  subst hS
  exact ⟨fun i hi hiso => (h.isoKept i hi hiso).resolve_left List.not_mem_nil,
    fun i hi j hj => h.internal i hi j (Or.inr hj)⟩

end VOPy.Accuracy
