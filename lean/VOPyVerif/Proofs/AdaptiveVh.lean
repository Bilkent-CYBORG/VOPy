import VOPyVerif.Model.AdaptiveVh
import VOPyVerif.Proofs.RealInst
import Mathlib.Analysis.SpecialFunctions.Log.Basic
import Mathlib.Analysis.SpecialFunctions.Sqrt
import Mathlib.Tactic.Positivity
import Mathlib.Tactic.Ring
/-!
# The `ℝ` reading of `Model/AdaptiveVh.lean`

`LeB ℝ` is the order of `ℝ`; every auxiliary of the term (`ofInt`, `npow`, `zpow`, `max0`, `sumL`,
`norm`) is identified with its Mathlib counterpart, then the closed forms, positivity and the
monotonicity in the depth are proved.
-/
namespace VOPy

noncomputable instance : LeB ℝ := ⟨fun a b => decide (a ≤ b)⟩

namespace Vh
open VOPy.RealLike

@[simp] theorem leb_real (a b : ℝ) : LeB.leb a b = decide (a ≤ b) := rfl

@[simp] theorem ofFrac_real (n d : Nat) : (ofFrac n d : ℝ) = (n : ℝ) / (d : ℝ) := rfl

@[simp] theorem ofInt_real (k : Int) : (ofInt k : ℝ) = (k : ℝ) := by
  unfold ofInt
  split
  · rename_i h
    simp only [ofNat_real]
    rw [← Int.cast_natCast, Int.natCast_natAbs, abs_of_neg h]; push_cast; ring
  · rename_i h
    simp only [ofNat_real]
    rw [← Int.cast_natCast, Int.natCast_natAbs, abs_of_nonneg (not_lt.mp h)]

@[simp] theorem npow_real (x : ℝ) (k : Nat) : npow x k = x ^ k := by
  induction k with
  | zero => simp [npow]
  | succ k ih => simp [npow, ih, pow_succ]

@[simp] theorem zpow_real (x : ℝ) (k : Int) : zpow x k = x ^ k := by
  unfold zpow
  split
  · rename_i h
    obtain ⟨n, rfl⟩ := Int.exists_eq_neg_ofNat (le_of_lt h)
    simp [zpow_neg]
  · rename_i h
    obtain ⟨n, rfl⟩ := Int.eq_ofNat_of_zero_le (not_lt.mp h)
    simp

@[simp] theorem max0_real (y : ℝ) : max0 y = max 0 y := by
  unfold max0
  by_cases h : (0 : ℝ) ≤ y
  · simp [h]
  · simp [h, max_eq_left (le_of_not_ge h)]

theorem foldl_add_real (l : List ℝ) (a : ℝ) : l.foldl (· + ·) a = a + l.sum := by
  induction l generalizing a with
  | nil => simp
  | cons x xs ih => simp [ih, add_assoc]

@[simp] theorem sumL_real (l : List ℝ) : sumL l = l.sum := by
  simp [sumL, foldl_add_real]

@[simp] theorem norm_real (v : List ℝ) : norm v = Real.sqrt ((v.map (fun x => x * x)).sum) := by
  simp [norm]

theorem allLe_real (lhs : List ℝ) (rhs : ℝ) : allLe lhs rhs = true ↔ ∀ l ∈ lhs, l ≤ rhs := by
  simp [allLe]

/-! ## closed forms -/

theorem rho_real : (rho : ℝ) = 1 / 2 := by
  simp only [rho, ofFrac_real, Nat.cast_one, Nat.cast_ofNat]

theorem cki_real (ls var : ℝ) : cki ls var = Real.sqrt var / ls := rfl

theorem term1_real (d : Nat) (depth : Int) (ls var : ℝ) :
    term1 d depth ls var = Real.sqrt var / ls * (1 / 2 * Real.sqrt d * (1 / 2 : ℝ) ^ depth) := by
  simp only [term1, cki, rho, alphaC, npow, zpow_real, ofFrac_real, ofNat_real, sqrt_real,
    Nat.cast_one, Nat.cast_ofNat, one_mul]

theorem c1_real (d : Nat) (ls var : ℝ) :
    c1 d ls var = ((Real.sqrt d + 1) * Real.sqrt d / 2) ^ d * (Real.sqrt var / ls) := by
  simp only [c1, cki, npow_real, ofNat_real, sqrt_real, Nat.cast_one, Nat.cast_ofNat]

theorem c2_real (d : Nat) (ls var : ℝ) :
    c2 d ls var = 2 * Real.log (2 * c1 d ls var ^ 2 * Real.pi ^ 2 / 6) := by
  simp only [c2, npow_real, ofNat_real, log_real, pi_real, Nat.cast_ofNat]

theorem c3_real (d : Nat) :
    (c3 d : ℝ) = 1 + 27 / 10 * Real.sqrt ((2 * d : ℕ) * Real.log 2) := by
  simp only [c3, alphaC, ofFrac_real, ofNat_real, sqrt_real, log_real, Nat.cast_one, Nat.cast_ofNat,
    mul_one]

theorem term2_real (m : Nat) (depth : Int) (δ : ℝ) :
    term2 m depth δ = Real.log (2 * ((depth : ℝ) + 1) ^ 2 * Real.pi ^ 2 * m / (6 * δ)) := by
  simp only [term2, ofInt_real, npow_real, ofNat_real, pi_real, log_real, Int.cast_mul, Int.cast_add,
    Int.cast_one, Int.cast_ofNat, Int.cast_pow, Nat.cast_ofNat, ← pow_two]

theorem term3_real (depth : Int) : (term3 depth : ℝ) = depth * Real.log 4 := by
  simp only [term3, bigN, ofInt_real, ofNat_real, log_real, Nat.cast_ofNat]

theorem term4_real (d : Nat) (depth : Int) (ls var : ℝ) :
    term4 d depth ls var = max 0 (-(4 * (d : ℝ)) * Real.log (term1 d depth ls var)) := by
  simp only [term4, alphaC, max0_real, ofInt_real, ofNat_real, log_real, Nat.cast_one, div_one]
  push_cast
  ring_nf

theorem vhEntry_real (d m : Nat) (δ : ℝ) (depth : Int) (ls var : ℝ) :
    vhEntry d m δ depth ls var =
      4 * term1 d depth ls var *
        (Real.sqrt (c2 d ls var + 2 * term2 m depth δ + term3 depth + term4 d depth ls var) + c3 d) := by
  simp only [vhEntry, ofNat_real, sqrt_real, Nat.cast_ofNat]

/-! ## positivity -/

theorem term1_pos (d : Nat) (hd : 1 ≤ d) (depth : Int) {ls var : ℝ} (hls : 0 < ls) (hv : 0 < var) :
    0 < (term1 d depth ls var : ℝ) := by
  rw [term1_real]
  have hh : (0 : ℝ) < 1 / 2 := one_half_pos
  have h1 : 0 < Real.sqrt var := Real.sqrt_pos.mpr hv
  have h2 : 0 < Real.sqrt (d : ℝ) := Real.sqrt_pos.mpr (Nat.cast_pos.mpr hd)
  exact mul_pos (div_pos h1 hls) (mul_pos (mul_pos hh h2) (zpow_pos hh depth))

theorem c3_ge_one (d : Nat) : (1 : ℝ) ≤ c3 d := by
  rw [c3_real]
  exact le_add_of_nonneg_right (mul_nonneg (by norm_num) (Real.sqrt_nonneg _))

theorem vhEntry_pos (d m : Nat) (hd : 1 ≤ d) (δ : ℝ) (depth : Int) {ls var : ℝ} (hls : 0 < ls)
    (hv : 0 < var) : 0 < (vhEntry d m δ depth ls var : ℝ) := by
  rw [vhEntry_real]
  exact mul_pos (mul_pos four_pos (term1_pos d hd depth hls hv))
    (add_pos_of_nonneg_of_pos (Real.sqrt_nonneg _) (one_pos.trans_le (c3_ge_one d)))

/-! ## monotonicity in the depth -/

theorem term1_succ (d : Nat) (depth : Int) (ls var : ℝ) :
    (term1 d (depth + 1) ls var : ℝ) = term1 d depth ls var / 2 := by
  rw [term1_real, term1_real, zpow_add₀ (by norm_num : (1 / 2 : ℝ) ≠ 0)]
  simp only [zpow_one]
  ring

theorem log_four : Real.log 4 = 2 * Real.log 2 := by
  rw [show (4 : ℝ) = 2 ^ 2 by norm_num, Real.log_pow]; norm_num

/-- `term2` is affine in `log (depth + 1)` -/
theorem term2_eq_add (m : Nat) (hm : 0 < m) (depth : Int) {δ : ℝ} (hδ : 0 < δ)
    (hdep : (0 : ℝ) < depth + 1) :
    (term2 m depth δ : ℝ) = Real.log (2 * Real.pi ^ 2 * m / (6 * δ)) + 2 * Real.log (depth + 1) := by
  have hm' : (0 : ℝ) < m := Nat.cast_pos.mpr hm
  -- move `(depth + 1) ^ 2` to the end of the product
  rw [term2_real, mul_right_comm (2 : ℝ), mul_right_comm (2 * Real.pi ^ 2), mul_div_right_comm,
    Real.log_mul, Real.log_pow, Nat.cast_ofNat]
  · positivity
  · exact (pow_pos hdep 2).ne'

theorem term2_succ_le (m : Nat) (hm : 0 < m) (depth : Int) (hdep : 0 ≤ depth) {δ : ℝ} (hδ : 0 < δ) :
    (term2 m (depth + 1) δ : ℝ) ≤ term2 m depth δ + 2 * Real.log 2 := by
  have hd0 : (0 : ℝ) ≤ depth := Int.cast_nonneg hdep
  have hx : (0 : ℝ) < depth + 1 := add_pos_of_nonneg_of_pos hd0 one_pos
  have hlog : Real.log ((depth : ℝ) + 1 + 1) ≤ Real.log 2 + Real.log (depth + 1) := by
    rw [← Real.log_mul two_ne_zero hx.ne', two_mul]
    exact Real.log_le_log (add_pos hx one_pos) (add_le_add le_rfl (le_add_of_nonneg_left hd0))
  rw [term2_eq_add m hm depth hδ hx, term2_eq_add m hm (depth + 1) hδ, Int.cast_add, Int.cast_one]
  · linear_combination 2 * hlog
  · rw [Int.cast_add, Int.cast_one]
    exact add_pos hx one_pos

theorem term3_succ (depth : Int) : (term3 (depth + 1) : ℝ) = term3 depth + 2 * Real.log 2 := by
  rw [term3_real, term3_real, log_four, Int.cast_add, Int.cast_one]
  ring

theorem term4_succ_le (d : Nat) (hd : 1 ≤ d) (depth : Int) {ls var : ℝ} (hls : 0 < ls) (hv : 0 < var) :
    (term4 d (depth + 1) ls var : ℝ) ≤ term4 d depth ls var + 4 * d * Real.log 2 := by
  have hpos : 0 ≤ 4 * (d : ℝ) * Real.log 2 :=
    mul_nonneg (by positivity) (Real.log_nonneg one_le_two)
  rw [term4_real, term4_real, term1_succ,
    Real.log_div (term1_pos d hd depth hls hv).ne' two_ne_zero,
    show -(4 * (d : ℝ)) * (Real.log (term1 d depth ls var) - Real.log 2)
      = -(4 * (d : ℝ)) * Real.log (term1 d depth ls var) + 4 * d * Real.log 2 by ring]
  exact max_le (add_nonneg (le_max_left _ _) hpos) (add_le_add (le_max_right _ _) le_rfl)

/-- the radicand of `Vh` grows by at most `(6 + 4d)·log 2` per level -/
theorem radicand_succ_le (d m : Nat) (hd : 1 ≤ d) (hm : 0 < m) (depth : Int) (hdep : 0 ≤ depth)
    {δ ls var : ℝ} (hδ : 0 < δ) (hls : 0 < ls) (hv : 0 < var) :
    (c2 d ls var + 2 * term2 m (depth + 1) δ + term3 (depth + 1) + term4 d (depth + 1) ls var : ℝ) ≤
      c2 d ls var + 2 * term2 m depth δ + term3 depth + term4 d depth ls var
        + (6 + 4 * (d : ℝ)) * Real.log 2 := by
  rw [term3_succ]
  linear_combination 2 * term2_succ_le m hm depth hdep hδ + term4_succ_le d hd depth hls hv

/-- … which is less than `C3²`: `C3² ≥ 1 + 2.7²·2d·log 2 > 10·d·log 2 ≥ (6 + 4d)·log 2` -/
theorem c3_sq_gt (d : Nat) (hd : 1 ≤ d) :
    (6 + 4 * (d : ℝ)) * Real.log 2 < (c3 d : ℝ) ^ 2 := by
  have hl2 : 0 < Real.log 2 := Real.log_pos one_lt_two
  have hdl : Real.log 2 ≤ d * Real.log 2 := le_mul_of_one_le_left hl2.le (Nat.one_le_cast.mpr hd)
  have hs0 := Real.sqrt_nonneg (2 * (d : ℝ) * Real.log 2)
  rw [c3_real, Nat.cast_mul, Nat.cast_ofNat, add_sq, mul_pow,
    Real.sq_sqrt (mul_nonneg (by positivity) hl2.le)]
  linear_combination 6 * hdl + 27 / 5 * hs0 + 229 / 50 * hl2.trans_le hdl

/-- `√b < √a + c` when `b` exceeds `a` by less than `c²` -/
theorem sqrt_lt_sqrt_add {a b D c : ℝ} (hb : b ≤ a + D) (hD : D < c ^ 2) (hc : 0 < c) :
    Real.sqrt b < Real.sqrt a + c := by
  have hs := Real.sqrt_nonneg a
  have ha : a ≤ Real.sqrt a ^ 2 := by rw [Real.sq_sqrt']; exact le_max_left _ _
  have hm : 0 ≤ Real.sqrt a * c := mul_nonneg hs hc.le
  rw [Real.sqrt_lt' (add_pos_of_nonneg_of_pos hs hc), add_sq]
  linear_combination hb + hD + ha + 2 * hm

/-- halving the factor beats a bracket that less than doubles -/
theorem half_mul_lt {T s₀ s₁ c : ℝ} (hT : 0 < T) (h : s₁ < s₀ + c) (h₀ : 0 ≤ s₀) :
    4 * (T / 2) * (s₁ + c) < 4 * T * (s₀ + c) := by
  rw [show 4 * (T / 2) * (s₁ + c) = 4 * T * ((s₁ + c) / 2) by ring]
  exact mul_lt_mul_of_pos_left (by linear_combination (1 / 2) * h + (1 / 2) * h₀) (mul_pos four_pos hT)

theorem vhEntry_succ_lt (d m : Nat) (hd : 1 ≤ d) (hm : 0 < m) (depth : Int) (hdep : 0 ≤ depth)
    {δ ls var : ℝ} (hδ : 0 < δ) (hls : 0 < ls) (hv : 0 < var) :
    (vhEntry d m δ (depth + 1) ls var : ℝ) < vhEntry d m δ depth ls var := by
  have hc3 : (0 : ℝ) < c3 d := one_pos.trans_le (c3_ge_one d)
  rw [vhEntry_real, vhEntry_real, term1_succ]
  exact half_mul_lt (term1_pos d hd depth hls hv)
    (sqrt_lt_sqrt_add (radicand_succ_le d m hd hm depth hdep hδ hls hv) (c3_sq_gt d hd) hc3)
    (Real.sqrt_nonneg _)

theorem refineRhs_succ_lt (d m : Nat) (hd : 1 ≤ d) (hm : 0 < m) {δ : ℝ} (hδ : 0 < δ) (h : Nat)
    (lsvar : List (ℝ × ℝ)) (hne : lsvar ≠ []) (hpos : ∀ p ∈ lsvar, 0 < p.1 ∧ 0 < p.2) :
    (refineRhs d m δ (h + 1) lsvar : ℝ) < refineRhs d m δ h lsvar := by
  simp only [refineRhs, norm_real, designVh, List.map_map]
  refine Real.sqrt_lt_sqrt (List.sum_nonneg ?_) (List.sum_lt_sum_of_ne_nil hne _ _ ?_)
  · intro x hx
    obtain ⟨p, _, rfl⟩ := List.mem_map.mp hx
    exact mul_self_nonneg _
  · intro p hp
    have h1 := hpos p hp
    have := vhEntry_succ_lt d m hd hm (h : Int) (Int.natCast_nonneg h) hδ h1.1 h1.2
    simp only [Function.comp, Nat.cast_add, Nat.cast_one, add_zero]
    exact mul_self_lt_mul_self (vhEntry_pos d m hd δ _ h1.1 h1.2).le this

/-! ## the depth gate of `should_refine_design` -/

theorem shouldRefine_gate {α : Type} [RealLike α] [LeB α] (d m : Nat) (δ : α)
    (pointDepth maxDepth : Nat) (h : maxDepth ≤ pointDepth) (lsvar : List (α × α))
    (scale diagCov : List α) :
    shouldRefine d m δ pointDepth maxDepth lsvar scale diagCov = false := by
  simp [shouldRefine, h]

theorem shouldRefine_below {α : Type} [RealLike α] [LeB α] (d m : Nat) (δ : α)
    (pointDepth maxDepth : Nat) (h : pointDepth < maxDepth) (lsvar : List (α × α))
    (scale diagCov : List α) :
    shouldRefine d m δ pointDepth maxDepth lsvar scale diagCov =
      allLe (refineLhs scale diagCov) (refineRhs d m δ pointDepth lsvar) := by
  simp [shouldRefine, Nat.not_le.mpr h]

/-! ## `compute_beta` -/

theorem vogpAdBeta_real (nv δ det c : ℝ) :
    vogpAdBeta nv δ det c =
      Real.sqrt ((1 / 10 + Real.sqrt (nv * Real.log (1 / nv * det) - 2 * Real.log δ)) ^ 2 / c) := by
  simp only [vogpAdBeta, ofFrac_real, ofNat_real, sqrt_real, log_real, Nat.cast_one, Nat.cast_ofNat,
    pow_two]

end Vh
end VOPy
