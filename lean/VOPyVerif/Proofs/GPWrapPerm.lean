import VOPyVerif.Proofs.GPWrapBridge
import VOPyVerif.Proofs.ListBasic
import Mathlib.Logic.Equiv.Fin.Basic
import Mathlib.Data.List.Perm.Basic
import Mathlib.Data.Rat.Star
/-!
The *executable* per-objective posterior `GPWrap.postScalar` on the
data's own index type `Fin data.length` (through the refinement to `quad`), its invariance under
permutations, and the lift to the model list and the independent model with scalar noise.
-/
namespace VOPy.GPWrap
open Matrix VOPy.GPWrap.Alg

/-- a permutation of a list is a re-indexing by a bijection of positions -/
theorem perm_exists_equiv {α : Type} {l l' : List α} (h : l.Perm l') :
    ∃ e : Fin l.length ≃ Fin l'.length, ∀ i, l.get i = l'.get (e i) := by
  induction h with
  | nil => exact ⟨Equiv.refl _, fun i => i.elim0⟩
  | @cons x l₁ l₂ _ ih =>
    obtain ⟨e, he⟩ := ih
    refine ⟨(finSuccEquiv _).trans ((Equiv.optionCongr e).trans (finSuccEquiv _).symm), ?_⟩
    refine Fin.cases rfl (fun j => ?_)
    rw [Equiv.trans_apply, Equiv.trans_apply, finSuccEquiv_succ, Equiv.optionCongr_apply,
      Option.map_some, finSuccEquiv_symm_some]
    exact he j
  | swap x y l =>
    refine ⟨Equiv.swap 0 1, Fin.cases rfl (Fin.cases rfl fun k => ?_)⟩
    have h1 : (k.succ.succ : Fin (l.length + 2)) ≠ 1 :=
      fun h => Fin.succ_ne_zero k (Fin.succ_injective _ h)
    rw [Equiv.swap_apply_of_ne_of_ne (Fin.succ_ne_zero _) h1]
    rfl
  | trans _ _ ih₁ ih₂ =>
    obtain ⟨e₁, h₁⟩ := ih₁
    obtain ⟨e₂, h₂⟩ := ih₂
    exact ⟨e₁.trans e₂, fun i => (h₁ i).trans (h₂ _)⟩

/-- entries of a matrix built by two nested successful `mapM`s -/
theorem mapM2_spec {ι κ : Type} (rows : List ι) (cols : List κ) (g : ι → κ → Option ℚ) (M : Mat)
    (h : rows.mapM (fun r => cols.mapM (fun c => g r c)) = some M) :
    M.length = rows.length ∧ (∀ r ∈ M, r.length = cols.length) ∧
    ∀ a b r c, rows[a]? = some r → cols[b]? = some c →
      (M.getD a []).getD b 0 = (g r c).getD 0 := by
  have hlen := mapM_option_length h
  refine ⟨hlen, ?_, ?_⟩
  · intro r hr
    obtain ⟨i, hi, rfl⟩ := List.mem_iff_getElem.mp hr
    exact mapM_option_length (mapM_option_getElem h (hlen ▸ hi) hi)
  · intro a b r c hr hc
    obtain ⟨ha, -⟩ := List.getElem?_eq_some_iff.mp hr
    have hrow := mapM_option_getElem? h a
    rw [hr, Option.bind_some] at hrow
    rw [List.getD_eq_getElem?_getD, List.getD_eq_getElem?_getD, hrow]
    cases hm : cols.mapM (fun c => g r c) with
    | none =>
      rw [hm] at hrow
      exact absurd (hlen ▸ ha) (Nat.not_lt.mpr (List.getElem?_eq_none_iff.mp hrow))
    | some row => rw [Option.getD_some, mapM_option_getElem? hm b, hc, Option.bind_some]

/-! ### one objective -/

/-- value of a Gram table entry (`0` outside the table; used where the lookup succeeded) -/
def tval (T : Mat) (a b : Nat) : ℚ := (lookup T a b).getD 0

theorem toMatN_scalarMat (n : Nat) (s : ℚ) :
    toMatN n n (scalarMat n s) = Matrix.diagonal fun _ => s := by
  funext i j
  simp [toMatN, scalarMat, Matrix.diagonal_apply, List.getD_eq_getElem?_getD, Fin.ext_iff]

theorem scalarMat_shape (n : Nat) (s : ℚ) :
    (scalarMat n s).length = n ∧ ∀ row ∈ scalarMat n s, row.length = n := by
  refine ⟨by rw [scalarMat, List.length_map, List.length_range], fun row h => ?_⟩
  obtain ⟨i, -, rfl⟩ := List.mem_map.mp h
  rw [List.length_map, List.length_range]

/-- system matrix of one objective: `K(X, X) + s·I` on the data's own positions -/
def Amat (T : Mat) (s : ℚ) (data : List (Nat × ℚ)) :
    Matrix (Fin data.length) (Fin data.length) ℚ :=
  fun i j => tval T (data.get i).1 (data.get j).1 + if i = j then s else 0

/-- cross-covariances of the test point `p` with the data -/
def kvec (T : Mat) (p : Nat) (data : List (Nat × ℚ)) : Fin data.length → ℚ :=
  fun i => tval T p (data.get i).1

/-- residuals `y − c` -/
def rvec (c : ℚ) (data : List (Nat × ℚ)) : Fin data.length → ℚ := fun i => (data.get i).2 - c

theorem getElem?_map_fin {α β : Type} (l : List α) (f : α → β) (i : Fin l.length) :
    (l.map f)[i.1]? = some (f (l.get i)) := by
  rw [List.getElem?_map, List.getElem?_eq_getElem i.2]
  rfl

/-- closed form of the executable per-objective posterior -/
theorem postScalar_spec (T : Mat) (s c : ℚ) (data : List (Nat × ℚ)) (p : Nat) (q : Post)
    (h : postScalar T s c data p = some q) (hdet : IsUnit (Amat T s data).det) :
    q.mean = [c + quad (Amat T s data) (kvec T p data) (rvec c data)] ∧
    q.cov = [[tval T p p - quad (Amat T s data) (kvec T p data) (kvec T p data)]] := by
  unfold postScalar at h
  simp only at h
  split at h
  · rename_i K kT kss hK hkT hkss
    rw [List.length_map] at h
    obtain ⟨hK1, hK2, hK3⟩ := mapM2_spec _ _ _ K hK
    obtain ⟨-, -, hk3⟩ := mapM2_spec _ _ _ kT hkT
    obtain ⟨-, -, hs3⟩ := mapM2_spec _ _ _ kss hkss
    rw [List.length_map] at hK1 hK2
    have hA :
        toMatN data.length data.length (madd K (scalarMat data.length s)) = Amat T s data := by
      rw [toMatN_madd _ _ K _ hK1 (scalarMat_shape _ s).1 hK2 (scalarMat_shape _ s).2,
        toMatN_scalarMat]
      funext i j
      rw [Matrix.add_apply, Matrix.diagonal_apply]
      exact congrArg (· + _) (hK3 i j _ _ (getElem?_map_fin ..) (getElem?_map_fin ..))
    have hkv : toVecN data.length (kT.getD (0 : Fin 1) []) = kvec T p data :=
      funext fun i => hk3 0 i _ _ rfl (getElem?_map_fin ..)
    have hrv : toVecN data.length (vsub (data.map (·.2)) (data.map fun _ => c)) = rvec c data := by
      funext i
      rw [vsub, List.zipWith_map_left, List.zipWith_map_right, List.zipWith_self]
      exact (List.getD_eq_getElem?_getD).trans (by rw [getElem?_map_fin]; rfl)
    rw [← hA] at hdet
    obtain ⟨hm, hc⟩ := posterior_spec data.length 1 _ _ _ _ _ _ _ q h (List.length_map ..) rfl hdet
    rw [List.ofFn_succ, List.ofFn_zero, hkv, hrv, hA] at hm
    rw [List.ofFn_succ, List.ofFn_zero, List.ofFn_succ, List.ofFn_zero, hkv, hA,
      hs3 (0 : Fin 1) (0 : Fin 1) p p rfl rfl] at hc
    exact ⟨hm, hc⟩
  · exact absurd h (by simp)

section Reindex
variable (T : Mat) (s c : ℚ) (p : Nat) {data data' : List (Nat × ℚ)}
  (f : Fin data.length → Fin data'.length) (he : ∀ i, data.get i = data'.get (f i))
include he

/-- the views of a data list whose positions embed into those of another -/
theorem Amat_submatrix (hf : Function.Injective f) :
    Amat T s data = (Amat T s data').submatrix f f := by
  funext i j
  simp only [Amat, Matrix.submatrix_apply, he, hf.eq_iff]

theorem kvec_comp : kvec T p data = kvec T p data' ∘ f :=
  funext fun i => by simp only [kvec, Function.comp_apply, he]

theorem rvec_comp : rvec c data = rvec c data' ∘ f :=
  funext fun i => by simp only [rvec, Function.comp_apply, he]

theorem Amat_posDef_of_injective (hf : Function.Injective f) (h : (Amat T s data').PosDef) :
    (Amat T s data).PosDef :=
  Amat_submatrix T s f he hf ▸ h.submatrix hf

/-- a sub-family of the samples explains no more of the variance at `p` than all of them -/
theorem quad_Amat_le_of_injective (hf : Function.Injective f) (h : (Amat T s data').PosDef) :
    quad (Amat T s data) (kvec T p data) (kvec T p data) ≤
      quad (Amat T s data') (kvec T p data') (kvec T p data') := by
  rw [Amat_submatrix T s f he hf, kvec_comp T p f he]
  exact quad_submatrix_le _ h f hf _

end Reindex

/-- **The executable per-objective posterior is a function of the multiset of its samples.** -/
theorem postScalar_perm (T : Mat) (s c : ℚ) (data data' : List (Nat × ℚ)) (p : Nat) (q q' : Post)
    (hperm : data.Perm data') (h : postScalar T s c data p = some q)
    (h' : postScalar T s c data' p = some q') (hdet : IsUnit (Amat T s data').det) :
    q.mean = q'.mean ∧ q.cov = q'.cov := by
  obtain ⟨e, he⟩ := perm_exists_equiv hperm
  have hA := Amat_submatrix T s e he e.injective
  have hdet0 : IsUnit (Amat T s data).det := by
    rw [hA, Matrix.det_submatrix_equiv_self]; exact hdet
  obtain ⟨m1, c1⟩ := postScalar_spec T s c data p q h hdet0
  obtain ⟨m2, c2⟩ := postScalar_spec T s c data' p q' h' hdet
  rw [m1, m2, c1, c2, hA, kvec_comp T p e he, rvec_comp c e he, quad_reindex, quad_reindex]
  exact ⟨rfl, rfl⟩

/-- **No data: the executable per-objective posterior is the prior** (mean constant, `k(p,p)`). -/
theorem postScalar_nil (T : Mat) (s c : ℚ) (p : Nat) (q : Post)
    (h : postScalar T s c [] p = some q) : q.mean = [c] ∧ q.cov = [[tval T p p]] := by
  have : IsEmpty (Fin (List.length ([] : List (ℕ × ℚ)))) := (inferInstance : IsEmpty (Fin 0))
  have hdet : IsUnit (Amat T s []).det := by
    rw [Matrix.det_isEmpty]; exact isUnit_one
  obtain ⟨hm, hc⟩ := postScalar_spec T s c [] p q h hdet
  rw [hm, hc, quad_of_isEmpty, quad_of_isEmpty, add_zero, sub_zero]
  exact ⟨rfl, rfl⟩

/-- prior Gram matrix of the data points and the test point `p` (table lookups) -/
def jointGram (T : Mat) (data : List (Nat × ℚ)) (p : Nat) :
    Matrix (Fin data.length ⊕ Fin 1) (Fin data.length ⊕ Fin 1) ℚ :=
  fun a b => tval T (Sum.elim (fun i => (data.get i).1) (fun _ => p) a)
    (Sum.elim (fun i => (data.get i).1) (fun _ => p) b)

theorem Amat_eq (T : Mat) (s : ℚ) (data : List (Nat × ℚ)) (p : Nat) :
    Amat T s data = (jointGram T data p).toBlocks₁₁ + Matrix.diagonal fun _ => s := by
  funext i j
  rw [Matrix.add_apply, Matrix.diagonal_apply]
  rfl

theorem Amat_posDef (T : Mat) (s : ℚ) (data : List (Nat × ℚ)) (p : Nat) (hs : 0 < s)
    (hG : (jointGram T data p).PosSemidef) : (Amat T s data).PosDef := by
  rw [Amat_eq T s data p]
  exact (Matrix.PosDef.diagonal fun _ => hs).posSemidef_add (hG.submatrix Sum.inl)

/-! ### lists of per-objective posteriors -/

/-- the part of an answer the property speaks about (not the pivot used as conditioning guard) -/
def Post.core (q : Post) : Vec × Mat := (q.mean, q.cov)

/-- `assembleDiag` reads its arguments through `Post.core` only -/
theorem assembleDiag_core (ps : List Post) :
    (assembleDiag ps).mean = (ps.map Post.core).map (fun c => c.1.headD 0) ∧
    (assembleDiag ps).cov = (ps.map Post.core).zipIdx.map (fun ci =>
      (List.range (ps.map Post.core).length).map fun j =>
        if ci.2 = j then (ci.1.2.headD []).headD 0 else 0) := by
  constructor
  · rw [List.map_map]; rfl
  · rw [List.zipIdx_map, List.map_map, List.length_map]; rfl

theorem assembleDiag_entry_congr (ps ps' : List Post) (i : Nat) (hi : ps[i]? = ps'[i]?)
    (hlen : ps.length = ps'.length) :
    (assembleDiag ps).mean[i]? = (assembleDiag ps').mean[i]? ∧
      ((assembleDiag ps).cov[i]?.bind (·[i]?)) = ((assembleDiag ps').cov[i]?.bind (·[i]?)) := by
  constructor
  · simp only [assembleDiag, List.getElem?_map, hi]
  · simp only [assembleDiag, List.getElem?_map, List.getElem?_zipIdx, hi, hlen]

theorem assembleDiag_shapes (ps : List Post) :
    (assembleDiag ps).mean.length = ps.length ∧ (assembleDiag ps).cov.length = ps.length ∧
    ∀ row ∈ (assembleDiag ps).cov, row.length = ps.length := by
  refine ⟨List.length_map .., (List.length_map ..).trans List.length_zipIdx, fun row hrow => ?_⟩
  obtain ⟨qi, -, rfl⟩ := List.mem_map.mp hrow
  rw [List.length_map, List.length_range]

/-- two lists of per-objective answers, each from a successful `mapM` over lists of equal length,
that agree position by position in mean and covariance assemble to the same mean and covariance -/
theorem assembleDiag_mapM_congr {α α' : Type} (f : α → Option Post) (f' : α' → Option Post)
    (l : List α) (l' : List α') (ps ps' : List Post)
    (h : l.mapM f = some ps) (h' : l'.mapM f' = some ps') (hlen : l.length = l'.length)
    (hpt : ∀ i (hi : i < l.length) (hi' : i < l'.length) (q q' : Post),
      f l[i] = some q → f' l'[i] = some q' → q.mean = q'.mean ∧ q.cov = q'.cov) :
    (assembleDiag ps).mean = (assembleDiag ps').mean ∧
      (assembleDiag ps).cov = (assembleDiag ps').cov := by
  have h1 := mapM_option_length h
  have h2 := mapM_option_length h'
  have hcore : ps.map Post.core = ps'.map Post.core := by
    apply List.ext_getElem (by rw [List.length_map, List.length_map, h1, h2, hlen])
    intro i hi hi'
    rw [List.length_map] at hi hi'
    rw [List.getElem_map, List.getElem_map]
    obtain ⟨hm, hc⟩ := hpt i (h1 ▸ hi) (h2 ▸ hi') _ _ (mapM_option_getElem h (h1 ▸ hi) hi)
      (mapM_option_getElem h' (h2 ▸ hi') hi')
    exact Prod.ext hm hc
  rw [(assembleDiag_core ps).1, (assembleDiag_core ps).2, hcore, ← (assembleDiag_core ps').1,
    ← (assembleDiag_core ps').2]
  exact ⟨rfl, rfl⟩

/-- an answer of the model list unpacked -/
theorem mlistPost_eq_some (cfg : Cfg) (data : List (List (Nat × ℚ))) (p : Nat) (q : Post)
    (h : mlistPost cfg data p = some q) :
    ∃ s ps, cfg.scalarNoise = some s ∧ cfg.tables.length = cfg.m ∧ data.length = cfg.m ∧
      cfg.consts.length = cfg.m ∧
      (cfg.tables.zip (cfg.consts.zip data)).mapM
        (fun Tcd => postScalar Tcd.1 s Tcd.2.1 Tcd.2.2 p) = some ps ∧
      q = assembleDiag ps := by
  unfold mlistPost at h
  split at h
  · rename_i s hs
    split at h
    · rename_i hc
      simp only [Bool.and_eq_true, beq_iff_eq] at hc
      split at h
      · rename_i ps hps
        exact ⟨s, ps, hs, hc.1.1, hc.1.2, hc.2, hps, (Option.some.inj h).symm⟩
      · exact absurd h (by simp)
    · exact absurd h (by simp)
  · exact absurd h (by simp)

theorem mlistPost_shapes (cfg : Cfg) (data : List (List (Nat × ℚ))) (p : Nat) (q : Post)
    (h : mlistPost cfg data p = some q) :
    q.mean.length = cfg.m ∧ q.cov.length = cfg.m ∧ ∀ row ∈ q.cov, row.length = cfg.m := by
  obtain ⟨s, ps, -, hT, hd, hc, hps, rfl⟩ := mlistPost_eq_some cfg data p q h
  have hl : ps.length = cfg.m := by
    rw [mapM_option_length hps, List.length_zip, List.length_zip, hT, hc, hd, Nat.min_self,
      Nat.min_self]
  rw [← hl]
  exact assembleDiag_shapes ps

/-- an answer of the independent model with scalar noise unpacked -/
theorem indepPost_eq_some (cfg : Cfg) (s : ℚ) (hs : cfg.scalarNoise = some s)
    (data : List (Nat × Vec)) (p : Nat) (q : Post) (h : indepPost cfg data p = some q) :
    cfg.tables.length = cfg.m ∧ ∃ ps, cfg.tables.zipIdx.mapM (fun Tj =>
        postScalar Tj.1 s 0 (data.map (fun d => (d.1, d.2[Tj.2]?.getD 0))) p) = some ps ∧
      q = assembleDiag ps := by
  unfold indepPost at h
  simp only [hs] at h
  split at h
  · rename_i hc
    simp only [Bool.and_eq_true, beq_iff_eq] at hc
    split at h
    · rename_i ps hps
      exact ⟨hc.1, ps, hps, (Option.some.inj h).symm⟩
    · exact absurd h (by simp)
  · exact absurd h (by simp)

end VOPy.GPWrap
