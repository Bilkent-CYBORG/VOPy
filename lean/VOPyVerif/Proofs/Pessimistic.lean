import VOPyVerif.Model.Pessimistic
import VOPyVerif.Proofs.ConeOrderRat
import VOPyVerif.Proofs.InvBasic
import Mathlib.Algebra.Order.Field.Basic
import Mathlib.Tactic.Ring
import Mathlib.Tactic.LinearCombination
import Mathlib.Data.Rat.Cast.Order
import Mathlib.Data.List.Forall2
/-!
# C11: boxes, vertices, convexity (generic ordered field) and soundness
of the exact-arithmetic model `Pess.checkDominates`.

The generic layer works over any linearly ordered field `K` with vectors `List K`, so the same
lemmas serve the rational statement (about the model's own `dot`/`dominates`) and the real one
(boxes of real points, bounds cast from `ℚ`).
-/
namespace VOPy.Pess
set_option linter.unusedSectionVars false
set_option linter.unusedSimpArgs false

section Generic
variable {K : Type} [Field K] [LinearOrder K] [IsStrictOrderedRing K]

/-- dot product with the truncation convention of the model's `dot` -/
def gdot : List K → List K → K
  | a :: as, b :: bs => a * b + gdot as bs
  | _, _ => 0

/-- `x + t (y − x)` componentwise: the point of the segment `[x, y]` at parameter `t` -/
def comb (t : K) (x y : List K) : List K := List.zipWith (fun a b => a + t * (b - a)) x y

def gsub (x y : List K) : List K := List.zipWith (· - ·) x y

/-- `x ∈ ∏ [lᵢ, uᵢ]` (all three lists of the same length) -/
def GInBox : List K → List K → List K → Prop
  | [], [], [] => True
  | l :: ls, u :: us, x :: xs => l ≤ x ∧ x ≤ u ∧ GInBox ls us xs
  | _, _, _ => False

@[simp] theorem comb_nil (t : K) : comb t ([] : List K) [] = [] := rfl
@[simp] theorem comb_cons (t a b : K) (x y : List K) :
    comb t (a :: x) (b :: y) = (a + t * (b - a)) :: comb t x y := rfl

theorem comb_length (t : K) (x y : List K) (h : x.length = y.length) :
    (comb t x y).length = x.length := by
  simp [comb, h]

theorem comb_self (t : K) (x : List K) : comb t x x = x := by
  induction x with
  | nil => rfl
  | cons a x ih => simp [ih]

theorem gdot_comb (t : K) : ∀ (w x y : List K), x.length = y.length →
    gdot w (comb t x y) = gdot w x + t * (gdot w y - gdot w x)
  | [], x, y, _ => by
    cases x <;> cases y <;> simp [gdot, comb]
  | a :: w, [], [], _ => by simp [gdot]
  | a :: w, b :: x, [], h => by simp at h
  | a :: w, [], c :: y, h => by simp at h
  | a :: w, b :: x, c :: y, h => by
    have ih := gdot_comb t w x y (by simpa using h)
    simp only [comb_cons, gdot, ih]
    ring

/-- this copy of the truncating product is `ConeOrd.gdot`, whose algebra it takes over -/
theorem gdot_eq_gdot (a b : List K) : gdot a b = ConeOrd.gdot a b := by
  induction a generalizing b with
  | nil => simp [gdot]
  | cons x a ih => cases b with
    | nil => simp [gdot]
    | cons y b => simp only [gdot, ConeOrd.gdot_cons, ih]

theorem gdot_gsub (w x y : List K) (h : x.length = y.length) :
    gdot w (gsub x y) = gdot w x - gdot w y := by
  rw [gdot_eq_gdot, gdot_eq_gdot, gdot_eq_gdot]
  exact ConeOrd.gdot_sub w x y h

theorem gdot_map_mul_right (c : K) (w y : List K) : gdot w (y.map (· * c)) = gdot w y * c := by
  simp only [gdot_eq_gdot, mul_comm _ c, ConeOrd.gdot_smul]

theorem le_lerp {t l x y : K} (h0 : 0 ≤ t) (h1 : t ≤ 1) (hx : l ≤ x) (hy : l ≤ y) :
    l ≤ x + t * (y - x) := by
  linear_combination add_le_add (mul_le_mul_of_nonneg_left hx (sub_nonneg.mpr h1))
    (mul_le_mul_of_nonneg_left hy h0)

theorem lerp_le {t u x y : K} (h0 : 0 ≤ t) (h1 : t ≤ 1) (hx : x ≤ u) (hy : y ≤ u) :
    x + t * (y - x) ≤ u := by
  linear_combination add_le_add (mul_le_mul_of_nonneg_left hx (sub_nonneg.mpr h1))
    (mul_le_mul_of_nonneg_left hy h0)

/-- a point of an interval as a point of the segment between its ends (for `a = b` the quotient
below is `0`, division by zero, and `z = a`) -/
theorem exists_param {a b z : K} (h1 : a ≤ z) (h2 : z ≤ b) :
    ∃ s, 0 ≤ s ∧ s ≤ 1 ∧ a + s * (b - a) = z :=
  ⟨(z - a) / (b - a), div_nonneg (sub_nonneg.mpr h1) (sub_nonneg.mpr (h1.trans h2)),
    div_le_one_of_le₀ (sub_le_sub_right h2 a) (sub_nonneg.mpr (h1.trans h2)), by
    rw [div_mul_cancel_of_imp fun h => le_antisymm (h ▸ sub_le_sub_right h2 a) (sub_nonneg.mpr h1),
      add_sub_cancel]⟩

theorem GInBox.forall₂ : ∀ {l u y : List K}, GInBox l u y →
    List.Forall₂ (· ≤ ·) l y ∧ List.Forall₂ (· ≤ ·) y u
  | [], [], [], _ => ⟨.nil, .nil⟩
  | l :: ls, u :: us, y :: ys, h => by
    have ih := GInBox.forall₂ h.2.2
    exact ⟨.cons h.1 ih.1, .cons h.2.1 ih.2⟩
  | [], [], _ :: _, h => by simp [GInBox] at h
  | [], _ :: _, _, h => by simp [GInBox] at h
  | _ :: _, [], _, h => by simp [GInBox] at h
  | _ :: _, _ :: _, [], h => by simp [GInBox] at h

theorem GInBox.of_forall₂ : ∀ {l u y : List K}, List.Forall₂ (· ≤ ·) l y →
    List.Forall₂ (· ≤ ·) y u → GInBox l u y
  | _, _, _, .nil, .nil => trivial
  | _, _, _, .cons h1 t1, .cons h2 t2 => ⟨h1, h2, GInBox.of_forall₂ t1 t2⟩

theorem GInBox.length_eq {l u x : List K} (h : GInBox l u x) :
    x.length = l.length ∧ u.length = l.length :=
  ⟨h.forall₂.1.length_eq.symm, (h.forall₂.1.length_eq.trans h.forall₂.2.length_eq).symm⟩

theorem forall₂_le_comb {t : K} (h0 : 0 ≤ t) (h1 : t ≤ 1) : ∀ {l x y : List K},
    List.Forall₂ (· ≤ ·) l x → List.Forall₂ (· ≤ ·) l y → List.Forall₂ (· ≤ ·) l (comb t x y)
  | _, _, _, .nil, .nil => .nil
  | _, _, _, .cons hx hxs, .cons hy hys =>
    .cons (le_lerp h0 h1 hx hy) (forall₂_le_comb h0 h1 hxs hys)

theorem forall₂_comb_le {t : K} (h0 : 0 ≤ t) (h1 : t ≤ 1) : ∀ {u x y : List K},
    List.Forall₂ (· ≤ ·) x u → List.Forall₂ (· ≤ ·) y u → List.Forall₂ (· ≤ ·) (comb t x y) u
  | _, _, _, .nil, .nil => .nil
  | _, _, _, .cons hx hxs, .cons hy hys =>
    .cons (lerp_le h0 h1 hx hy) (forall₂_comb_le h0 h1 hxs hys)

theorem GInBox.comb {t : K} (h0 : 0 ≤ t) (h1 : t ≤ 1) {l u x y : List K}
    (hx : GInBox l u x) (hy : GInBox l u y) : GInBox l u (comb t x y) :=
  .of_forall₂ (forall₂_le_comb h0 h1 hx.forall₂.1 hy.forall₂.1)
    (forall₂_comb_le h0 h1 hx.forall₂.2 hy.forall₂.2)

/-- `x` dominates, facet by facet with allowance `s`, some point of the box `[l, u]`;
`Ws` = list of (facet row, allowance). -/
def Good (Ws : List (List K × K)) (l u : List K) (x : List K) : Prop :=
  x.length = l.length ∧ ∃ y, GInBox l u y ∧ ∀ p ∈ Ws, p.2 ≤ gdot p.1 x - gdot p.1 y

/-- `box + cone` is convex -/
theorem Good.comb {Ws : List (List K × K)} {l u x x' : List K} {t : K}
    (h0 : 0 ≤ t) (h1 : t ≤ 1) (hx : Good Ws l u x) (hx' : Good Ws l u x') :
    Good Ws l u (Pess.comb t x x') := by
  obtain ⟨hlx, y, hy, hd⟩ := hx
  obtain ⟨hlx', y', hy', hd'⟩ := hx'
  refine ⟨by rw [comb_length _ _ _ (hlx.trans hlx'.symm), hlx], Pess.comb t y y', GInBox.comb h0 h1 hy hy', ?_⟩
  intro p hp
  have hly : y.length = y'.length := (GInBox.length_eq hy).1.trans (GInBox.length_eq hy').1.symm
  rw [gdot_comb t p.1 x x' (hlx.trans hlx'.symm), gdot_comb t p.1 y y' hly]
  linear_combination le_lerp h0 h1 (hd p hp) (hd' p hp)

end Generic

/-! ## the rational instance is the model -/

theorem gdot_eq_dot (a b : Vec) : gdot a b = dot a b := by
  rw [gdot_eq_gdot, ConeOrd.dot_eq_gdot]

theorem vertices_in_box : ∀ {l u : Vec}, List.Forall₂ (· ≤ ·) l u → ∀ v ∈ vertices l u, GInBox l u v
  | [], [], _, v, hv => by
    simp [vertices] at hv; subst hv; trivial
  | l :: ls, u :: us, h, v, hv => by
    cases h with
    | cons hlu hrest =>
      simp only [vertices, List.mem_append, List.mem_map] at hv
      rcases hv with ⟨v', hv', rfl⟩ | ⟨v', hv', rfl⟩
      · exact ⟨le_refl _, hlu, vertices_in_box hrest v' hv'⟩
      · exact ⟨hlu, le_refl _, vertices_in_box hrest v' hv'⟩

theorem vertex_length (l u : Vec) (h : l.length = u.length) :
    ∀ v ∈ vertices l u, v.length = l.length :=
  Inv.pess_vertices_eq l u ▸ Inv.rect_vertex_length l u h

theorem vle_iff_forall₂ : ∀ (a b : Vec), a.length = b.length →
    (vle a b = true ↔ List.Forall₂ (· ≤ ·) a b)
  | [], [], _ => by simp [vle]
  | x :: a, y :: b, h => by
    have ih := vle_iff_forall₂ a b (by simpa using h)
    simp only [vle, List.zipWith_cons_cons, List.all_cons, Bool.and_eq_true, decide_eq_true_eq,
      id_eq, List.forall₂_cons] at ih ⊢
    rw [ih]
  | [], _ :: _, h => by simp at h
  | _ :: _, [], h => by simp at h

theorem vle_matVec (W : Mat) (y x : Vec) :
    vle (matVec W y) (matVec W x) = true ↔ ∀ w ∈ W, dot w y ≤ dot w x := by
  induction W with
  | nil => simp [vle, matVec]
  | cons w W ih =>
    simp only [vle, matVec, List.map_cons, List.zipWith_cons_cons, List.all_cons, Bool.and_eq_true,
      decide_eq_true_eq, id_eq, List.mem_cons, forall_eq_or_imp] at ih ⊢
    rw [ih]

theorem matVec_comb (W : Mat) (t : Rat) (a b : Vec) (h : a.length = b.length) :
    matVec W (comb t a b) = comb t (matVec W a) (matVec W b) := by
  induction W with
  | nil => simp [matVec]
  | cons w W ih =>
    simp only [matVec, List.map_cons, comb_cons] at ih ⊢
    rw [ih, ← gdot_eq_dot, ← gdot_eq_dot, ← gdot_eq_dot, gdot_comb t w a b h]

/-! ## the intersection routine in exact arithmetic -/

/-- the routine in exact arithmetic, in terms of the three coordinates it reads -/
theorem lineSegAt_exact {P1 P2 p : Vec} {d : Nat} {a b c : Rat} (ha : P1[d]? = some a)
    (hb : P2[d]? = some b) (hc : p[d]? = some c) :
    lineSegAt exact false P1 P2 p d =
      if b - a = 0 then none else if (c - a) / (b - a) < 0 ∨ 1 < (c - a) / (b - a) then none
      else some (List.zipWith (fun x y => x + (c - a) / (b - a) * (y - x)) P1 P2) := by
  unfold lineSegAt
  rw [ha, hb, hc]
  rfl

theorem lineSegAt_of_none {P1 P2 p : Vec} {d : Nat}
    (h : P1[d]? = none ∨ P2[d]? = none ∨ p[d]? = none) : lineSegAt exact false P1 P2 p d = none := by
  unfold lineSegAt
  split
  · next ha hb hc => simp [ha, hb, hc] at h
  · rfl

theorem lineSegAt_length {v1 v2 p q : Vec} {d : Nat} (h : lineSegAt exact false v1 v2 p d = some q) :
    q.length = min v1.length v2.length := by
  unfold lineSegAt at h
  split at h
  · simp only [exact] at h
    split at h
    · cases h
    · split at h
      · cases h
      · rw [← Option.some.inj h]
        exact List.length_zipWith
  · cases h

/-! ## what a `true` answer of the polytope routine provides -/

theorem edgeHit_sound {p v1 v2 : Vec} {d : Nat} (h : edgeHit exact false p d v1 v2 = true) :
    ∃ t : Rat, 0 ≤ t ∧ t ≤ 1 ∧ vle (comb t v1 v2) p = true := by
  unfold edgeHit at h
  split at h
  · next a c b ha hc hb =>
    rw [lineSegAt_exact ha hb hc] at h
    split_ifs at h with hden ht
    · simp at h
    · simp at h
    · exact ⟨(c - a) / (b - a), not_lt.mp fun hn => ht (.inl hn), not_lt.mp fun hn => ht (.inr hn),
        ((Bool.and_eq_true _ _).mp h).2⟩
  · exact absurd h (by simp)

/-- `isPtIn = true` ⇒ some vertex, or some point of a segment between two members of the
polytope list, is componentwise `≤ p` -/
theorem isPtIn_sound {p : Vec} {poly : List Vec} (h : isPtIn exact false p poly = true) :
    ∃ v1 ∈ poly, ∃ v2 ∈ poly, ∃ t : Rat, 0 ≤ t ∧ t ≤ 1 ∧ vle (comb t v1 v2) p = true := by
  unfold isPtIn at h
  rw [Bool.or_eq_true] at h
  rcases h with h | h
  · rw [List.any_eq_true] at h
    obtain ⟨v, hv, hle⟩ := h
    exact ⟨v, hv, v, hv, 0, le_refl _, zero_le_one, by rw [comb_self]; exact hle⟩
  · simp only [List.any_eq_true, Bool.and_eq_true] at h
    obtain ⟨d, _, v1, hv1, v2, hv2, _, hhit⟩ := h
    obtain ⟨t, h0, h1, hle⟩ := edgeHit_sound hhit
    have m1 : v1.1 ∈ poly := (List.mem_zipIdx hv1).2.2 ▸ List.getElem_mem _
    have m2 : v2.1 ∈ poly := (List.mem_zipIdx hv2).2.2 ▸ List.getElem_mem _
    exact ⟨v1.1, m1, v2.1, m2, t, h0, h1, hle⟩

/-- **Soundness at the vertices of `R₁`.**  If the model answers `true`, every vertex of `R₁`
dominates a point of `box R₂` — the reported point is a vertex of `R₂` or a point of a segment
between two vertices, hence in the box. -/
theorem checkDominates_vertex (W : Mat) (l1 u1 l2 u2 : Vec)
    (h2 : List.Forall₂ (· ≤ ·) l2 u2)
    (h : checkDominates W l1 u1 l2 u2 = true) :
    ∀ x ∈ vertices l1 u1, ∃ y, GInBox l2 u2 y ∧ ∀ w ∈ W, dot w y ≤ dot w x := by
  intro x hx
  simp only [checkDominates, checkDominatesR, List.all_map, List.all_eq_true, Function.comp] at h
  obtain ⟨v1, hv1, v2, hv2, t, h0, h1, hle⟩ := isPtIn_sound (h x hx)
  simp only [List.mem_map] at hv1 hv2
  obtain ⟨a, ha, rfl⟩ := hv1
  obtain ⟨b, hb, rfl⟩ := hv2
  have hlen2 : l2.length = u2.length := h2.length_eq
  have hab : a.length = b.length :=
    (vertex_length l2 u2 hlen2 a ha).trans (vertex_length l2 u2 hlen2 b hb).symm
  rw [← matVec_comb W t a b hab, vle_matVec] at hle
  exact ⟨comb t a b, GInBox.comb h0 h1 (vertices_in_box h2 a ha) (vertices_in_box h2 b hb), hle⟩

/-! ## the repaired routine (`snap = true`) coincides with the code as it stands in exact arithmetic -/

theorem set_of_getElem? {α : Type} {l : List α} {i : Nat} {a : α} (h : l[i]? = some a) :
    l.set i a = l := by
  obtain ⟨hi, rfl⟩ := List.getElem?_eq_some_iff.mp h
  exact List.set_getElem_self hi

/-- in exact arithmetic the intersection's own coordinate already equals the target, so
`point_on_line[target_dim] = target_pt[target_dim]` changes nothing -/
theorem lineSegAt_snap (P1 P2 p : Vec) (d : Nat) :
    lineSegAt exact true P1 P2 p d = lineSegAt exact false P1 P2 p d := by
  unfold lineSegAt
  split
  · rename_i a b c ha hb hc
    simp only [exact]
    split
    · rfl
    · rename_i hden
      split
      · rfl
      · simp only [↓reduceIte, Bool.false_eq_true, Option.some.injEq]
        apply set_of_getElem?
        rw [List.getElem?_zipWith_eq_some]
        refine ⟨a, b, ha, hb, ?_⟩
        rw [div_mul_cancel₀ _ hden, add_sub_cancel]
  · rfl

theorem edgeHit_snap (p : Vec) (d : Nat) (v1 v2 : Vec) :
    edgeHit exact true p d v1 v2 = edgeHit exact false p d v1 v2 := by
  unfold edgeHit
  rw [lineSegAt_snap]

theorem isPtIn_snap (p : Vec) (poly : List Vec) :
    isPtIn exact true p poly = isPtIn exact false p poly := by
  unfold isPtIn
  simp only [edgeHit_snap]

/-! ## casting rational data into a larger ordered field -/
section Cast
variable {L : Type} [Field L] [LinearOrder L] [IsStrictOrderedRing L]

def castV (v : Vec) : List L := v.map (Rat.cast : Rat → L)

theorem gdot_castV (a b : Vec) : gdot (castV a : List L) (castV b) = ((gdot a b : Rat) : L) := by
  rw [gdot_eq_gdot, gdot_eq_gdot]
  exact ConeOrd.gdot_cast a b

theorem GInBox_castV : ∀ {l u x : Vec}, GInBox l u x → GInBox (castV l : List L) (castV u) (castV x)
  | [], [], [], _ => trivial
  | l :: ls, u :: us, x :: xs, h => by
    refine ⟨?_, ?_, GInBox_castV h.2.2⟩
    · exact Rat.cast_le.mpr h.1
    · exact Rat.cast_le.mpr h.2.1
  | [], [], _ :: _, h => by simp [GInBox] at h
  | [], _ :: _, _, h => by simp [GInBox] at h
  | _ :: _, [], _, h => by simp [GInBox] at h
  | _ :: _, _ :: _, [], h => by simp [GInBox] at h

@[simp] theorem castV_length (v : Vec) : (castV v : List L).length = v.length := by simp [castV]

/-- **Vertices suffice.**  A predicate on points with coordinates in `L ⊇ ℚ` that is preserved by
segments between points of equal length and holds at every vertex of a box with rational bounds
holds on the whole box. -/
theorem box_induction : ∀ (l u : Vec) (P : List L → Prop),
    (∀ x y t, x.length = y.length → 0 ≤ t → t ≤ 1 → P x → P y → P (comb t x y)) →
    (∀ v ∈ vertices l u, P (castV v)) → ∀ x, GInBox (castV l) (castV u) x → P x
  | [], [], P, _, hv, x, hx => by
    cases x with
    | nil => exact hv [] (List.mem_singleton_self _)
    | cons _ _ => simp [GInBox, castV] at hx
  | l :: ls, u :: us, P, hconv, hv, x, hx => by
    cases x with
    | nil => simp [GInBox, castV] at hx
    | cons a xs =>
      obtain ⟨hla, hau, hxs⟩ := hx
      -- segments inside the slice with first coordinate `c`
      have conv' : ∀ c : L, ∀ x y t, x.length = y.length → 0 ≤ t → t ≤ 1 →
          P (c :: x) → P (c :: y) → P (c :: comb t x y) := by
        intro c x y t hlen h0 h1 hx hy
        have := hconv (c :: x) (c :: y) t (congrArg Nat.succ hlen) h0 h1 hx hy
        rwa [comb_cons, sub_self, mul_zero, add_zero] at this
      have hl : P ((l : L) :: xs) :=
        box_induction ls us (fun z => P ((l : L) :: z)) (conv' l)
          (fun v hv' => hv (l :: v) (List.mem_append_left _ (List.mem_map_of_mem hv'))) xs hxs
      have hu : P ((u : L) :: xs) :=
        box_induction ls us (fun z => P ((u : L) :: z)) (conv' u)
          (fun v hv' => hv (u :: v) (List.mem_append_right _ (List.mem_map_of_mem hv'))) xs hxs
      -- `a :: xs` lies on the segment between them
      obtain ⟨t, h0, h1, e⟩ := exists_param hla hau
      have h := hconv ((l : L) :: xs) ((u : L) :: xs) t rfl h0 h1 hl hu
      rwa [comb_cons, comb_self, e] at h
  | [], _ :: _, _, _, _, x, hx => by cases x <;> simp [GInBox, castV] at hx
  | _ :: _, [], _, _, _, x, hx => by cases x <;> simp [GInBox, castV] at hx

/-- **From the vertices of `R₁` to the whole box over `L ⊇ ℚ`.**  If every vertex of `R₁` dominates,
with allowances, some rational point of `R₂`, then every point of `R₁` with coordinates in `L`
dominates some point of `R₂` with coordinates in `L`. -/
theorem good_of_rat_vertices (Ws : List (Vec × Rat)) (l1 u1 l2 u2 : Vec)
    (hl1 : l1.length = l2.length) (hu1 : u1.length = l2.length)
    (hv : ∀ x ∈ vertices l1 u1, ∃ y : Vec, GInBox l2 u2 y ∧ ∀ p ∈ Ws, p.2 ≤ dot p.1 x - dot p.1 y) :
    ∀ x : List L, GInBox (castV l1) (castV u1) x →
      Good (Ws.map fun p => ((castV p.1 : List L), (p.2 : L))) (castV l2) (castV u2) x := by
  refine box_induction l1 u1 _ (fun _ _ _ _ h0 h1 hx hy => Good.comb h0 h1 hx hy) fun v0 hv0 => ?_
  obtain ⟨y, hy, hd⟩ := hv v0 hv0
  refine ⟨by rw [castV_length, castV_length, vertex_length l1 u1 (hl1.trans hu1.symm) v0 hv0, hl1],
    castV y, GInBox_castV hy, fun p hp => ?_⟩
  obtain ⟨q, hq, rfl⟩ := List.mem_map.mp hp
  rw [gdot_castV, gdot_castV, gdot_eq_dot, gdot_eq_dot, ← Rat.cast_sub]
  exact Rat.cast_le.mpr (hd q hq)

/-- **Soundness over any ordered field `L ⊇ ℚ`, facet by facet**: a `true` answer gives every point
`x` of `R₁` with coordinates in `L` a point `y` of `R₂`, of the same length, with `w·y ≤ w·x` for
every row. -/
theorem checkDominates_sound_field (W : Mat) (l1 u1 l2 u2 : Vec)
    (hl1 : l1.length = l2.length) (hu1 : u1.length = l2.length)
    (h2 : List.Forall₂ (· ≤ ·) l2 u2) (h : checkDominates W l1 u1 l2 u2 = true)
    (x : List L) (hx : GInBox (castV l1) (castV u1) x) :
    ∃ y : List L, GInBox (castV l2) (castV u2) y ∧ x.length = y.length ∧
      ∀ w ∈ W, gdot (castV w) y ≤ gdot (castV w) x := by
  obtain ⟨hlen, y, hy, hd⟩ := good_of_rat_vertices (L := L) (W.map fun w => (w, 0)) l1 u1 l2 u2 hl1 hu1
    (fun v hv => by
      obtain ⟨y, hy, hd⟩ := checkDominates_vertex W l1 u1 l2 u2 h2 h v hv
      exact ⟨y, hy, List.forall_mem_map.2 fun w hw => sub_nonneg.mpr (hd w hw)⟩) x hx
  refine ⟨y, hy, hlen.trans (GInBox.length_eq hy).1.symm, fun w hw => ?_⟩
  simpa using hd _ (List.mem_map.mpr ⟨(w, 0), List.mem_map.mpr ⟨w, hw, rfl⟩, rfl⟩)

end Cast

end VOPy.Pess
