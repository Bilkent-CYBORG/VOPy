import VOPyVerif.Proofs.ConeConst
import VOPyVerif.Proofs.ListFin
import VOPyVerif.Model.ConeConst
import Mathlib.Analysis.InnerProductSpace.PiL2
/-!
# From the `Rat` certificate checkers to `ℝ^m` (C17)

`toE m v` reads a rational list as a point of `EuclideanSpace ℝ (Fin m)`.  For lists of the right
length, `dot` is the inner product, `normSq` the squared norm, `tmulVec` the combination `comb`, and
the Boolean shape/sign tests of `Model/ConeConst.lean` are the hypotheses of the abstract duality
theorems of `Proofs/ConeConst.lean`.  The soundness theorems at the end say: whenever a checker
accepts, the certified bound holds for the *real* optimum — over all real points of the cone, not
only rational ones.
-/
namespace VOPy.ConeConst
open scoped RealInnerProductSpace

/-- a rational list as a point of `ℝ^m` (missing coordinates read as 0; the checkers insist on
length `m`) -/
noncomputable def toE (m : ℕ) (v : Vec) : EuclideanSpace ℝ (Fin m) :=
  WithLp.toLp 2 (fun i : Fin m => ((v.getD i 0 : ℚ) : ℝ))

@[simp] theorem toE_apply (m : ℕ) (v : Vec) (i : Fin m) : toE m v i = ((v.getD i 0 : ℚ) : ℝ) := rfl

/-- the cone of a rational matrix, as a list of facet normals in `ℝ^m` -/
noncomputable def facets (m : ℕ) (W : Mat) : List (EuclideanSpace ℝ (Fin m)) := W.map (toE m)

/-- rational multipliers as reals -/
def castL (lam : Vec) : List ℝ := lam.map (fun q => ((q : ℚ) : ℝ))

/-! ### the list operations in `ℝ^m` -/

theorem toE_vadd (m : ℕ) (a b : Vec) (h : a.length = b.length) :
    toE m (vadd a b) = toE m a + toE m b := by
  ext i
  rw [PiLp.add_apply, toE_apply, toE_apply, toE_apply, vadd,
    getD_zipWith_zero _ (add_zero 0) a b i h, Rat.cast_add]

theorem toE_vsub (m : ℕ) (a b : Vec) (h : a.length = b.length) :
    toE m (vsub a b) = toE m a - toE m b := by
  ext i
  rw [PiLp.sub_apply, toE_apply, toE_apply, toE_apply, vsub,
    getD_zipWith_zero _ (sub_zero 0) a b i h, Rat.cast_sub]

theorem toE_smul (m : ℕ) (c : Rat) (a : Vec) : toE m (smul c a) = ((c : ℚ) : ℝ) • toE m a := by
  ext i
  rw [PiLp.smul_apply, toE_apply, toE_apply, smul, getD_map_zero (c * ·) (mul_zero c), Rat.cast_mul,
    smul_eq_mul]

theorem toE_zeros (m : ℕ) : toE m (zeros m) = 0 := by
  ext i
  simp [zeros]

/-! ### inner product and norm -/

theorem sum_getD_mul (m : ℕ) (a b : Vec) (ha : a.length = m) (hb : b.length = m) :
    ∑ i : Fin m, ((a.getD i 0 : ℚ) : ℝ) * ((b.getD i 0 : ℚ) : ℝ) = ((dot a b : ℚ) : ℝ) := by
  rw [dot_eq_sum a b ha hb, Rat.cast_sum]
  simp only [Rat.cast_mul]

theorem inner_toE (m : ℕ) (a b : Vec) (ha : a.length = m) (hb : b.length = m) :
    ⟪toE m a, toE m b⟫ = ((dot a b : ℚ) : ℝ) := by
  rw [← sum_getD_mul m a b ha hb]
  simp only [toE, EuclideanSpace.inner_toLp_toLp, dotProduct, star_trivial]
  exact Finset.sum_congr rfl (fun i _ => mul_comm _ _)

theorem norm_sq_toE (m : ℕ) (a : Vec) (ha : a.length = m) :
    ‖toE m a‖ ^ 2 = ((normSq a : ℚ) : ℝ) := by
  rw [← real_inner_self_eq_norm_sq, inner_toE m a a ha ha, normSq]

/-- `‖v‖ ≤ hi` from the squared test -/
theorem norm_le_of_sq (m : ℕ) (a : Vec) (ha : a.length = m) (hi : Rat) (h0 : 0 ≤ hi)
    (h : normSq a ≤ hi * hi) : ‖toE m a‖ ≤ ((hi : ℚ) : ℝ) := by
  refine (sq_le_sq₀ (norm_nonneg _) (Rat.cast_nonneg.mpr h0)).mp ?_
  rw [norm_sq_toE m a ha, sq]
  exact_mod_cast h

theorem toE_ne_zero (m : ℕ) (a : Vec) (ha : a.length = m) (h : 0 < normSq a) : toE m a ≠ 0 := by
  intro h0
  have := norm_sq_toE m a ha
  rw [h0, norm_zero, zero_pow two_ne_zero] at this
  exact h.ne' (Rat.cast_eq_zero.mp this.symm)

/-! ### shapes, signs, combinations -/

theorem rowsOk_iff (m : ℕ) (W : Mat) : rowsOk m W = true ↔ ∀ w ∈ W, w.length = m := by
  simp [rowsOk, List.all_eq_true]

theorem nonnegL_castL (lam : Vec) (h : allNonneg lam = true) : NonnegL (castL lam) := by
  rw [allNonneg_iff] at h
  simp only [NonnegL, castL, List.forall_mem_map]
  exact fun q hq => Rat.cast_nonneg.mpr (h q hq)

theorem sum_castL : ∀ lam : Vec, (castL lam).sum = ((vsum lam : ℚ) : ℝ)
  | [] => by simp [castL, vsum]
  | a :: t => by
    rw [castL, List.map_cons, List.sum_cons, vsum, Rat.cast_add, ← sum_castL t, castL]

theorem length_tmulVec (m : ℕ) : ∀ (W : Mat) (lam : Vec), (∀ w ∈ W, w.length = m) →
    (tmulVec m W lam).length = m
  | [], lam, _ => by cases lam <;> simp [tmulVec, zeros]
  | w :: W, [], _ => by simp [tmulVec, zeros]
  | w :: W, l :: ls, h => by
    obtain ⟨hw, hW⟩ := List.forall_mem_cons.mp h
    rw [tmulVec, vadd_length, smul_length, hw, length_tmulVec m W ls hW, min_self]

theorem toE_tmulVec (m : ℕ) : ∀ (W : Mat) (lam : Vec), (∀ w ∈ W, w.length = m) →
    toE m (tmulVec m W lam) = comb (castL lam) (facets m W)
  | [], lam, _ => by cases lam <;> simp [tmulVec, toE_zeros, facets, castL]
  | w :: W, [], _ => by simp [tmulVec, toE_zeros, facets, castL]
  | w :: W, l :: ls, h => by
    obtain ⟨hw, hW⟩ := List.forall_mem_cons.mp h
    rw [tmulVec, toE_vadd m _ _ (by rw [smul_length, hw, length_tmulVec m W ls hW]), toE_smul,
      toE_tmulVec m W ls hW]
    rfl

theorem norm_sq_comb (m : ℕ) (W : Mat) (lam : Vec) (hW : ∀ w ∈ W, w.length = m) :
    ‖comb (castL lam) (facets m W)‖ ^ 2 = ((normSq (tmulVec m W lam) : ℚ) : ℝ) := by
  rw [← toE_tmulVec m W lam hW, norm_sq_toE m _ (length_tmulVec m W lam hW)]

theorem norm_comb_pos (m : ℕ) (W : Mat) (lam : Vec) (hW : ∀ w ∈ W, w.length = m)
    (hq : 0 < normSq (tmulVec m W lam)) : 0 < ‖comb (castL lam) (facets m W)‖ := by
  rw [← toE_tmulVec m W lam hW]
  exact norm_pos_iff.mpr (toE_ne_zero m _ (length_tmulVec m W lam hW) hq)

theorem inCone_facets (m : ℕ) (W : Mat) (x : Vec) (hW : ∀ w ∈ W, w.length = m) (hx : x.length = m) :
    inCone W x = true ↔ InCone (facets m W) (toE m x) := by
  rw [VOPy.inCone_iff]
  simp only [InCone, facets, List.forall_mem_map]
  refine forall₂_congr (fun w hw => ?_)
  rw [inner_toE m w x (hW w hw) hx, Rat.cast_nonneg]

theorem allGeOne_facets (m : ℕ) (W : Mat) (z : Vec) (hW : ∀ w ∈ W, w.length = m)
    (hz : z.length = m) : allGeOne (matVec W z) = true ↔ Feas1 (facets m W) (toE m z) := by
  simp only [allGeOne, matVec, List.all_map, List.all_eq_true, Function.comp_apply,
    decide_eq_true_eq, Feas1, facets, List.forall_mem_map]
  refine forall₂_congr (fun w hw => ?_)
  rw [inner_toE m w z (hW w hw) hz]
  exact_mod_cast Iff.rfl

/-- an accepted primal point of the `d₁` problem is feasible for the real problem -/
theorem d1Feasible_sound {m : ℕ} {W : Mat} {z : Vec} (h : d1Feasible m W z = true) :
    (∀ w ∈ W, w.length = m) ∧ z.length = m ∧ Feas1 (facets m W) (toE m z) := by
  simp only [d1Feasible, Bool.and_eq_true, beq_iff_eq, rowsOk_iff] at h
  exact ⟨h.1.1, h.1.2, (allGeOne_facets m W z h.1.1 h.1.2).mp h.2⟩

/-- accepted multipliers are non-negative, at most one per facet -/
theorem dualFeasible_sound {m : ℕ} {W : Mat} {lam : Vec} (h : dualFeasible m W lam = true) :
    (∀ w ∈ W, w.length = m) ∧ NonnegL (castL lam) ∧
      (castL lam).length ≤ (facets m W).length := by
  simp only [dualFeasible, Bool.and_eq_true, beq_iff_eq, rowsOk_iff] at h
  refine ⟨h.1.1, nonnegL_castL lam h.2, ?_⟩
  rw [castL, facets, List.length_map, List.length_map, h.1.2]

/-! ### soundness of the checkers -/

/-- accepted primal certificate ⇒ `lo ≤ α` -/
theorem alphaPrimalOk_sound (m : ℕ) (W : Mat) (c x : Vec) (lo : Rat)
    (h : alphaPrimalOk m W c x lo = true) :
    ((lo : ℚ) : ℝ) ≤ alpha (facets m W) (toE m c) := by
  simp only [alphaPrimalOk, Bool.and_eq_true, beq_iff_eq, decide_eq_true_eq, rowsOk_iff] at h
  obtain ⟨⟨⟨⟨⟨hW, hc⟩, hx⟩, hcone⟩, hn⟩, hlo⟩ := h
  have h2 : ‖toE m x‖ ≤ ((1 : ℚ) : ℝ) := norm_le_of_sq m x hx 1 zero_le_one (by rwa [mul_one])
  have h3 := le_alpha (facets m W) (toE m c) (toE m x) ((inCone_facets m W x hW hx).mp hcone)
    (by rwa [Rat.cast_one] at h2)
  rw [inner_toE m c x hc hx] at h3
  exact (Rat.cast_le.mpr hlo).trans h3

/-- accepted dual certificate ⇒ `α ≤ hi` -/
theorem alphaDualOk_sound (m : ℕ) (W : Mat) (c lam : Vec) (hi : Rat)
    (h : alphaDualOk m W c lam hi = true) :
    alpha (facets m W) (toE m c) ≤ ((hi : ℚ) : ℝ) := by
  simp only [alphaDualOk, Bool.and_eq_true, beq_iff_eq, decide_eq_true_eq, rowsOk_iff] at h
  obtain ⟨⟨⟨⟨⟨hW, hc⟩, _⟩, hnn⟩, h0⟩, hsq⟩ := h
  have hl := length_tmulVec m W lam hW
  have h1 := alpha_le (facets m W) (toE m c) (castL lam) (nonnegL_castL lam hnn)
  rw [← toE_tmulVec m W lam hW, ← toE_vadd m _ _ (hc.trans hl.symm)] at h1
  exact h1.trans (norm_le_of_sq m _ (by rw [vadd_length, hc, hl, min_self]) hi h0 hsq)

/-- accepted primal certificate for `d₁` ⇒ the point is feasible and `d₁ ≤ hi` -/
theorem d1PrimalOk_sound (m : ℕ) (W : Mat) (z : Vec) (hi : Rat)
    (h : d1PrimalOk m W z hi = true) :
    Feas1 (facets m W) (toE m z) ∧ d1 (facets m W) ≤ ((hi : ℚ) : ℝ) := by
  simp only [d1PrimalOk, Bool.and_eq_true, decide_eq_true_eq] at h
  obtain ⟨⟨hf, h0⟩, hsq⟩ := h
  obtain ⟨_, hz, h1⟩ := d1Feasible_sound hf
  exact ⟨h1, (d1_le _ _ h1).trans (norm_le_of_sq m z hz hi h0 hsq)⟩

/-- accepted dual certificate for `d₁` ⇒ `lo ≤ ‖z‖` for every real feasible point: the test
`lo²·‖Wᵀλ‖² ≤ (Σλ)²` says `lo ≤ Σλ/‖Wᵀλ‖` -/
theorem d1DualOk_sound (m : ℕ) (W : Mat) (lam : Vec) (lo : Rat)
    (h : d1DualOk m W lam lo = true) (z : EuclideanSpace ℝ (Fin m))
    (hz : Feas1 (facets m W) z) : ((lo : ℚ) : ℝ) ≤ ‖z‖ := by
  simp only [d1DualOk, Bool.and_eq_true, Bool.or_eq_true, decide_eq_true_eq] at h
  obtain ⟨⟨hdual, h0⟩, hcase⟩ := h
  obtain ⟨hW, hnn, hlen⟩ := dualFeasible_sound hdual
  rcases hcase with rfl | ⟨hq, hsq⟩
  · rw [Rat.cast_zero]; exact norm_nonneg z
  · have hpos := norm_comb_pos m W lam hW hq
    have h1 : (0 : ℝ) ≤ ((lo : ℚ) : ℝ) := Rat.cast_nonneg.mpr h0
    have h2 : 0 ≤ (castL lam).sum := List.sum_nonneg hnn
    have hlo : ((lo : ℚ) : ℝ) * ‖comb (castL lam) (facets m W)‖ ≤ (castL lam).sum := by
      refine (sq_le_sq₀ (mul_nonneg h1 hpos.le) h2).mp ?_
      rw [mul_pow, norm_sq_comb m W lam hW, sum_castL, sq, sq]
      exact_mod_cast hsq
    exact ((le_div_iff₀ hpos).mpr hlo).trans
      (dual_le_norm (facets m W) z (castL lam) hz hnn hlen hpos)

/-! ### the driver-level functions -/

theorem alphaLo_sound (W : Mat) (n : ℕ) (x : Vec) (lo : Rat) (h : alphaLo W n x = some lo) :
    ∃ wn, W[n]? = some wn ∧
      ((lo : ℚ) : ℝ) ≤ alpha (facets (dimOf W) W) (toE (dimOf W) wn) := by
  unfold alphaLo at h
  cases hw : W[n]? with
  | none => rw [hw] at h; exact absurd h (by simp)
  | some wn =>
    simp only [hw, Option.ite_none_right_eq_some, Option.some.injEq] at h
    exact ⟨wn, rfl, h.2 ▸ alphaPrimalOk_sound _ W wn x _ h.1⟩

theorem alphaHi_sound (W : Mat) (n : ℕ) (lam : Vec) (hi : Rat) (h : alphaHi W n lam = some hi) :
    ∃ wn, W[n]? = some wn ∧
      alpha (facets (dimOf W) W) (toE (dimOf W) wn) ≤ ((hi : ℚ) : ℝ) := by
  unfold alphaHi at h
  cases hw : W[n]? with
  | none => rw [hw] at h; exact absurd h (by simp)
  | some wn =>
    simp only [hw, Option.ite_none_right_eq_some, Option.some.injEq] at h
    exact ⟨wn, rfl, h.2 ▸ alphaDualOk_sound _ W wn lam _ h.1⟩

theorem d1Hi_sound (W : Mat) (z : Vec) (hi : Rat) (h : d1Hi W z = some hi) :
    Feas1 (facets (dimOf W) W) (toE (dimOf W) z) ∧
      d1 (facets (dimOf W) W) ≤ ((hi : ℚ) : ℝ) := by
  simp only [d1Hi, Option.ite_none_right_eq_some, Option.some.injEq] at h
  exact h.2 ▸ d1PrimalOk_sound _ W z _ h.1

theorem d1Lo_sound (W : Mat) (lam : Vec) (lo : Rat) (h : d1Lo W lam = some lo)
    (z : EuclideanSpace ℝ (Fin (dimOf W))) (hz : Feas1 (facets (dimOf W) W) z) :
    ((lo : ℚ) : ℝ) ≤ ‖z‖ := by
  simp only [d1Lo, Option.ite_none_right_eq_some, Option.some.injEq] at h
  exact h.2 ▸ d1DualOk_sound _ W lam _ h.1 z hz

/-- what an accepted `u*` certificate `c = (g, e, lo)` has verified (the square-root proposals enter
only through the tests on `c`) -/
theorem ustarCert_eq_some {W : Mat} {u : Vec} {d : Rat} {z lam : Vec} {c : Rat × Rat × Rat}
    (h : ustarCert W u d z lam = some c) :
    d1Feasible (dimOf W) W z = true ∧ dualFeasible (dimOf W) W lam = true ∧
      0 < normSq (tmulVec (dimOf W) W lam) ∧ 0 < c.2.2 ∧ c.2.2 * c.2.2 ≤ d1DualSq W lam ∧ 0 < d ∧
      u.length = dimOf W ∧ 0 < normSq u ∧ 0 ≤ c.1 ∧ normSq z - d1DualSq W lam ≤ c.1 * c.1 ∧
      0 ≤ c.2.1 ∧ normSq (vsub (smul d u) z) ≤ c.2.1 * c.2.1 := by
  simp only [ustarCert, Option.ite_none_right_eq_some, Option.some.injEq, Bool.and_eq_true,
    beq_iff_eq, decide_eq_true_eq, and_assoc] at h
  obtain ⟨h1, h2, h3, h4, h5, h6, h7, h8, h9, h10, h11, h12, rfl⟩ := h
  exact ⟨h1, h2, h3, h4, h5, h6, h7, h8, h9, h10, h11, h12⟩

/-- the squared dual value over `ℝ` -/
theorem d1DualSq_cast (W : Mat) (lam : Vec) (hW : ∀ w ∈ W, w.length = dimOf W)
    (hq : 0 < normSq (tmulVec (dimOf W) W lam)) :
    ((d1DualSq W lam : ℚ) : ℝ) =
      (castL lam).sum ^ 2 / ‖comb (castL lam) (facets (dimOf W) W)‖ ^ 2 := by
  rw [d1DualSq, if_neg (not_le.mpr hq), sum_castL, norm_sq_comb _ W lam hW, sq, Rat.cast_div,
    Rat.cast_mul]

/-- **Soundness of the `u*` certificate.**  If `ustarCert W u d z λ = some c` then for the (unique)
minimum-norm feasible point `z*` of the real problem: `lo ≤ ‖z*‖`, the proposal `z` is within `g` of
`z*`, and the unit direction of the implementation's `u` is within `dirBound c = 2(e+g)/lo` of
`u* = z*/‖z*‖`. -/
theorem ustarCert_sound (W : Mat) (u : Vec) (d : Rat) (z lam : Vec) (c : Rat × Rat × Rat)
    (h : ustarCert W u d z lam = some c) (zs : EuclideanSpace ℝ (Fin (dimOf W)))
    (hs : IsMinNorm (facets (dimOf W) W) zs) :
    ((c.2.2 : ℚ) : ℝ) ≤ ‖zs‖ ∧ ‖toE (dimOf W) z - zs‖ ≤ ((c.1 : ℚ) : ℝ) ∧
      ‖(1 / ‖toE (dimOf W) u‖) • toE (dimOf W) u - (1 / ‖zs‖) • zs‖ ≤ ((dirBound c : ℚ) : ℝ) := by
  obtain ⟨hzf, hdual, hq, hlo0, hlo, hd, hul, hun, hg0, hg, he0, he⟩ := ustarCert_eq_some h
  obtain ⟨hW, hzl, hfeas⟩ := d1Feasible_sound hzf
  obtain ⟨_, hnn, hlen⟩ := dualFeasible_sound hdual
  have hdsq := d1DualSq_cast W lam hW hq
  have hdR : (0 : ℝ) < ((d : ℚ) : ℝ) := Rat.cast_pos.mpr hd
  have hu0 := toE_ne_zero (dimOf W) u hul hun
  have hdu : (smul d u).length = z.length := by rw [smul_length, hul, hzl]
  have heR : ‖toE (dimOf W) (smul d u) - toE (dimOf W) z‖ ≤ ((c.2.1 : ℚ) : ℝ) := by
    rw [← toE_vsub _ _ _ hdu]
    exact norm_le_of_sq _ _ (by rw [vsub_length, hdu, min_self, hzl]) _ he0 he
  have hgR : ‖toE (dimOf W) z‖ ^ 2 -
      (castL lam).sum ^ 2 / ‖comb (castL lam) (facets (dimOf W) W)‖ ^ 2 ≤ ((c.1 : ℚ) : ℝ) ^ 2 := by
    rw [← hdsq, norm_sq_toE _ z hzl, sq, ← Rat.cast_sub, ← Rat.cast_mul]
    exact Rat.cast_le.mpr hg
  have hloR : ((c.2.2 : ℚ) : ℝ) ^ 2 ≤
      (castL lam).sum ^ 2 / ‖comb (castL lam) (facets (dimOf W) W)‖ ^ 2 := by
    rw [← hdsq, sq, ← Rat.cast_mul]
    exact Rat.cast_le.mpr hlo
  have hzc : toE (dimOf W) (smul d u) ≠ 0 := by
    rw [toE_smul]; exact smul_ne_zero hdR.ne' hu0
  have hg0R : (0 : ℝ) ≤ ((c.1 : ℚ) : ℝ) := Rat.cast_nonneg.mpr hg0
  have hlo0R : (0 : ℝ) < ((c.2.2 : ℚ) : ℝ) := Rat.cast_pos.mpr hlo0
  obtain ⟨k1, k2, k3⟩ := ustar_certificate (facets (dimOf W) W) (toE (dimOf W) z) zs
    (toE (dimOf W) (smul d u)) (castL lam) ((c.2.1 : ℚ) : ℝ) ((c.1 : ℚ) : ℝ) ((c.2.2 : ℚ) : ℝ)
    hfeas hnn hlen (norm_comb_pos _ W lam hW hq) hs hzc heR hg0R hgR hlo0R hloR
  refine ⟨k1, k2, ?_⟩
  rw [toE_smul, unit_dir_smul _ _ hdR] at k3
  rw [dirBound, Rat.cast_div, Rat.cast_mul, Rat.cast_add, Rat.cast_ofNat]
  exact k3

/-- an accepted `u*` certificate contains a feasible point of the real problem -/
theorem ustarCert_feasible (W : Mat) (u : Vec) (d : Rat) (z lam : Vec) (c : Rat × Rat × Rat)
    (h : ustarCert W u d z lam = some c) : Feas1 (facets (dimOf W) W) (toE (dimOf W) z) :=
  (d1Feasible_sound (ustarCert_eq_some h).1).2.2

/-- `|n − 1| ≤ t` from the squared tests `(1 − t)² ≤ n² ≤ (1 + t)²` -/
theorem abs_sub_one_le_of_sq {n t : ℝ} (hn : 0 ≤ n) (ht0 : 0 ≤ t) (ht1 : t ≤ 1)
    (h1 : (1 - t) * (1 - t) ≤ n ^ 2) (h2 : n ^ 2 ≤ (1 + t) * (1 + t)) : |n - 1| ≤ t := by
  rw [← sq] at h1 h2
  have h1' : 1 - t ≤ n := (sq_le_sq₀ (sub_nonneg.mpr ht1) hn).mp h1
  have h2' : n ≤ 1 + t := (sq_le_sq₀ hn (add_nonneg zero_le_one ht0)).mp h2
  exact abs_sub_le_iff.mpr ⟨sub_le_iff_le_add'.mpr h2', sub_le_comm.mp h1'⟩

/-- the unit-norm test of relation (R): `| ‖u‖ − 1 | ≤ 10⁻⁹` -/
theorem unitNormOk_sound (m : ℕ) (u : Vec) (hu : u.length = m) (h : unitNormOk u = true) :
    |‖toE m u‖ - 1| ≤ ((tolUnit : ℚ) : ℝ) := by
  simp only [unitNormOk, Bool.and_eq_true, decide_eq_true_eq] at h
  have ht : (0 : ℚ) ≤ tolUnit ∧ tolUnit ≤ 1 := by norm_num [tolUnit]
  refine abs_sub_one_le_of_sq (norm_nonneg _) (Rat.cast_nonneg.mpr ht.1)
    (by exact_mod_cast ht.2) ?_ ?_
  · rw [norm_sq_toE m u hu]; exact_mod_cast h.1
  · rw [norm_sq_toE m u hu]; exact_mod_cast h.2

end VOPy.ConeConst
