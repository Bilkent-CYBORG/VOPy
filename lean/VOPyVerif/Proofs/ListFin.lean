import VOPyVerif.Proofs.ConeOrderRat
import Mathlib.Data.List.OfFn
import Mathlib.Data.List.GetD
import Mathlib.Algebra.BigOperators.Fin
/-!
# A list of length `m` is the table of its `getD` reading

The model's vectors are lists; Mathlib's vectors are functions on `Fin m`.  The islands that cross over
(`Rect`/`Ellipsoid`/`Integration*` through `toVec = List.ofFn`, `GPWrapBridge` through `toVecN`, `ConeConstBridge`
through `toE`, `ProblemNoise` through `toRows`) share the facts of this file: `List.ofFn` against `getD`
(`getD_ofFn`, `ofFn_getD`), against `zipWith` (`zipWith_ofFn`, `zipWith_eq_ofFn`), reading past the end with
default `0` (`getD_map_zero`, `getD_zipWith_zero`), and the truncating product as a sum over `Fin m`
(`gdot_ofFn`, `gdot_eq_sum`, and `dot_ofFn`, `dot_eq_sum` at `K = ℚ`).
-/
namespace VOPy

theorem getD_ofFn {α : Type} {n : Nat} (f : Fin n → α) (i : Fin n) (d : α) :
    (List.ofFn f).getD i d = f i := by
  rw [← List.getElem_eq_getD (h := by rw [List.length_ofFn]; exact i.2) d, List.getElem_ofFn]

theorem ofFn_getD {α : Type} {m : ℕ} (l : List α) (h : l.length = m) (d : α) :
    List.ofFn (fun i : Fin m => l.getD i d) = l := by
  subst h
  exact List.ext_getElem List.length_ofFn fun i _ _ => by
    rw [List.getElem_ofFn]; exact (List.getElem_eq_getD d).symm

theorem zipWith_ofFn {α β γ : Type*} (g : α → β → γ) {m : ℕ} (a : Fin m → α) (b : Fin m → β) :
    List.zipWith g (List.ofFn a) (List.ofFn b) = List.ofFn fun i => g (a i) (b i) :=
  List.ext_getElem (by simp only [List.length_zipWith, List.length_ofFn, Nat.min_self]) fun i _ _ => by
    simp only [List.getElem_zipWith, List.getElem_ofFn]

/-- a `zipWith` of two lists of length `n`, as a table over `Fin n` -/
theorem zipWith_eq_ofFn {α β γ : Type} (f : α → β → γ) (n : Nat) (a : List α) (b : List β)
    (ha : a.length = n) (hb : b.length = n) (da : α) (db : β) :
    List.zipWith f a b = List.ofFn fun i : Fin n => f (a.getD i da) (b.getD i db) := by
  rw [← zipWith_ofFn, ofFn_getD a ha, ofFn_getD b hb]

theorem getD_map_zero {α β : Type} [Zero α] [Zero β] (g : α → β) (hg : g 0 = 0) (a : List α) (i : ℕ) :
    (a.map g).getD i 0 = g (a.getD i 0) := by
  rw [← hg, List.getD_map]

/-- coordinates of a `zipWith` of lists of equal length, read with default `0` -/
theorem getD_zipWith_zero {α : Type} [Zero α] (f : α → α → α) (hf : f 0 0 = 0) (a b : List α) (i : ℕ)
    (h : a.length = b.length) :
    (List.zipWith f a b).getD i 0 = f (a.getD i 0) (b.getD i 0) := by
  simp only [List.getD_eq_getElem?_getD, List.getElem?_zipWith]
  rcases lt_or_ge i a.length with hi | hi
  · rw [List.getElem?_eq_getElem hi, List.getElem?_eq_getElem (h ▸ hi)]; rfl
  · rw [List.getElem?_eq_none hi, List.getElem?_eq_none (h ▸ hi)]; exact hf.symm

section
variable {K : Type} [Field K] [LinearOrder K] [IsStrictOrderedRing K]

theorem gdot_ofFn : ∀ {m : ℕ} (a b : Fin m → K), ConeOrd.gdot (List.ofFn a) (List.ofFn b) = ∑ i, a i * b i
  | 0, _, _ => by simp
  | m + 1, a, b => by
    rw [List.ofFn_succ, List.ofFn_succ, ConeOrd.gdot_cons, gdot_ofFn, Fin.sum_univ_succ]

theorem gdot_eq_sum {m : ℕ} (a b : List K) (ha : a.length = m) (hb : b.length = m) :
    ConeOrd.gdot a b = ∑ i : Fin m, a.getD i 0 * b.getD i 0 := by
  rw [← gdot_ofFn, ofFn_getD a ha, ofFn_getD b hb]

end

theorem dot_ofFn {m : ℕ} (a b : Fin m → ℚ) : dot (List.ofFn a) (List.ofFn b) = ∑ i, a i * b i :=
  (ConeOrd.dot_eq_gdot _ _).trans (gdot_ofFn a b)

theorem dot_eq_sum {m : ℕ} (a b : Vec) (ha : a.length = m) (hb : b.length = m) :
    dot a b = ∑ i : Fin m, a.getD i 0 * b.getD i 0 :=
  (ConeOrd.dot_eq_gdot _ _).trans (gdot_eq_sum a b ha hb)

end VOPy
