import VOPyVerif.Proofs.Eval
import Mathlib.Data.List.Perm.Basic
import Mathlib.Data.List.Dedup
/-!
# C19: the counting loops and the ε-F1 score
-/
set_option linter.unusedSectionVars false
namespace VOPy.Eval

/-! ### loops with a total coverage predicate -/

theorem anyM_total {β : Type} (f : β → Option Bool) (g : β → Bool) (l : List β)
    (h : ∀ x ∈ l, f x = some (g x)) : anyM f l = some (l.any g) := by
  induction l with
  | nil => rfl
  | cons x xs ih =>
    have hx := h x List.mem_cons_self
    have := ih (fun y hy => h y (List.mem_cons_of_mem _ hy))
    simp only [anyM, hx, List.any_cons]
    cases g x <;> simp [this]

theorem uncoveredSet_total {α β : Type} (cov : α → β → Option Bool) (c : α → β → Bool)
    (P : List α) (hat : List β) (h : ∀ i ∈ P, ∀ j ∈ hat, cov i j = some (c i j)) :
    uncoveredSet cov P hat = some (P.filter (fun i => !hat.any (c i))) := by
  induction P with
  | nil => rfl
  | cons i is ih =>
    have h1 := anyM_total (cov i) (c i) hat (h i List.mem_cons_self)
    have h2 := ih (fun i' hi' => h i' (List.mem_cons_of_mem _ hi'))
    simp only [uncoveredSet, h1, h2, List.filter_cons]
    cases hat.any (c i) <;> simp

/-- the model's `dedup` is Mathlib's `List.dedup` -/
theorem dedup_eq (l : List Nat) : dedup l = l.dedup := by
  induction l with
  | nil => rfl
  | cons a as ih =>
    simp only [dedup]
    split_ifs with h
    · have : a ∈ as := by simpa using h
      rw [List.dedup_cons_of_mem this, ih]
    · have : a ∉ as := by simpa using h
      rw [List.dedup_cons_of_notMem this, ih]

theorem mem_missed (x : Nat) (truth pred : List Nat) :
    x ∈ missed truth pred ↔ x ∈ truth ∧ x ∉ pred := by
  simp [missed, dedup_eq]

/-- number of missed true indices that no predicted index covers (total coverage predicate) -/
def uncT (c : Nat → Nat → Bool) (truth pred : List Nat) : Nat :=
  ((missed truth pred).filter (fun i => !pred.any (c i))).length

/-- number of predicted indices (with multiplicity) whose gap is at most ε -/
def tpT (good : Nat → Bool) (pred : List Nat) : Nat := (pred.filter good).length

theorem tpT_le (good : Nat → Bool) (pred : List Nat) : tpT good pred ≤ pred.length :=
  List.length_filter_le _ _

theorem tpT_eq_length_iff (good : Nat → Bool) (pred : List Nat) :
    tpT good pred = pred.length ↔ ∀ k ∈ pred, good k = true :=
  List.length_filter_eq_length_iff

theorem f1Counts_total (cov : Nat → Nat → Option Bool) (c : Nat → Nat → Bool) (good : Nat → Bool)
    (truth pred : List Nat) (h : ∀ i ∈ truth, ∀ j ∈ pred, cov i j = some (c i j)) :
    f1Counts cov good truth pred =
      some (tpT good pred, pred.length - tpT good pred, uncT c truth pred) := by
  have := uncoveredSet_total cov c (missed truth pred) pred
    (fun i hi j hj => h i ((mem_missed i truth pred).mp hi).1 j hj)
  simp only [f1Counts, uncoveredSize, this, Option.map_some, tpT, uncT]

/-! ### the score as a function of the counts -/

/-- the score is `a / (a + b)` with `a = 2·tp`, `b = fp + unc` -/
theorem f1Of_eq_some_iff (c : Nat × Nat × Nat) (q : Rat) :
    f1Of c = some q ↔ 2 * c.1 + c.2.1 + c.2.2 ≠ 0 ∧
      q = ((2 * c.1 : Nat) : Rat) / (((2 * c.1 : Nat) : Rat) + ((c.2.1 + c.2.2 : Nat) : Rat)) := by
  rw [f1Of, ← Nat.cast_add, ← Nat.add_assoc, Option.ite_none_left_eq_some, Option.some.injEq]
  exact and_congr Iff.rfl eq_comm

theorem f1Of_eq_none_iff (c : Nat × Nat × Nat) :
    f1Of c = none ↔ c.1 = 0 ∧ c.2.1 = 0 ∧ c.2.2 = 0 := by
  rw [f1Of, ite_eq_left_iff, imp_iff_not (Option.some_ne_none _), not_not]
  omega

/-- `x ↦ x / (x + c)` on the non-negative numbers grows with `x` and falls with `c` -/
theorem div_add_mono {a a' c c' : Rat} (ha : 0 ≤ a) (haa : a ≤ a') (hc' : 0 ≤ c') (hcc : c' ≤ c)
    (hp : 0 < a + c) (hp' : 0 < a' + c') : a / (a + c) ≤ a' / (a' + c') := by
  rw [div_le_div_iff₀ hp hp']
  linear_combination mul_le_mul haa hcc hc' (ha.trans haa)

theorem f1Of_range {c : Nat × Nat × Nat} {q : Rat} (h : f1Of c = some q) : 0 ≤ q ∧ q ≤ 1 := by
  obtain ⟨_, rfl⟩ := (f1Of_eq_some_iff c q).mp h
  have ha : (0 : Rat) ≤ ((2 * c.1 : Nat) : Rat) := Nat.cast_nonneg _
  have hb : (0 : Rat) ≤ ((c.2.1 + c.2.2 : Nat) : Rat) := Nat.cast_nonneg _
  exact ⟨div_nonneg ha (add_nonneg ha hb), div_le_one_of_le₀ (le_add_of_nonneg_right hb)
    (add_nonneg ha hb)⟩

/-- the counts are `(tp, fp, unc)`: a true positive, no false positive and no uncovered missed
Pareto design -/
theorem f1Of_eq_one_iff (c : Nat × Nat × Nat) :
    f1Of c = some 1 ↔ 0 < c.1 ∧ c.2.1 = 0 ∧ c.2.2 = 0 := by
  rw [f1Of_eq_some_iff]
  constructor
  · rintro ⟨hne, h1⟩
    have hab : ((2 * c.1 : Nat) : Rat) + ((c.2.1 + c.2.2 : Nat) : Rat) ≠ 0 := by
      rw [← Nat.cast_add, ← Nat.add_assoc]; exact Nat.cast_ne_zero.mpr hne
    have hb := Nat.cast_eq_zero.mp (left_eq_add.mp ((div_eq_one_iff_eq hab).mp h1.symm))
    omega
  · rintro ⟨h1, h2, h3⟩
    refine ⟨by omega, ?_⟩
    rw [h2, h3, Nat.cast_zero, add_zero,
      div_self (Nat.cast_ne_zero.mpr (Nat.mul_ne_zero two_ne_zero h1.ne'))]

/-- `fp = n − tp`: more true positives among the same `n` predictions and fewer uncovered missed
designs never lower the score -/
theorem f1Of_mono {n tp tp' unc unc' : Nat} (htp : tp ≤ tp') (hunc : unc' ≤ unc)
    {q q' : Rat} (h : f1Of (tp, n - tp, unc) = some q) (h' : f1Of (tp', n - tp', unc') = some q') :
    q ≤ q' := by
  obtain ⟨hne, rfl⟩ := (f1Of_eq_some_iff _ q).mp h
  obtain ⟨hne', rfl⟩ := (f1Of_eq_some_iff _ q').mp h'
  simp only at hne hne' ⊢
  refine div_add_mono (Nat.cast_nonneg _) (Nat.cast_le.mpr (Nat.mul_le_mul_left 2 htp))
    (Nat.cast_nonneg _) (Nat.cast_le.mpr (Nat.add_le_add (Nat.sub_le_sub_left htp n) hunc)) ?_ ?_
  · rw [← Nat.cast_add, ← Nat.add_assoc]; exact Nat.cast_pos.mpr (Nat.pos_of_ne_zero hne)
  · rw [← Nat.cast_add, ← Nat.add_assoc]; exact Nat.cast_pos.mpr (Nat.pos_of_ne_zero hne')

/-- a non-empty prediction (`0 < n`) makes the denominator `2 tp + (n − tp) + unc` positive -/
theorem f1Of_isSome_of_pos {n : Nat} (hn : 0 < n) (tp unc : Nat) (htp : tp ≤ n) :
    ∃ q, f1Of (tp, n - tp, unc) = some q := by
  cases h : f1Of (tp, n - tp, unc) with
  | some q => exact ⟨q, rfl⟩
  | none =>
    have := (f1Of_eq_none_iff _).mp h
    simp only at this
    omega

/-! ### permutation invariance of the counts -/

theorem tpT_perm {pred pred' : List Nat} (h : pred.Perm pred') (good : Nat → Bool) :
    tpT good pred = tpT good pred' := (h.filter _).length_eq

theorem uncT_perm_pred {pred pred' : List Nat} (h : pred.Perm pred') (c : Nat → Nat → Bool)
    (truth : List Nat) : uncT c truth pred = uncT c truth pred' := by
  simp only [uncT, missed, h.contains_eq, h.any_eq]

theorem uncT_perm_truth {truth truth' : List Nat} (h : truth.Perm truth') (c : Nat → Nat → Bool)
    (pred : List Nat) : uncT c truth pred = uncT c truth' pred := by
  unfold uncT missed
  rw [dedup_eq, dedup_eq]
  exact ((h.dedup.filter _).filter _).length_eq

/-! ### monotonicity of the counts in the predicates -/

theorem tpT_mono {good good' : Nat → Bool} (pred : List Nat)
    (h : ∀ k ∈ pred, good k = true → good' k = true) : tpT good pred ≤ tpT good' pred := by
  simp only [tpT, ← List.countP_eq_length_filter]
  exact List.countP_mono_left h

theorem uncT_anti {c c' : Nat → Nat → Bool} (truth pred : List Nat)
    (h : ∀ i ∈ truth, ∀ j ∈ pred, c i j = true → c' i j = true) :
    uncT c' truth pred ≤ uncT c truth pred := by
  simp only [uncT, ← List.countP_eq_length_filter]
  refine List.countP_mono_left fun i hi hc' => ?_
  rw [Bool.not_eq_true', List.any_eq_false] at hc' ⊢
  exact fun j hj hcij => hc' j hj (h i ((mem_missed i truth pred).mp hi).1 j hj hcij)

/-- the score grows with the gap predicate and with the coverage predicate; for an empty prediction
neither predicate is asked -/
theorem f1Of_pred_mono {good good' : Nat → Bool} {c c' : Nat → Nat → Bool} (truth pred : List Nat)
    (hg : ∀ k ∈ pred, good k = true → good' k = true)
    (hc : ∀ i ∈ truth, ∀ j ∈ pred, c i j = true → c' i j = true) {q : Rat}
    (h : f1Of (tpT good pred, pred.length - tpT good pred, uncT c truth pred) = some q) :
    ∃ q', f1Of (tpT good' pred, pred.length - tpT good' pred, uncT c' truth pred) = some q' ∧
      q ≤ q' := by
  cases pred with
  | nil => exact ⟨q, h, le_rfl⟩
  | cons k pred =>
    obtain ⟨q', hq'⟩ := f1Of_isSome_of_pos (Nat.succ_pos pred.length) (tpT good' (k :: pred))
      (uncT c' truth (k :: pred)) (tpT_le _ _)
    exact ⟨q', hq', f1Of_mono (tpT_mono _ hg) (uncT_anti _ _ hc) h hq'⟩

/-! ### when the counts vanish -/

theorem uncT_eq_zero_iff (c : Nat → Nat → Bool) (truth pred : List Nat) :
    uncT c truth pred = 0 ↔ ∀ i ∈ truth, i ∉ pred → ∃ j ∈ pred, c i j = true := by
  simp [uncT, mem_missed]

theorem fp_eq_zero_iff (good : Nat → Bool) (pred : List Nat) :
    pred.length - tpT good pred = 0 ↔ ∀ k ∈ pred, good k = true := by
  rw [Nat.sub_eq_zero_iff_le, ← tpT_eq_length_iff]
  exact ⟨(tpT_le good pred).antisymm, Eq.ge⟩

/-! ### concrete predicates: monotone in ε -/

theorem isCoveredPt_isSome_indep (vi vj : Vec) (W : Mat) (ε ε' : Rat) :
    (isCoveredPt vi vj ε W).isSome = (isCoveredPt vi vj ε' W).isSome := by
  unfold isCoveredPt
  cases coverSolve vi vj W <;> rfl

theorem isCoveredPt_mono {vi vj : Vec} {W : Mat} {ε ε' : Rat} (h0 : 0 ≤ ε) (hle : ε ≤ ε')
    (h : isCoveredPt vi vj ε W = some true) : isCoveredPt vi vj ε' W = some true := by
  unfold isCoveredPt at h ⊢
  cases hc : coverSolve vi vj W with
  | dist2 d2 y lam =>
    simp only [hc, Option.some.injEq, Bool.and_eq_true, decide_eq_true_eq] at h ⊢
    refine ⟨h0.trans hle, h.2.trans ?_⟩
    exact mul_self_le_mul_self h0 hle
  | infeasible lam => simp [hc] at h
  | unknown => simp [hc] at h

theorem covIdx_isSome_indep (mu : Mat) (W : Mat) (ε ε' : Rat) (i j : Nat) :
    (covIdx mu ε W i j).isSome = (covIdx mu ε' W i j).isSome := by
  unfold covIdx
  cases mu[i]? <;> cases mu[j]? <;> simp [isCoveredPt_isSome_indep _ _ W ε ε']

theorem covIdx_mono {mu W : Mat} {ε ε' : Rat} (h0 : 0 ≤ ε) (hle : ε ≤ ε') {i j : Nat}
    (h : covIdx mu ε W i j = some true) : covIdx mu ε' W i j = some true := by
  unfold covIdx at h ⊢
  cases hi : mu[i]? with
  | none => simp [hi] at h
  | some vi =>
    cases hj : mu[j]? with
    | none => simp [hi, hj] at h
    | some vj =>
      simp only [hi, hj] at h ⊢
      exact isCoveredPt_mono h0 hle h

theorem goodIdx_mono {ds : Vec} {ε ε' : Rat} (hle : ε ≤ ε') {k : Nat}
    (h : goodIdx ds ε k = true) : goodIdx ds ε' k = true := by
  unfold goodIdx at h ⊢
  cases hk : ds[k]? with
  | none => simp [hk] at h
  | some d =>
    simp only [hk, decide_eq_true_eq] at h ⊢
    exact h.trans hle

/-! ### unfolding `f1FromDelta` -/

theorem f1FromDelta_val_iff (mu W : Mat) (ds : Vec) (truth pred : List Nat) (ε q : Rat) :
    f1FromDelta mu W (some ds) truth pred ε = .val q ↔
      ∃ c, f1Counts (covIdx mu ε W) (goodIdx ds ε) truth pred = some c ∧ f1Of c = some q := by
  unfold f1FromDelta
  simp only
  cases h1 : f1Counts (covIdx mu ε W) (goodIdx ds ε) truth pred with
  | none => simp
  | some c =>
    cases h2 : f1Of c with
    | none => simp [h2]
    | some q' => simp [h2]

/-- totality of the coverage oracle on the pairs the score can ask about: every exact projection
involved returned a certificate (always the case in the harness runs: `f1_inconclusive = 0`) -/
def CovTotal (mu W : Mat) (ε : Rat) (truth pred : List Nat) : Prop :=
  ∀ i ∈ truth, ∀ j ∈ pred, (covIdx mu ε W i j).isSome = true

/-- the verdict table read as a total predicate (`unknown` counts as "not covered") -/
def covB (mu : Mat) (ε : Rat) (W : Mat) (i j : Nat) : Bool := covIdx mu ε W i j == some true

theorem covB_eq_true_iff {mu W : Mat} {ε : Rat} {i j : Nat} :
    covB mu ε W i j = true ↔ covIdx mu ε W i j = some true := beq_iff_eq

/-- the last step of `calculate_epsilonF1_score`: `0/0` is `nan` -/
def F1Res.ofCounts (c : Nat × Nat × Nat) : F1Res :=
  match f1Of c with
  | none => .nan
  | some q => .val q

theorem F1Res.ofCounts_eq_val_iff (c : Nat × Nat × Nat) (q : Rat) :
    F1Res.ofCounts c = .val q ↔ f1Of c = some q := by
  unfold F1Res.ofCounts
  cases f1Of c <;> simp

theorem covIdx_eq_covB {mu W : Mat} {ε : Rat} {truth pred : List Nat}
    (ht : CovTotal mu W ε truth pred) :
    ∀ i ∈ truth, ∀ j ∈ pred, covIdx mu ε W i j = some (covB mu ε W i j) := fun i hi j hj => by
  obtain ⟨b, hb⟩ := Option.isSome_iff_exists.mp (ht i hi j hj)
  rw [covB, hb]; cases b <;> rfl

theorem f1FromDelta_eq (mu W : Mat) (ds : Vec) (truth pred : List Nat) (ε : Rat)
    (ht : CovTotal mu W ε truth pred) :
    f1FromDelta mu W (some ds) truth pred ε =
      F1Res.ofCounts (tpT (goodIdx ds ε) pred, pred.length - tpT (goodIdx ds ε) pred,
        uncT (covB mu ε W) truth pred) := by
  unfold f1FromDelta F1Res.ofCounts
  simp only [f1Counts_total _ _ _ truth pred (covIdx_eq_covB ht)]
  cases f1Of _ <;> rfl

/-- when nothing is missed no coverage question is asked -/
theorem f1Counts_of_no_missed (cov : Nat → Nat → Option Bool) (good : Nat → Bool)
    (truth pred : List Nat) (hsub : ∀ i ∈ truth, i ∈ pred) :
    f1Counts cov good truth pred = some (tpT good pred, pred.length - tpT good pred, 0) := by
  have : missed truth pred = [] := by
    rw [List.eq_nil_iff_forall_not_mem]
    intro i hi
    obtain ⟨h1, h2⟩ := (mem_missed i truth pred).mp hi
    exact h2 (hsub i h1)
  simp [f1Counts, this, uncoveredSize, uncoveredSet, tpT]

theorem f1FromDelta_true_set (mu W : Mat) (ds : Vec) (truth pred : List Nat) (ε : Rat)
    (hne : pred ≠ []) (hsub : ∀ i ∈ truth, i ∈ pred) (hgood : ∀ k ∈ pred, goodIdx ds ε k = true) :
    f1FromDelta mu W (some ds) truth pred ε = .val 1 := by
  apply (f1FromDelta_val_iff mu W ds truth pred ε 1).mpr
  refine ⟨_, f1Counts_of_no_missed _ _ truth pred hsub, (f1Of_eq_one_iff _).mpr ⟨?_, ?_, rfl⟩⟩
  · rw [(tpT_eq_length_iff _ pred).mpr hgood]
    exact List.length_pos_iff.mpr hne
  · exact (fp_eq_zero_iff _ _).mpr hgood

/-- gaps computed with any pairwise gap function that is positive exactly on interior domination
vanish on the designs without interior dominator, so a prediction made of such designs scores `1` -/
theorem f1FromDelta_pareto {sm : Vec → Vec → Option Rat} (mu W : Mat) (ds : Vec)
    (truth pred : List Nat) (ε : Rat) (hds : deltaWith sm mu = some ds)
    (hsm : ∀ vi vj m, sm vi vj = some m → (0 < m ↔ InInterior W (gsub vj vi)))
    (hε : 0 ≤ ε) (hne : pred ≠ []) (hsub : ∀ i ∈ truth, i ∈ pred)
    (hpar : ∀ k ∈ pred, ∃ vk, mu[k]? = some vk ∧ ∀ vj ∈ mu, ¬ InInterior W (gsub vj vk)) :
    f1FromDelta mu W (some ds) truth pred ε = .val 1 := by
  refine f1FromDelta_true_set mu W ds truth pred ε hne hsub fun k hk => ?_
  obtain ⟨vk, hvk, hno⟩ := hpar k hk
  obtain ⟨d, hd, hrow⟩ := deltaWith_getElem? hds hvk
  have hd0 : d = 0 := (deltaRowWith_eq_zero_iff sm W (hsm vk) hrow).mpr hno
  subst hd0
  simp [goodIdx, hd, hε]

end VOPy.Eval
