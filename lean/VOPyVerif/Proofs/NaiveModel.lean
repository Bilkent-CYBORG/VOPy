import VOPyVerif.Model.Naive
import VOPyVerif.Proofs.NaiveDet
import VOPyVerif.Proofs.ParetoInvariance
import Mathlib.Data.Rat.Cast.Order
/-!
# C08 helper lemmas about the executable model `Model/Naive.lean`

* `Pareto.fast (dominates W)` on rational vectors of length 2 is `Pareto.fast W.domB` on their casts
  to `ℝ × ℝ` (`fast_rat_eq_real`, by `Pareto.fast_map_congr`);
* the run state machine in closed form (`runSteps_mk`), the observation tensor by rows and its shape;
* `rowMean` is the coordinatewise arithmetic mean.
-/
namespace VOPy.Naive
open VOPy VOPy.Pareto

/-- a length-2 rational vector as a point of the real plane (anything else ↦ 0; only used under
the hypothesis `length = 2`) -/
noncomputable def toR2 : Vec → ℝ × ℝ
  | [x, y] => ((x : ℝ), (y : ℝ))
  | _ => (0, 0)

/-- the real cone with the (cast) rows of a `2 × 2` rational matrix -/
noncomputable def coneOfRat (a1 a2 c1 c2 : ℚ) : Cone2 := ⟨a1, a2, c1, c2⟩

theorem coneOfRat_det (a1 a2 c1 c2 : ℚ) :
    (coneOfRat a1 a2 c1 c2).det = ((a1 * c2 - a2 * c1 : ℚ) : ℝ) := by
  rw [Rat.cast_sub, Rat.cast_mul, Rat.cast_mul]; rfl

theorem dominates_eq_domB (a1 a2 c1 c2 : ℚ) (x y : Vec) (hx : x.length = 2) (hy : y.length = 2) :
    dominates [[a1, a2], [c1, c2]] x y = (coneOfRat a1 a2 c1 c2).domB (toR2 x) (toR2 y) := by
  match x, y, hx, hy with
  | [x1, x2], [y1, y2], _, _ =>
    -- both sides are `0 ≤ w·(x − y)` for the two rows, once over `ℚ`, once cast to `ℝ`
    rw [Bool.eq_iff_iff, Cone2.domB_iff]
    simp only [dominates, inCone, allNonneg, matVec, vsub, dot, List.map_cons, List.map_nil,
      List.zipWith_cons_cons, List.zipWith_nil_left, List.all_cons, List.all_nil, Bool.and_true,
      Bool.and_eq_true, decide_eq_true_eq, Cone2.mem, Cone2.f1, Cone2.f2, coneOfRat, toR2,
      Prod.fst_sub, Prod.snd_sub, add_zero, ← Rat.cast_sub, ← Rat.cast_mul, ← Rat.cast_add,
      Rat.cast_nonneg]

/-- **The rational model's Pareto set is the real one.**  For a `2 × 2` rational cone matrix and
rational vectors of length 2, `Pareto.fast (dominates W)` — what the driver runs — returns the same
indices as `Pareto.fast` under the real cone order on the cast points. -/
theorem fast_rat_eq_real (a1 a2 c1 c2 : ℚ) (xs : List Vec) (hlen : ∀ x ∈ xs, x.length = 2) :
    Pareto.fast (dominates [[a1, a2], [c1, c2]]) xs
      = Pareto.fast (coneOfRat a1 a2 c1 c2).domB (xs.map toR2) :=
  (Pareto.fast_map_congr (dominates [[a1, a2], [c1, c2]]) (coneOfRat a1 a2 c1 c2).domB toR2 xs
    fun a ha b hb => (dominates_eq_domB a1 a2 c1 c2 a b (hlen a ha) (hlen b hb)).symm).symm

/-! ### the observation tensor and the run -/

theorem appendObs_length (S : List (List Vec)) (new : List Vec) (h : new.length = S.length) :
    (appendObs S new).length = S.length := by
  rw [appendObs, List.length_zipWith, h, Nat.min_self]

theorem appendObs_getElem? (S : List (List Vec)) (new : List Vec) (i : Nat) (row : List Vec) (o : Vec)
    (hS : S[i]? = some row) (hn : new[i]? = some o) :
    (appendObs S new)[i]? = some (row ++ [o]) := by
  rw [appendObs, List.getElem?_zipWith, hS, hn]

theorem foldl_appendObs_length : ∀ (rounds : List (List Vec)) (S : List (List Vec)),
    (∀ r ∈ rounds, r.length = S.length) → (rounds.foldl appendObs S).length = S.length := by
  intro rounds
  induction rounds with
  | nil => intro S _; rfl
  | cons new rest ih =>
    intro S h
    have hn : new.length = S.length := h new (by simp)
    rw [List.foldl_cons, ih (appendObs S new), appendObs_length S new hn]
    intro r hr
    rw [appendObs_length S new hn]
    exact h r (by simp [hr])

/-- row `i` of the tensor after consuming `rounds`: the old row followed by the `i`-th rows of the
observation matrices, in order -/
theorem foldl_appendObs_getElem? : ∀ (rounds : List (List Vec)) (S : List (List Vec)) (i : Nat)
    (row : List Vec), S[i]? = some row → (∀ r ∈ rounds, r.length = S.length) →
    (rounds.foldl appendObs S)[i]? = some (row ++ rounds.filterMap (·[i]?)) := by
  intro rounds
  induction rounds with
  | nil => intro S i row hS _; rw [List.foldl_nil, hS, List.filterMap_nil, List.append_nil]
  | cons new rest ih =>
    intro S i row hS hlen
    have hnl : new.length = S.length := hlen new List.mem_cons_self
    have hi : i < new.length := hnl ▸ (List.getElem?_eq_some_iff.mp hS).1
    have hno : new[i]? = some new[i] := List.getElem?_eq_getElem hi
    rw [List.foldl_cons, ih (appendObs S new) i (row ++ [new[i]])
      (appendObs_getElem? S new i row _ hS hno)
      (fun r hr => (appendObs_length S new hnl).symm ▸ hlen r (List.mem_cons_of_mem _ hr)),
      List.filterMap_cons, hno, List.append_assoc, List.singleton_append]

/-- no matrix with more than `i` rows is dropped when the `i`-th rows are collected -/
theorem length_filterMap_getElem? {α : Type} (i : Nat) : ∀ (l : List (List α)),
    (∀ r ∈ l, i < r.length) → (l.filterMap (·[i]?)).length = l.length
  | [], _ => rfl
  | r :: l, h => by
    obtain ⟨hr, hl⟩ := List.forall_mem_cons.mp h
    rw [List.filterMap_cons_some (f := (·[i]?)) (List.getElem?_eq_getElem hr), List.length_cons, List.length_cons,
      length_filterMap_getElem? i l hl]

/-- a call of `run_one_step` after completion leaves the state alone -/
theorem step_fst_of_eq (s : State) (new : List Vec) (h : s.round = s.L) : (step s new).1 = s := by
  rw [step, if_pos h]

/-- a call of `run_one_step` before completion consumes the observation matrix -/
theorem step_fst_of_ne (s : State) (new : List Vec) (h : s.round ≠ s.L) :
    (step s new).1 = { s with round := s.round + 1, samples := appendObs s.samples new,
                              sampleCount := s.sampleCount + s.K } := by
  rw [step, if_neg h]

/-- the run from any state with `round ≤ L`: exactly the first `L − round` matrices are consumed -/
theorem runSteps_mk (K L : Nat) : ∀ (news : List (List Vec)) (r c : Nat) (S : List (List Vec)),
    r ≤ L →
    runSteps ⟨L, K, r, c, S⟩ news
      = ⟨L, K, r + (news.take (L - r)).length, c + K * (news.take (L - r)).length,
          (news.take (L - r)).foldl appendObs S⟩ := by
  intro news
  induction news with
  | nil => intro r c S _; rw [List.take_nil]; rfl
  | cons new rest ih =>
    intro r c S h
    rw [runSteps, List.foldl_cons, ← runSteps]
    by_cases hr : r = L
    · rw [step_fst_of_eq _ _ hr, ih r c S h, hr, Nat.sub_self, List.take_zero, List.take_zero]
    · have hlt : r < L := Nat.lt_of_le_of_ne h hr
      rw [step_fst_of_ne _ _ hr, ih (r + 1) (c + K) (appendObs S new) hlt,
        show L - r = (L - (r + 1)) + 1 by omega, List.take_succ_cons, List.foldl_cons,
        List.length_cons, Nat.mul_succ]
      congr 1 <;> omega

/-- the state reached from `init K L` by any history of observation matrices (`K` rows each): the
first `L` matrices are consumed, `round` counts them, `sample_count = K · round`, and row `i` of the
tensor lists the `i`-th rows of the consumed matrices in order. -/
theorem run_init (K L : Nat) (news : List (List Vec)) (hshape : ∀ new ∈ news, new.length = K) :
    let s := runSteps (init K L) news
    s.L = L ∧ s.K = K ∧ s.round = (news.take L).length ∧ s.sampleCount = K * (news.take L).length ∧
    s.samples.length = K ∧
    ∀ i, i < K → s.samples[i]? = some ((news.take L).filterMap (·[i]?)) := by
  intro s
  have hs : s = ⟨L, K, 0 + (news.take (L - 0)).length, 0 + K * (news.take (L - 0)).length,
      (news.take (L - 0)).foldl appendObs (List.replicate K [])⟩ :=
    runSteps_mk K L news 0 0 (List.replicate K []) (Nat.zero_le _)
  have htake : ∀ r ∈ news.take L, r.length = (List.replicate K ([] : List Vec)).length := by
    intro r hr; rw [List.length_replicate]; exact hshape r (List.mem_of_mem_take hr)
  rw [hs, Nat.sub_zero, Nat.zero_add, Nat.zero_add]
  refine ⟨rfl, rfl, rfl, rfl, ?_, ?_⟩
  · exact (foldl_appendObs_length _ _ htake).trans List.length_replicate
  · intro i hi
    have := foldl_appendObs_getElem? (news.take L) (List.replicate K []) i []
      (by rw [List.getElem?_replicate, if_pos hi]) htake
    rwa [List.nil_append] at this

/-- the tensor after any history of `K × m` observation matrices has shape `(K, round, m)` -/
theorem run_samples_shape (K L m : Nat) (news : List (List Vec))
    (hshape : ∀ new ∈ news, new.length = K ∧ ∀ o ∈ new, o.length = m) :
    ∀ row ∈ (runSteps (init K L) news).samples,
      row.length = (news.take L).length ∧ ∀ o ∈ row, o.length = m := by
  intro row hrow
  obtain ⟨-, -, -, -, hlenS, hrows⟩ := run_init K L news fun n hn => (hshape n hn).1
  obtain ⟨i, hi, rfl⟩ := List.getElem_of_mem hrow
  rw [hlenS] at hi
  rw [Option.some.inj ((List.getElem?_eq_getElem _).symm.trans (hrows i hi))]
  have htake : ∀ r ∈ news.take L, r.length = K ∧ ∀ o ∈ r, o.length = m :=
    fun r hr => hshape r (List.mem_of_mem_take hr)
  refine ⟨length_filterMap_getElem? i _ fun r hr => (htake r hr).1 ▸ hi, fun o ho => ?_⟩
  obtain ⟨r, hr, hor⟩ := List.mem_filterMap.mp ho
  exact (htake r hr).2 o (List.mem_of_getElem? hor)

theorem State.P_of_round_ne_zero (W : Mat) (s : State) (h : s.round ≠ 0) :
    s.P W = Pareto.fast (dominates W) (rowMeans s.samples) := by
  rw [State.P, if_neg h, naiveP]

/-! ### `rowMean` is the arithmetic mean -/

theorem vadd_getElem? (a b : Vec) (c : Nat) (x y : Rat) (ha : a[c]? = some x) (hb : b[c]? = some y) :
    (vadd a b)[c]? = some (x + y) := by
  rw [vadd, List.getElem?_zipWith, ha, hb]

theorem foldl_vadd_getElem? (c : Nat) : ∀ (os : List Vec) (acc : Vec) (x : Rat),
    acc[c]? = some x → (∀ o ∈ os, c < o.length) →
    (os.foldl vadd acc)[c]? = some (x + (os.map (fun o => o[c]?.getD 0)).sum) := by
  intro os
  induction os with
  | nil => intro acc x h _; simp [h]
  | cons o rest ih =>
    intro acc x h hall
    obtain ⟨ho, hrest⟩ := List.forall_mem_cons.mp hall
    have hy := List.getElem?_eq_getElem ho
    rw [List.foldl_cons, ih (vadd acc o) (x + o[c]) (vadd_getElem? acc o c x _ h hy) hrest,
      List.map_cons, List.sum_cons, hy, Option.getD_some, add_assoc]

/-- coordinate `c` of `rowMean obs` is the sum of the `c`-th coordinates of all observations divided
by their number, whenever every observation has a `c`-th coordinate and there is at least one. -/
theorem rowMean_getElem? (obs : List Vec) (c : Nat) (hne : obs ≠ [])
    (hall : ∀ o ∈ obs, c < o.length) :
    (rowMean obs)[c]? = some ((obs.map (fun o => o[c]?.getD 0)).sum / (obs.length : Rat)) := by
  match obs, hne with
  | o :: os, _ =>
    obtain ⟨ho, hos⟩ := List.forall_mem_cons.mp hall
    have hy := List.getElem?_eq_getElem ho
    rw [rowMean, vsum, List.getElem?_map, foldl_vadd_getElem? c os o _ hy hos, Option.map_some,
      List.map_cons, List.sum_cons, hy, Option.getD_some]

theorem foldl_vadd_length (m : Nat) : ∀ (os : List Vec) (acc : Vec), acc.length = m →
    (∀ o ∈ os, o.length = m) → (os.foldl vadd acc).length = m := by
  intro os
  induction os with
  | nil => intro acc h _; exact h
  | cons o rest ih =>
    intro acc h hall
    rw [List.foldl_cons]
    apply ih
    · simp [vadd, h, hall o (by simp)]
    · intro o' ho'; exact hall o' (by simp [ho'])

theorem rowMean_length (m : Nat) (obs : List Vec) (hne : obs ≠ []) (hall : ∀ o ∈ obs, o.length = m) :
    (rowMean obs).length = m := by
  match obs, hne with
  | o :: os, _ =>
    simp only [rowMean, vsum, List.length_map]
    exact foldl_vadd_length m os o (hall o (by simp)) (fun o' ho' => hall o' (by simp [ho']))

/-- the means of a tensor of shape `(·, t, m)` with `t > 0` are `m`-vectors -/
theorem length_of_mem_rowMeans (t m : Nat) (S : List (List Vec)) (ht : 0 < t)
    (hS : ∀ row ∈ S, row.length = t ∧ ∀ o ∈ row, o.length = m) :
    ∀ x ∈ rowMeans S, x.length = m := by
  intro x hx
  obtain ⟨row, hrow, rfl⟩ := List.mem_map.mp hx
  obtain ⟨hl, hall⟩ := hS row hrow
  exact rowMean_length m row (List.ne_nil_of_length_pos (hl ▸ ht)) hall

end VOPy.Naive
