/-!
# Pure list plumbing (core only, no import)

* Boolean scans: `all` / `any` of two tests that agree on the members of the list (`all_congr`, `any_congr`);
  neighbours against all pairs (`zip_tail_all_iff`).
* `foldl min`, `foldl max`: the fold is the least / greatest member (`foldl_min_spec`, `foldl_max_spec`, read off core's
  `List.min?` / `List.max?`).
* A common factor on rows and companions: `zipWith F` does not see `D` in `zipWith f D W`, `zipWith g D s` when `F` is
  blind to `f d`, `g d` applied together (`zipWith_zipWith_of_blind`; `map`, `all`, `zip`, `∀ ∈` forms).  The cone
  matrices rescaled row by row, with or without their per-facet companions, are the instances.
* `List.mapM` into `Option`: the run succeeds with `out` exactly when `f` answers `some` of the entries of `out`, in
  order (`mapM_option_eq_some`); length, entries, success and failure are read off that.
-/
namespace VOPy

/-! ## Boolean scans -/

theorem all_congr {α : Type} {l : List α} {p q : α → Bool} (h : ∀ x ∈ l, p x = q x) :
    l.all p = l.all q := by
  induction l with
  | nil => rfl
  | cons a l ih =>
    rw [List.all_cons, List.all_cons, h a List.mem_cons_self,
      ih fun x hx => h x (List.mem_cons_of_mem _ hx)]

theorem any_congr {α : Type} {l : List α} {p q : α → Bool} (h : ∀ x ∈ l, p x = q x) :
    l.any p = l.any q := by
  induction l with
  | nil => rfl
  | cons a l ih =>
    rw [List.any_cons, List.any_cons, h a List.mem_cons_self,
      ih fun x hx => h x (List.mem_cons_of_mem _ hx)]

/-- for a transitive relation, comparing neighbours is comparing all pairs -/
theorem zip_tail_all_iff {α : Type} (R : α → α → Prop) [DecidableRel R]
    (htrans : ∀ a b c, R a b → R b c → R a c) : ∀ (l : List α),
    (l.zip l.tail).all (fun p => decide (R p.1 p.2)) = true ↔ l.Pairwise R
  | [] => by simp
  | [a] => by simp
  | a :: b :: t => by
    have ih := zip_tail_all_iff R htrans (b :: t)
    simp only [List.tail_cons, List.zip_cons_cons, List.all_cons, Bool.and_eq_true,
      decide_eq_true_eq] at ih ⊢
    rw [ih]
    constructor
    · rintro ⟨hab, hp⟩
      refine List.pairwise_cons.mpr ⟨?_, hp⟩
      intro x hx
      rcases List.mem_cons.mp hx with rfl | hx
      · exact hab
      · exact htrans _ _ _ hab ((List.pairwise_cons.mp hp).1 x hx)
    · intro hp
      have := List.pairwise_cons.mp hp
      exact ⟨this.1 b (List.mem_cons_self), this.2⟩

/-! ## folds of `min` / `max` -/

section fold
open Std
variable {α : Type} [LE α] [IsLinearOrder α]

/-- `xs.foldl min x` is the least member of `x :: xs` -/
theorem foldl_min_spec [Min α] [LawfulOrderMin α] (x : α) (xs : List α) :
    xs.foldl min x ∈ x :: xs ∧ ∀ y ∈ x :: xs, xs.foldl min x ≤ y :=
  List.min?_eq_some_iff.mp List.min?_cons'

theorem foldl_max_spec [Max α] [LawfulOrderMax α] (x : α) (xs : List α) :
    xs.foldl max x ∈ x :: xs ∧ ∀ y ∈ x :: xs, y ≤ xs.foldl max x :=
  List.max?_eq_some_iff.mp List.max?_cons'

end fold

/-! ## a common factor on both arguments of `zipWith` -/

section blind
variable {δ α β γ : Type} {f : δ → α → α} {D : List δ} {W : List α}

theorem zipWith_zipWith_of_blind (F : α → β → γ) (g : δ → β → β) (s : List β)
    (hF : ∀ d ∈ D, ∀ w x, F (f d w) (g d x) = F w x) (hlen : W.length ≤ D.length) :
    List.zipWith F (List.zipWith f D W) (List.zipWith g D s) = List.zipWith F W s := by
  apply List.ext_getElem
  · rw [List.length_zipWith, List.length_zipWith, List.length_zipWith, List.length_zipWith,
      Nat.min_eq_right hlen, ← Nat.min_assoc, Nat.min_eq_left hlen]
  · intro i _ _
    rw [List.getElem_zipWith, List.getElem_zipWith, List.getElem_zipWith, List.getElem_zipWith]
    exact hF _ (List.getElem_mem _) _ _

theorem map_zipWith_of_blind (G : α → γ) (hG : ∀ d ∈ D, ∀ w, G (f d w) = G w)
    (hlen : W.length ≤ D.length) : (List.zipWith f D W).map G = W.map G := by
  apply List.ext_getElem
  · rw [List.length_map, List.length_map, List.length_zipWith, Nat.min_eq_right hlen]
  · intro i _ _
    rw [List.getElem_map, List.getElem_map, List.getElem_zipWith]
    exact hG _ (List.getElem_mem _) _

theorem all_zipWith_of_blind (p : α → Bool) (hp : ∀ d ∈ D, ∀ w, p (f d w) = p w)
    (hlen : W.length ≤ D.length) : (List.zipWith f D W).all p = W.all p := by
  have := congrArg (List.all · id) (map_zipWith_of_blind p hp hlen)
  rwa [List.all_map, List.all_map] at this

theorem all_zip_zipWith_of_blind (T : α × β → Bool) (g : δ → β → β) (s : List β)
    (hT : ∀ d ∈ D, ∀ w x, T (f d w, g d x) = T (w, x)) (hlen : W.length ≤ D.length) :
    ((List.zipWith f D W).zip (List.zipWith g D s)).all T = (W.zip s).all T := by
  have := congrArg (List.all · id) (zipWith_zipWith_of_blind (Function.curry T) g s hT hlen)
  rwa [← List.map_zip_eq_zipWith, ← List.map_zip_eq_zipWith, List.all_map, List.all_map] at this

theorem forall_mem_zipWith_of_blind (P : α → Prop) (hP : ∀ d ∈ D, ∀ w, P (f d w) ↔ P w)
    (hlen : W.length ≤ D.length) : (∀ a ∈ List.zipWith f D W, P a) ↔ ∀ a ∈ W, P a := by
  have hl : (List.zipWith f D W).length = W.length := by
    rw [List.length_zipWith, Nat.min_eq_right hlen]
  rw [List.forall_mem_iff_forall_getElem, List.forall_mem_iff_forall_getElem]
  refine ⟨fun H i hi => ?_, fun H i hi => ?_⟩
  · have := H i (hl ▸ hi)
    rw [List.getElem_zipWith] at this
    exact (hP _ (List.getElem_mem _) _).1 this
  · rw [List.getElem_zipWith]
    exact (hP _ (List.getElem_mem _) _).2 (H i (hl ▸ hi))

end blind

/-! ## `List.mapM` into `Option` -/

variable {α β : Type} {f : α → Option β}

theorem mapM_option_cons (a : α) (l : List α) :
    (a :: l).mapM f = (f a).bind fun b => (l.mapM f).map (b :: ·) := by
  rw [List.mapM_cons]; cases f a <;> cases l.mapM f <;> rfl

theorem mapM_option_eq_some : ∀ {l : List α} {out : List β},
    l.mapM f = some out ↔ l.map f = out.map some
  | [], out => by cases out <;> simp
  | a :: l, out => by
    rw [mapM_option_cons, List.map_cons]
    simp only [Option.bind_eq_some_iff, Option.map_eq_some_iff, mapM_option_eq_some (l := l)]
    constructor
    · rintro ⟨b, hb, bs, hbs, rfl⟩
      rw [hb, hbs]; rfl
    · intro h
      cases out with
      | nil => cases h
      | cons b out => exact ⟨b, (List.cons.inj h).1, out, (List.cons.inj h).2, rfl⟩

theorem mapM_option_length {l : List α} {out : List β} (h : l.mapM f = some out) :
    out.length = l.length := by
  have hl := congrArg List.length (mapM_option_eq_some.mp h)
  rw [List.length_map, List.length_map] at hl
  exact hl.symm

theorem mapM_option_getElem? {l : List α} {out : List β} (h : l.mapM f = some out) (i : Nat) :
    out[i]? = l[i]?.bind f := by
  have hi : (l.map f)[i]? = (out.map some)[i]? := by rw [mapM_option_eq_some.mp h]
  rw [List.getElem?_map, List.getElem?_map] at hi
  cases hl : l[i]? with
  | none => rw [hl] at hi; exact Option.map_eq_none_iff.mp hi.symm
  | some a =>
    rw [hl] at hi
    obtain ⟨b, hb, hfa⟩ := Option.map_eq_some_iff.mp hi.symm
    rw [hb]; exact hfa

theorem mapM_option_getElem {l : List α} {out : List β} (h : l.mapM f = some out) {i : Nat}
    (hi : i < l.length) (ho : i < out.length) : f l[i] = some out[i] := by
  rw [← List.getElem?_eq_getElem ho, mapM_option_getElem? h, List.getElem?_eq_getElem hi,
    Option.bind_some]

theorem mapM_option_isSome {l : List α} (h : ∀ a ∈ l, (f a).isSome) : ∃ out, l.mapM f = some out := by
  refine ⟨l.pmap (fun a h => (f a).get h) h, ?_⟩
  rw [mapM_option_eq_some, List.map_pmap]
  simp

theorem mapM_option_eq_none {l : List α} : l.mapM f = none ↔ ∃ a ∈ l, f a = none := by
  constructor
  · intro h
    refine Classical.byContradiction fun hne => ?_
    obtain ⟨out, hout⟩ := mapM_option_isSome (f := f) (l := l)
      fun a ha => Option.isSome_iff_ne_none.mpr fun hfa => hne ⟨a, ha, hfa⟩
    rw [h] at hout; cases hout
  · rintro ⟨a, ha, hfa⟩
    cases h : l.mapM f with
    | none => rfl
    | some out =>
      have hm : f a ∈ l.map f := List.mem_map_of_mem ha
      rw [mapM_option_eq_some.mp h, hfa] at hm
      simp at hm

/-- a change of inputs `T` that changes every result by `φ` changes the list of results by `φ` -/
theorem mapM_option_map_comm {α' β' : Type} {g : α' → Option β'} (T : α → α') (φ : β → β') :
    ∀ {l : List α}, (∀ a ∈ l, g (T a) = (f a).map φ) →
      (l.map T).mapM g = (l.mapM f).map (List.map φ)
  | [], _ => rfl
  | a :: l, h => by
    rw [List.map_cons, mapM_option_cons, mapM_option_cons, h a List.mem_cons_self,
      mapM_option_map_comm T φ fun x hx => h x (List.mem_cons_of_mem _ hx)]
    cases f a <;> cases l.mapM f <;> rfl

end VOPy
