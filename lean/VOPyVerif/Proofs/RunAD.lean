import VOPyVerif.Proofs.RunInv
/-!
# VOGP_AD from the constructor: only candidates are ever refined, `P` grows literally

`ADInv`: every member of `P` sits at the maximum depth, and once the latch
`enable_epsilon_covering` is set every candidate does.  It holds after the constructor and is
preserved by every call; hence `should_refine_design` never fires for a member of `P`.
-/
namespace VOPy.Run
open VOPy VOPy.Steps

structure ADInv (c : Cfg) (s : State) : Prop where
  pdepth : ∀ p ∈ s.P, depthOf s p = c.maxDepth
  latchS : s.latch = true → ∀ i ∈ s.S, depthOf s i = c.maxDepth

theorem adInv_init (c : Cfg) : ADInv c (init c) :=
  ⟨fun p hp => by simp [init] at hp, fun h => by simp [init] at h⟩

theorem adRound_inv (isDom isCov pessDom : Rel) (depth : Nat → Nat) (maxDepth : Nat) (enabled : Bool)
    (S P : List Nat) (hP : ∀ p ∈ P, depth p = maxDepth)
    (hL : enabled = true → ∀ i ∈ S, depth i = maxDepth) :
    (∀ p ∈ (vogpADRound isDom isCov pessDom depth maxDepth enabled S P).2.1, depth p = maxDepth) ∧
    ((vogpADRound isDom isCov pessDom depth maxDepth enabled S P).2.2 = true →
      ∀ i ∈ (vogpADRound isDom isCov pessDom depth maxDepth enabled S P).1, depth i = maxDepth) := by
  unfold vogpADRound
  rw [epsilonCoveringAD_eq]
  by_cases hgate : enabled = true ∨ ∀ i ∈ vogpDiscard isDom pessDom S P, depth i = maxDepth
  · rw [if_pos hgate]
    have hall : ∀ i ∈ vogpDiscard isDom pessDom S P, depth i = maxDepth :=
      hgate.elim (fun he i hi => hL he i (removeAll_subset hi)) id
    refine ⟨fun p hp => ?_, fun _ i hi => hall i (removeAll_subset hi)⟩
    rcases mem_addAll.mp hp with h | h
    · exact hP p h
    · exact hall p (mem_coverNew.mp h).1
  · rw [if_neg hgate]
    exact ⟨hP, fun h => nomatch h⟩

theorem depthOf_grow_lt (c : Cfg) (s : State) (d i : Nat) (h : i < s.depths.length) :
    (s.depths ++ List.replicate c.branch (depthOf s d + 1)).getD i 0 = depthOf s i := by
  unfold depthOf
  simp only [List.getD_eq_getElem?_getD]
  rw [List.getElem?_append_left h]

/-- `evaluate_refine()` preserves the invariant, keeps `P`, refines candidates only -/
theorem applyChoice_inv (c : Cfg) (s1 : State) (e : Env) (hc : c.alg = .vogpAD) (hw1 : WF c s1)
    (I : ADInv c s1) :
    ADInv c (applyChoice c s1 (choose c s1 e)).st ∧
    (∀ p ∈ s1.P, p ∈ (applyChoice c s1 (choose c s1 e)).st.P) ∧
    (∀ d, (applyChoice c s1 (choose c s1 e)).refined = some d → d ∈ s1.S) := by
  have hsp := choose_spec c s1 e
  generalize choose c s1 e = ch at hsp ⊢
  cases ch with
  | idle => exact ⟨⟨I.pdepth, I.latchS⟩, fun p hp => hp, fun d h => nomatch h⟩
  | sample d => exact ⟨⟨I.pdepth, I.latchS⟩, fun p hp => hp, fun d h => nomatch h⟩
  | refineS d =>
    obtain ⟨hdS, hlt⟩ := hsp
    -- a candidate below the maximum depth: the latch cannot be set
    have hl : s1.latch ≠ true := fun h => Nat.ne_of_lt hlt (I.latchS h d hdS)
    refine ⟨⟨fun p hp => ?_, fun h => absurd h hl⟩, fun p hp => hp, fun d' hd' => ?_⟩
    · show (s1.depths ++ List.replicate c.branch (depthOf s1 d + 1)).getD p 0 = c.maxDepth
      rw [depthOf_grow_lt c s1 d p (hw1.bound hc p (Or.inr hp))]
      exact I.pdepth p hp
    · obtain rfl : d = d' := Option.some.inj hd'
      exact hdS
  | refineP d => exact absurd (I.pdepth d hsp.2.1) (Nat.ne_of_lt hsp.2.2)

/-- One VOGP_AD call from a well-formed state satisfying `ADInv`. -/
theorem ad_step_inv (c : Cfg) (s : State) (e : Env) (hc : c.alg = .vogpAD) (hw : WF c s)
    (I : ADInv c s) :
    ADInv c (step c s e).1 ∧ (∀ p ∈ s.P, p ∈ (step c s e).1.P) ∧
    (∀ d, (step c s e).2.refined = some d → d ∈ s.S) := by
  cases h : isDone c s
  · rw [step_of_not_done e h, active_ad hc, adActive_eq]
    have T := adMid_trans c e hw
    have R := adRound_inv e.isDom e.isCov e.pessDom (depthOf s) c.maxDepth s.latch s.S s.P
      I.pdepth I.latchS
    split
    · exact ⟨⟨R.1, R.2⟩, T.keep, fun d h => nomatch h⟩
    · obtain ⟨a1, a2, a3⟩ := applyChoice_inv c _ e hc (wf_adMid c e hw) ⟨R.1, R.2⟩
      exact ⟨a1, fun p hp => a2 p (T.keep p hp), fun d hd => T.sub.subset (a3 d hd)⟩
  · rw [step_of_done e h]
    exact ⟨I, fun p hp => hp, fun d hd => nomatch hd⟩

/-- whole runs: invariant, literal monotonicity of `P`, refined nodes were candidates -/
theorem ad_run_inv (c : Cfg) (s : State) (es : List Env) (hc : c.alg = .vogpAD) (hw : WF c s)
    (I : ADInv c s) :
    ADInv c (run c s es).1 ∧ (∀ p ∈ s.P, p ∈ (run c s es).1.P) ∧
    (∀ o ∈ (run c s es).2, ∀ d, o.refined = some d → d ∉ s.P) := by
  have hel : c.alg.elim = true := by rw [hc]; rfl
  induction es generalizing s with
  | nil => exact ⟨I, fun p hp => hp, fun o ho => by cases ho⟩
  | cons e es ih =>
    rw [run_cons]
    obtain ⟨I1, k1, r1⟩ := ad_step_inv c s e hc hw I
    obtain ⟨I2, k2, r2⟩ := ih _ (wf_step c s e hw hel) I1
    refine ⟨I2, fun p hp => k2 p (k1 p hp), ?_⟩
    intro o ho d hd
    rcases List.mem_cons.mp ho with h | h
    · subst h
      exact fun hp => hw.disj d (r1 d hd) hp
    · exact fun hp => r2 o h d hd (k1 d hp)

end VOPy.Run
