import VOPyVerif.Proofs.Problem
/-!
# Helper lemmas for C20: invariance of the nearest-design lookup

* `argminFirst_map` — `np.argmin`'s first-minimum scan commutes with every strictly increasing map of
  the values (same index, ties included);
* `dists_translate`, `dists_scale` — the squared distances are unchanged by a common translation and
  multiplied by `c²` under scaling by `c`.
-/
namespace VOPy.Problem
open VOPy

theorem argminAux_map (f : Rat → Rat) (hf : ∀ x y, f x < f y ↔ x < y) :
    ∀ (ds : List Rat) (bv : Rat) (bi i : Nat),
      argminAux (f bv) bi i (ds.map f) = argminAux bv bi i ds := by
  intro ds
  induction ds with
  | nil => intro bv bi i; rfl
  | cons d ds ih =>
    intro bv bi i
    simp only [List.map_cons, argminAux, hf]
    split
    · exact ih d i (i + 1)
    · exact ih bv bi (i + 1)

/-- **`argmin` (first minimum) is invariant under strictly increasing maps of the values.** -/
theorem argminFirst_map (f : Rat → Rat) (hf : ∀ x y, f x < f y ↔ x < y) (l : List Rat) :
    argminFirst (l.map f) = argminFirst l := by
  cases l with
  | nil => rfl
  | cons d ds => simp only [List.map_cons, argminFirst, argminAux_map f hf]

theorem sqDist_translate (a b t : Vec) (ha : a.length = t.length) (hb : b.length = t.length) :
    sqDist (vadd a t) (vadd b t) = sqDist a b := by
  simp only [sqDist, vsub_vadd_vadd a b t ha hb]

theorem sqDist_smul (c : Rat) (a b : Vec) : sqDist (smul c a) (smul c b) = c * c * sqDist a b := by
  simp only [sqDist, vsub_smul, normSq_smul]

/-- the distance list is literally the same after a common translation -/
theorem dists_translate (x t : Vec) (X : Mat) (hx : x.length = t.length)
    (hX : ∀ r ∈ X, r.length = t.length) :
    dists (vadd x t) (X.map (fun r => vadd r t)) = dists x X := by
  simp only [dists, List.map_map]
  apply List.map_congr_left
  intro r hr
  exact sqDist_translate x r t hx (hX r hr)

/-- every distance is multiplied by `c²` under scaling by `c` -/
theorem dists_scale (c : Rat) (x : Vec) (X : Mat) :
    dists (smul c x) (X.map (smul c)) = (dists x X).map (fun d => c * c * d) := by
  simp only [dists, List.map_map]
  apply List.map_congr_left
  intro r _
  exact sqDist_smul c x r

theorem mul_sq_lt_iff (c : Rat) (hc : c ≠ 0) (x y : Rat) : c * c * x < c * c * y ↔ x < y := by
  have : 0 < c * c := mul_self_pos.mpr hc
  exact mul_lt_mul_iff_right₀ this

end VOPy.Problem
