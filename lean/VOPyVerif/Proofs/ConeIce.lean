import VOPyVerif.Proofs.ConeTheta
/-!
# Helper lemmas for C12: the 3-D cones (`cone3D`) and the ice-cream cone (`iceCreamW`) at `ℝ`

The acute and obtuse matrices are their raw matrices times `1/√N`.  The Rodrigues rotation of the ice-cream cone has
the closed form `rotC`; row `i` of `iceCreamW K θ` is `rotC` applied to the unit vector
`(cos θ cos aᵢ, cos θ sin aᵢ, sin θ)`, whose half-space supports the circular cone of half-angle `θ` about `rotC e₃`.
-/
namespace VOPy.ConeFormulas
open VOPy VOPy.ConeOrd Real

/-! ### `ConeOrder3D` -/

theorem divByFirstRowNorm_cons {r0 : List ℝ} {N : ℝ} (h : rdot r0 r0 = N) (W : List (List ℝ)) :
    divByFirstRowNorm (r0 :: W) = (r0 :: W).map (rscale (√N)⁻¹) := by
  simp only [divByFirstRowNorm, rnorm, h, RealLike.sqrt_real, rdivs_eq_rscale]

theorem scaled_rows {raw : List (List ℝ)} {N : ℝ} {n : Nat} {d : List ℝ} (hN : 0 < N)
    (h : ∀ r ∈ raw, r.length = n ∧ rdot r r = N ∧ 0 < rdot r d) :
    ∀ w ∈ raw.map (rscale (√N)⁻¹), w.length = n ∧ rdot w w = 1 ∧ 0 < rdot w d := by
  intro w hw
  obtain ⟨r, hr, rfl⟩ := List.mem_map.mp hw
  obtain ⟨hl, hn, hd⟩ := h r hr
  refine ⟨by rw [rscale, List.length_map, hl], ?_, ?_⟩
  · rw [rdot_rscale_left, rdot_rscale_right, hn, ← mul_assoc, ← mul_inv, Real.mul_self_sqrt hN.le,
      inv_mul_cancel₀ hN.ne']
  · rw [rdot_rscale_left]
    exact mul_pos (inv_pos.mpr (Real.sqrt_pos.mpr hN)) hd

/-- the rows of the raw acute matrix are cyclic shifts of `(1, -2, 4)` -/
theorem acuteRaw_rows : ∀ r ∈ acuteRaw (α := ℝ), r.length = 3 ∧ rdot r r = 21 ∧ 0 < rdot r [1, 1, 1] := by
  simp only [acuteRaw, RealLike.ofNat_real, List.forall_mem_cons, List.not_mem_nil, false_imp_iff, imp_true_iff,
    rdot_cons, rdot_nil_left, List.length_cons, List.length_nil]
  norm_num

/-- the rows of the raw obtuse matrix are cyclic shifts of `(1, 2/5, 8/5)` -/
theorem obtuseRaw_rows :
    ∀ r ∈ obtuseRaw (α := ℝ), r.length = 3 ∧ rdot r r = 93 / 25 ∧ 0 < rdot r [1, 1, 1] := by
  simp only [obtuseRaw, RealLike.ofFrac, RealLike.ofNat_real, List.forall_mem_cons, List.not_mem_nil,
    false_imp_iff, imp_true_iff, rdot_cons, rdot_nil_left, List.length_cons, List.length_nil]
  norm_num

theorem cone3D_acute : cone3D (α := ℝ) .acute = acuteRaw.map (rscale (√21)⁻¹) :=
  divByFirstRowNorm_cons (acuteRaw_rows _ (List.mem_cons_self ..)).2.1 _

theorem cone3D_obtuse : cone3D (α := ℝ) .obtuse = obtuseRaw.map (rscale (√(93 / 25))⁻¹) :=
  divByFirstRowNorm_cons (obtuseRaw_rows _ (List.mem_cons_self ..)).2.1 _

theorem cone3D_right : cone3D (α := ℝ) .right = [[1, 0, 0], [0, 1, 0], [0, 0, 1]] := by
  simp [cone3D, eye3]

/-! ### the Rodrigues rotation of the ice-cream cone -/

/-- the closed form of `iceRot` -/
noncomputable def rotC : List (List ℝ) :=
  [[1 / 2 + √2 / 4, -1 / 2 + √2 / 4, 1 / 2],
   [-1 / 2 + √2 / 4, 1 / 2 + √2 / 4, 1 / 2],
   [-1 / 2, -1 / 2, √2 / 2]]

theorem iceRot_closed : iceRot (α := ℝ) = rotC := by
  have h2 := sqrt2_mul_self
  simp only [iceRot, rodrigues, crossMat, iceRotAxis, rmatAdd, rmatScale, rmatMul3, linComb3, radd, rscale, eye3,
    RealLike.ofNat_real, RealLike.sqrt_real, RealLike.sin_real, RealLike.cos_real, RealLike.pi_real,
    List.map_cons, List.map_nil, List.zipWith_cons_cons, List.zipWith_nil_right, Nat.cast_ofNat, Nat.cast_one,
    Nat.cast_zero, Real.sin_pi_div_four, Real.cos_pi_div_four, one_div_sqrt2, neg_one_div_sqrt2, rotC]
  simp only [List.cons.injEq, and_true]
  refine ⟨⟨?_, ?_, ?_⟩, ⟨?_, ?_, ?_⟩, ?_, ?_, ?_⟩
  · linear_combination (√2 / 8 - 1 / 4) * h2
  · linear_combination (√2 / 8 - 1 / 4) * h2
  · linear_combination (1 / 4 : ℝ) * h2
  · linear_combination (√2 / 8 - 1 / 4) * h2
  · linear_combination (√2 / 8 - 1 / 4) * h2
  · linear_combination (1 / 4 : ℝ) * h2
  · linear_combination (-1 / 4 : ℝ) * h2
  · linear_combination (-1 / 4 : ℝ) * h2
  · linear_combination (√2 / 4 - 1 / 2) * h2

theorem rotC_apply (x y z : ℝ) : rmatVec rotC [x, y, z] =
    [(1 / 2 + √2 / 4) * x + (-1 / 2 + √2 / 4) * y + 1 / 2 * z,
     (-1 / 2 + √2 / 4) * x + (1 / 2 + √2 / 4) * y + 1 / 2 * z,
     -1 / 2 * x + -1 / 2 * y + √2 / 2 * z] := by
  simp only [rmatVec, rotC, List.map_cons, List.map_nil, rdot_cons, rdot_nil_left, add_zero, add_assoc]

/-- the rotation preserves the dot product (`RᵀR = I`) -/
theorem rotC_dot (x y z p q r : ℝ) :
    rdot (rmatVec rotC [x, y, z]) (rmatVec rotC [p, q, r]) = x * p + y * q + z * r := by
  rw [rotC_apply, rotC_apply]
  simp only [rdot_cons, rdot_nil_left, add_zero]
  linear_combination ((p * x + p * y + q * x + q * y + 2 * r * z) / 8) * sqrt2_mul_self

/-- rows of the rotation are orthonormal (`R Rᵀ = I`) -/
theorem rotC_rows : (∀ ri ∈ rotC, rdot ri ri = 1) ∧
    ∀ r0 r1 r2 : List ℝ, rotC = [r0, r1, r2] → rdot r0 r1 = 0 ∧ rdot r0 r2 = 0 ∧ rdot r1 r2 = 0 := by
  have h2 := sqrt2_mul_self
  constructor
  · simp only [rotC, List.forall_mem_cons, List.not_mem_nil, false_imp_iff, imp_true_iff, and_true, rdot_cons,
      rdot_nil_left, add_zero]
    exact ⟨by linear_combination (1 / 8 : ℝ) * h2, by linear_combination (1 / 8 : ℝ) * h2,
      by linear_combination (1 / 4 : ℝ) * h2⟩
  · intro r0 r1 r2 h
    simp only [rotC, List.cons.injEq, and_true] at h
    obtain ⟨rfl, rfl, rfl⟩ := h
    simp only [rdot_cons, rdot_nil_left, add_zero]
    exact ⟨by linear_combination (1 / 8 : ℝ) * h2, by ring, by ring⟩

/-! ### the supporting half-space of a circular cone in `ℝ³` -/

/-- Cauchy–Schwarz in `ℝ³` (Lagrange identity) -/
theorem cs3 (a1 a2 a3 b1 b2 b3 : ℝ) :
    (a1 * b1 + a2 * b2 + a3 * b3) ^ 2 ≤ (a1 ^ 2 + a2 ^ 2 + a3 ^ 2) * (b1 ^ 2 + b2 ^ 2 + b3 ^ 2) := by
  rw [← sub_nonneg, show (a1 ^ 2 + a2 ^ 2 + a3 ^ 2) * (b1 ^ 2 + b2 ^ 2 + b3 ^ 2) - (a1 * b1 + a2 * b2 + a3 * b3) ^ 2
    = (a1 * b2 - a2 * b1) ^ 2 + (a1 * b3 - a3 * b1) ^ 2 + (a2 * b3 - a3 * b2) ^ 2 by ring]
  positivity

/-- the arithmetic of `support3`: with `P = x·d`, `Q = w·x`, `X = ‖x‖²`, Cauchy–Schwarz for the parts of `w` and
`x` orthogonal to `d` bounds `Q − sP` by `sP` -/
theorem support_arith {P Q X s c : ℝ} (hs : 0 < s) (hsc : s ^ 2 + c ^ 2 = 1) (hP : 0 ≤ P)
    (h1 : c ^ 2 * X ≤ P ^ 2) (hcs : (Q - s * P) ^ 2 ≤ c ^ 2 * (X - P ^ 2)) : 0 ≤ Q := by
  have e : (s * P) ^ 2 = P ^ 2 - c ^ 2 * P ^ 2 := by linear_combination P ^ 2 * hsc
  have h : (Q - s * P) ^ 2 ≤ (s * P) ^ 2 := hcs.trans (by rw [e, mul_sub]; exact sub_le_sub_right h1 _)
  linarith only [(abs_le_of_sq_le_sq' h (mul_nonneg hs.le hP)).1]

/-- **Supporting half-space.**  If `w`, `d` are unit vectors of `ℝ³` with `w·d = s = sin θ` (`w` makes angle
`π/2 − θ` with `d`), `c = cos θ`, `s, c > 0`, then every `x` of the circular cone `{x | c‖x‖ ≤ x·d}` of half-angle
`θ` about `d` satisfies `w·x ≥ 0`. -/
theorem support3 {w d x : List ℝ} {s c : ℝ} (hw : w.length = 3) (hd : d.length = 3) (hx : x.length = 3)
    (hww : rdot w w = 1) (hdd : rdot d d = 1) (hwd : rdot w d = s) (hs : 0 < s) (hc : 0 < c)
    (hsc : s ^ 2 + c ^ 2 = 1) (hcone : c * √(rdot x x) ≤ rdot x d) : 0 ≤ rdot w x := by
  obtain ⟨w1, w2, w3, rfl⟩ := List.length_eq_three.mp hw
  obtain ⟨d1, d2, d3, rfl⟩ := List.length_eq_three.mp hd
  obtain ⟨x1, x2, x3, rfl⟩ := List.length_eq_three.mp hx
  simp only [rdot_cons, rdot_nil_left, add_zero] at hww hdd hwd hcone ⊢
  have hX : 0 ≤ x1 * x1 + (x2 * x2 + x3 * x3) :=
    add_nonneg (mul_self_nonneg _) (add_nonneg (mul_self_nonneg _) (mul_self_nonneg _))
  have hcX : 0 ≤ c * √(x1 * x1 + (x2 * x2 + x3 * x3)) := mul_nonneg hc.le (Real.sqrt_nonneg _)
  have h1 : c ^ 2 * (x1 * x1 + (x2 * x2 + x3 * x3)) ≤ (x1 * d1 + (x2 * d2 + x3 * d3)) ^ 2 := by
    rw [← Real.sq_sqrt hX, ← mul_pow]
    exact pow_le_pow_left₀ hcX hcone 2
  -- Cauchy–Schwarz for `w − s d` and `x − P d`, `P = x·d`
  generalize hP : x1 * d1 + (x2 * d2 + x3 * d3) = P at hcone h1
  have hcs := cs3 (w1 - s * d1) (w2 - s * d2) (w3 - s * d3) (x1 - P * d1) (x2 - P * d2) (x3 - P * d3)
  have hvv : (w1 - s * d1) ^ 2 + (w2 - s * d2) ^ 2 + (w3 - s * d3) ^ 2 = c ^ 2 := by
    linear_combination hww - 2 * s * hwd + s ^ 2 * hdd - hsc
  have hyy : (x1 - P * d1) ^ 2 + (x2 - P * d2) ^ 2 + (x3 - P * d3) ^ 2
      = (x1 * x1 + (x2 * x2 + x3 * x3)) - P ^ 2 := by
    linear_combination P ^ 2 * hdd - 2 * P * hP
  have hvy : (w1 - s * d1) * (x1 - P * d1) + (w2 - s * d2) * (x2 - P * d2) + (w3 - s * d3) * (x3 - P * d3)
      = (w1 * x1 + (w2 * x2 + w3 * x3)) - s * P := by
    linear_combination (-P) * hwd + s * P * hdd - s * hP
  rw [hvv, hyy, hvy] at hcs
  exact support_arith hs hsc (hcX.trans hcone) h1 hcs

/-! ### rows of the ice-cream cone -/

theorem iceThetaRad_real (θdeg : ℝ) : iceThetaRad θdeg = π / 2 - θdeg * (π / 180) := by
  simp [iceThetaRad]

theorem ice_sin_pos {θdeg : ℝ} (h0 : 0 < θdeg) (h180 : θdeg < 180) : 0 < sin (θdeg * (π / 180)) := by
  have hk : 0 < π / 180 := div_pos Real.pi_pos (by norm_num)
  exact Real.sin_pos_of_pos_of_lt_pi (mul_pos h0 hk) ((mul_lt_mul_of_pos_right h180 hk).trans_eq (by ring))

theorem ice_cos_pos {θdeg : ℝ} (h0 : 0 < θdeg) (h90 : θdeg < 90) : 0 < cos (θdeg * (π / 180)) := by
  have hk : 0 < π / 180 := div_pos Real.pi_pos (by norm_num)
  exact Real.cos_pos_of_mem_Ioo ⟨(neg_lt_zero.mpr (half_pos Real.pi_pos)).trans (mul_pos h0 hk),
    (mul_lt_mul_of_pos_right h90 hk).trans_eq (by ring)⟩

/-- the rotation of `(C cos a, C sin a, S)` is a unit vector when `(C, S)` is a point of the unit circle -/
theorem ice_unit {S C sa ca : ℝ} (h1 : S ^ 2 + C ^ 2 = 1) (h2 : sa ^ 2 + ca ^ 2 = 1) :
    rdot (rmatVec rotC [C * ca, C * sa, S]) (rmatVec rotC [C * ca, C * sa, S]) = 1 := by
  rw [rotC_dot]; linear_combination C ^ 2 * h2 + h1

/-- **A facet with unit normal `R (C cos a, C sin a, S)` is tangent to the circular cone `{x | C‖x‖ ≤ x·d}` about
`d = R e₃`** (`(C, S)` a point of the open first quadrant of the unit circle): the normal makes the angle with
cosine `S` with `d`, its half-space contains the cone, and it vanishes on the boundary ray through
`R (−S cos a, −S sin a, C)`. -/
theorem ice_facet_tangent {S C sa ca : ℝ} (hS : 0 < S) (hC : 0 < C) (h1 : S ^ 2 + C ^ 2 = 1)
    (h2 : sa ^ 2 + ca ^ 2 = 1) :
    rdot (rmatVec rotC [C * ca, C * sa, S]) (rmatVec rotC [0, 0, 1]) = S ∧
    (∀ x : List ℝ, x.length = 3 → C * √(rdot x x) ≤ rdot x (rmatVec rotC [0, 0, 1]) →
      0 ≤ rdot (rmatVec rotC [C * ca, C * sa, S]) x) ∧
    ∃ x : List ℝ, x.length = 3 ∧ rdot x x = 1 ∧ C * √(rdot x x) = rdot x (rmatVec rotC [0, 0, 1]) ∧
      rdot (rmatVec rotC [C * ca, C * sa, S]) x = 0 := by
  have hwd : rdot (rmatVec rotC [C * ca, C * sa, S]) (rmatVec rotC [0, 0, 1]) = S := by
    rw [rotC_dot]; ring
  have hxx : rdot (rmatVec rotC [-(S * ca), -(S * sa), C]) (rmatVec rotC [-(S * ca), -(S * sa), C]) = 1 := by
    rw [rotC_dot]; linear_combination S ^ 2 * h2 + h1
  refine ⟨hwd, fun x hx hcone => support3 rfl rfl hx (ice_unit h1 h2) (by rw [rotC_dot]; norm_num) hwd hS hC h1
    hcone, rmatVec rotC [-(S * ca), -(S * sa), C], rfl, hxx, ?_, ?_⟩
  · rw [hxx, Real.sqrt_one, rotC_dot]; ring
  · rw [rotC_dot]; linear_combination (-(S * C)) * h2

/-- **Closed form of one ice-cream row**: for `0 < θdeg < 180` (so `sin θ > 0`), row `i` is the rotation of the
unit vector `(cos θ cos a, cos θ sin a, sin θ)` with `a = i · 2π/K`: the row before normalisation is that vector
times `1 / sin θ`. -/
theorem iceRow_closed (K i : Nat) (θdeg : ℝ) (h0 : 0 < θdeg) (h180 : θdeg < 180) :
    iceRow K θdeg i =
      rmatVec rotC [cos (θdeg * (π / 180)) * cos ((i : ℝ) * (2 * π / K)),
                    cos (θdeg * (π / 180)) * sin ((i : ℝ) * (2 * π / K)),
                    sin (θdeg * (π / 180))] := by
  have hsin := ice_sin_pos h0 h180
  have e : iceRawRow K θdeg i = rscale (sin (θdeg * (π / 180)))⁻¹
      [cos (θdeg * (π / 180)) * cos ((i : ℝ) * (2 * π / K)),
       cos (θdeg * (π / 180)) * sin ((i : ℝ) * (2 * π / K)), sin (θdeg * (π / 180))] := by
    simp only [iceRawRow, iceThetaRad_real, RealLike.tan_real, RealLike.cos_real, RealLike.sin_real,
      RealLike.pi_real, RealLike.ofNat_real, Nat.cast_ofNat, Nat.cast_one, Real.tan_eq_sin_div_cos,
      Real.sin_pi_div_two_sub, Real.cos_pi_div_two_sub, rscale, List.map_cons, List.map_nil, List.cons.injEq,
      and_true]
    exact ⟨by ring, by ring, (inv_mul_cancel₀ hsin.ne').symm⟩
  rw [iceRow, e, iceRot_closed, rmatVec_rscale, rnormalize_rscale (inv_pos.mpr hsin)
    (ice_unit (Real.sin_sq_add_cos_sq _) (Real.sin_sq_add_cos_sq _))]

end VOPy.ConeFormulas
