import VOPyVerif.Proofs.Eval
import VOPyVerif.Proofs.ConeOrderRat
import Mathlib.Data.Rat.Cast.Order
import Mathlib.Tactic.Linarith
import Mathlib.Tactic.Positivity
/-!
# C19: soundness of the KKT / Farkas checkers and ε-coverage

The checkers run over `ℚ` (the driver); the statements quantify over vectors with entries in an
arbitrary linearly ordered field `K` (ℝ in particular), the rational data being cast into `K`.
-/
set_option linter.unusedSectionVars false
namespace VOPy.Eval

variable {K : Type} [Field K] [LinearOrder K] [IsStrictOrderedRing K]

/-- entrywise cast `ℚ → K` -/
def castV (v : Vec) : List K := v.map (fun q => (q : K))
/-- rowwise cast -/
def castM (W : Mat) : List (List K) := W.map castV

@[simp] theorem castV_nil : castV (K := K) [] = [] := rfl
@[simp] theorem castV_cons (a : Rat) (as : Vec) : castV (K := K) (a :: as) = (a : K) :: castV as := rfl

/-- `castV` is the entrywise `Rat.cast` (its body elaborates through the `List` monad, so it is
used through `castV_nil`, `castV_cons` and this equation, not unfolded) -/
theorem castV_eq_map (v : Vec) : castV (K := K) v = v.map Rat.cast := by
  induction v with
  | nil => rfl
  | cons a as ih => rw [castV_cons, ih, List.map_cons]

@[simp] theorem castV_length (v : Vec) : (castV (K := K) v).length = v.length := by
  rw [castV_eq_map, List.length_map]

/-! ### casting commutes with the generic terms -/

theorem gdot_cast (a b : Vec) : ((gdot a b : Rat) : K) = gdot (castV a) (castV b) := by
  rw [gdot_eq_gdot, gdot_eq_gdot, castV_eq_map, castV_eq_map, ConeOrd.gdot_cast]

theorem relu_cast (x : Rat) : ((relu x : Rat) : K) = relu (x : K) :=
  relu_map Rat.cast_mono Rat.cast_zero x

theorem castV_gsub (a b : Vec) : castV (K := K) (gsub a b) = gsub (castV a) (castV b) := by
  simp only [castV_eq_map, gsub, List.map_zipWith, List.zipWith_map, Rat.cast_sub]

theorem castV_replicate_zero (n : Nat) : castV (K := K) (List.replicate n 0) = List.replicate n 0 := by
  rw [castV_eq_map, List.map_replicate, Rat.cast_zero]

/-! ### `lincomb` -/

theorem rowsHaveLen_cons (D : Nat) (w : Vec) (W : Mat) :
    rowsHaveLen D (w :: W) = true ↔ w.length = D ∧ rowsHaveLen D W = true := by
  simp [rowsHaveLen]

theorem lincomb_length (D : Nat) : ∀ (W : Mat) (lam : Vec), rowsHaveLen D W = true →
    (lincomb D W lam).length = D
  | [], _, _ => by simp [lincomb, zeros]
  | _ :: _, [], _ => by simp [lincomb, zeros]
  | w :: W, l :: ls, hW => by
    obtain ⟨hw, hW⟩ := (rowsHaveLen_cons D w W).mp hW
    rw [lincomb, axpy, List.length_zipWith, hw, lincomb_length D W ls hW, Nat.min_self]

theorem gdot_axpy (l : Rat) (w r : Vec) (z : List K) (h : w.length = r.length) :
    gdot (castV (axpy l w r)) z = (l : K) * gdot (castV w) z + gdot (castV r) z := by
  have e : castV (K := K) (axpy l w r) = gadd (gscale (l : K) (castV w)) (castV r) := by
    simp only [castV_eq_map, axpy, gadd, gscale, List.map_zipWith, List.zipWith_map_left,
      List.zipWith_map_right, List.map_map, Rat.cast_add, Rat.cast_mul, Function.comp_def]
  rw [e, gdot_comm, gdot_gadd _ _ _ (by rw [gscale_length, castV_length, castV_length, h]),
    gdot_comm, gdot_gscale_left, gdot_comm z]

theorem gdot_castV_zeros (D : Nat) (z : List K) : gdot (castV (zeros D)) z = 0 := by
  rw [zeros, castV_replicate_zero, gdot_comm, gdot_replicate_zero]

/-- `(Σ λ_n w_n) · z = Σ λ_n (w_n · z)` -/
theorem gdot_lincomb (D : Nat) (z : List K) : ∀ (W : Mat) (lam : Vec), rowsHaveLen D W = true →
    gdot (castV (lincomb D W lam)) z = gdot (castV lam) (W.map (fun w => gdot (castV w) z))
  | [], _, _ => (gdot_castV_zeros D z).trans (gdot_nil_right _).symm
  | _ :: _, [], _ => (gdot_castV_zeros D z).trans (gdot_nil_left _).symm
  | w :: W, l :: ls, hW => by
    obtain ⟨hw, hW⟩ := (rowsHaveLen_cons D w W).mp hW
    rw [lincomb, gdot_axpy l w _ z (hw.trans (lincomb_length D W ls hW).symm),
      gdot_lincomb D z W ls hW, castV_cons, List.map_cons, gdot_cons]

/-! ### feasibility over `K` -/

/-- `z` satisfies every row constraint `b_n ≤ w_n · z` (one right-hand side per row) -/
def FeasK : Mat → Vec → List K → Prop
  | w :: W, b :: bs, z => (b : K) ≤ gdot (castV w) z ∧ FeasK W bs z
  | [], [], _ => True
  | _, _, _ => False

theorem feasK_of_feasible (W : Mat) (b y : Vec) (h : feasible W b y = true) :
    FeasK (K := K) W b (castV y) := by
  induction W generalizing b with
  | nil =>
    cases b with
    | nil => trivial
    | cons _ _ => simp [feasible] at h
  | cons w W ih =>
    cases b with
    | nil => simp [feasible] at h
    | cons b0 bs =>
      simp only [feasible, Bool.and_eq_true, decide_eq_true_eq] at h
      refine ⟨?_, ih bs h.2⟩
      rw [← gdot_cast]
      exact Rat.cast_le.mpr h.1

theorem feasK_map_iff (W : Mat) (f : Vec → Rat) (z : List K) :
    FeasK W (W.map f) z ↔ ∀ w ∈ W, (f w : K) ≤ gdot (castV w) z := by
  induction W with
  | nil => simp [FeasK]
  | cons w W ih => rw [List.map_cons, FeasK, ih, List.forall_mem_cons]

theorem feasible_map_iff (W : Mat) (f : Vec → Rat) (y : Vec) :
    feasible W (W.map f) y = true ↔ ∀ w ∈ W, f w ≤ gdot w y := by
  induction W with
  | nil => simp [feasible]
  | cons w W ih =>
    rw [List.map_cons, feasible, Bool.and_eq_true, decide_eq_true_eq, ih, List.forall_mem_cons]

/-- `Σ λ_n b_n ≤ Σ λ_n (w_n · z)` for `λ ≥ 0` and feasible `z` -/
theorem kkt_sum_le (z : List K) : ∀ (W : Mat) (b lam : Vec), FeasK W b z → allNonneg lam = true →
    gdot (castV (K := K) lam) (castV b) ≤ gdot (castV lam) (W.map (fun w => gdot (castV w) z))
  | [], [], _, _, _ => le_refl _
  | [], _ :: _, _, hz, _ => hz.elim
  | _ :: _, [], _, hz, _ => hz.elim
  | _ :: _, _ :: _, [], _, _ => le_refl _
  | w :: W, b0 :: bs, l :: ls, hz, hl => by
    have hl' := (Bool.and_eq_true _ _).mp hl
    simp only [castV_cons, List.map_cons, gdot_cons]
    exact add_le_add
      (mul_le_mul_of_nonneg_left hz.1 (Rat.cast_nonneg.mpr (of_decide_eq_true hl'.1)))
      (kkt_sum_le z W bs ls hz.2 hl'.2)

/-- complementary slackness: `Σ λ_n b_n = Σ λ_n (w_n · y)` -/
theorem cs_sum_eq (y : Vec) : ∀ (W : Mat) (b lam : Vec), complSlack W b lam y = true →
    gdot (castV (K := K) lam) (castV b) =
      gdot (castV lam) (W.map (fun w => gdot (castV w) (castV y)))
  | [], [], _, _ => rfl
  | [], _ :: _, _, h => Bool.noConfusion h
  | _ :: _, [], _, h => Bool.noConfusion h
  | _ :: _, _ :: _, [], _ => rfl
  | w :: W, b0 :: bs, l :: ls, h => by
    have h' := (Bool.and_eq_true _ _).mp h
    have hq : l * gdot w y = l * b0 :=
      sub_eq_zero.mp ((mul_sub l _ _).symm.trans (of_decide_eq_true h'.1))
    simp only [castV_cons, List.map_cons, gdot_cons, cs_sum_eq y W bs ls h'.2, ← gdot_cast,
      ← Rat.cast_mul, hq]

/-! ### checker soundness -/

/-- `z` may have any length: `gdot` truncates -/
theorem checkKKT_sound (D : Nat) (W : Mat) (b y lam : Vec) (h : checkKKT D W b y lam = true) :
    FeasK (K := K) W b (castV y) ∧
    ∀ z : List K, FeasK W b z → ((gdot y y : Rat) : K) ≤ gdot z z := by
  simp only [checkKKT, Bool.and_eq_true, decide_eq_true_eq] at h
  obtain ⟨⟨⟨⟨⟨_hy, hW⟩, hfe⟩, hl⟩, hyeq⟩, hcs⟩ := h
  refine ⟨feasK_of_feasible W b y hfe, ?_⟩
  intro z hzf
  -- y · x = Σ λ_n (w_n · x) for every x
  have hyx : ∀ x : List K,
      gdot (castV y) x = gdot (castV lam) (W.map (fun w => gdot (castV w) x)) := by
    intro x
    rw [hyeq]
    exact gdot_lincomb D x W lam hW
  -- ‖y‖² = Σ λ_n b_n ≤ y · z, and 2 y·z ≤ ‖y‖² + ‖z‖²
  have h1 : gdot (castV (K := K) y) (castV y) = gdot (castV lam) (castV b) := by
    rw [hyx (castV y), ← cs_sum_eq y W b lam hcs]
  have h2 : gdot (castV (K := K) lam) (castV b) ≤ gdot (castV y) z := by
    rw [hyx z]; exact kkt_sum_le z W b lam hzf hl
  rw [gdot_cast]
  linear_combination 2 * h2 + two_gdot_le (castV (K := K) y) z + 2 * h1

theorem checkFarkas_sound (D : Nat) (W : Mat) (b lam : Vec) (h : checkFarkas D W b lam = true)
    (z : List K) : ¬ FeasK W b z := by
  simp only [checkFarkas, Bool.and_eq_true, decide_eq_true_eq] at h
  obtain ⟨⟨⟨⟨⟨hW, _⟩, _⟩, hl⟩, hzero⟩, hpos⟩ := h
  intro hzf
  -- 0 < Σ λ_n b_n ≤ Σ λ_n (w_n · z) = (Σ λ_n w_n) · z = 0
  have h1 := gdot_lincomb (K := K) D z W lam hW
  rw [hzero, gdot_castV_zeros] at h1
  have h2 := kkt_sum_le z W b lam hzf hl
  rw [← h1, ← gdot_cast] at h2
  exact absurd (Rat.cast_pos.mpr hpos) (not_lt.mpr h2)

/-! ### the searches only return checked answers -/

theorem project_checked {D : Nat} {W : Mat} {b y lam : Vec} (h : project D W b = some (y, lam)) :
    checkKKT D W b y lam = true := by
  unfold project at h
  obtain ⟨S, _, hS⟩ := List.exists_of_findSome?_eq_some h
  cases hc : candidate D W b S with
  | none => simp [hc] at hS
  | some p =>
    obtain ⟨y', lam'⟩ := p
    simp only [hc] at hS
    by_cases hk : checkKKT D W b y' lam' = true
    · rw [if_pos hk] at hS
      simp only [Option.some.injEq, Prod.mk.injEq] at hS
      rw [← hS.1, ← hS.2]; exact hk
    · rw [if_neg hk] at hS; simp at hS

theorem findFarkas_checked {D : Nat} {W : Mat} {b lam : Vec} (h : findFarkas D W b = some lam) :
    checkFarkas D W b lam = true := by
  unfold findFarkas at h
  obtain ⟨S, _, hS⟩ := List.exists_of_findSome?_eq_some h
  obtain ⟨r, _, hr⟩ := List.exists_of_findSome?_eq_some hS
  cases hc : farkasCandidate W S r with
  | none => simp [hc] at hr
  | some lam' =>
    simp only [hc] at hr
    by_cases hk : checkFarkas D W b lam' = true
    · rw [if_pos hk] at hr
      simp only [Option.some.injEq] at hr
      rw [← hr]; exact hk
    · rw [if_neg hk] at hr; simp at hr

theorem coverSolve_spec (vi vj : Vec) (W : Mat) :
    match coverSolve vi vj W with
    | .dist2 d2 y lam => vj.length = vi.length ∧ d2 = gdot y y ∧
        checkKKT vi.length W (coverRhs vi vj W) y lam = true
    | .infeasible lam => vj.length = vi.length ∧
        checkFarkas vi.length W (coverRhs vi vj W) lam = true
    | .unknown => True := by
  unfold coverSolve
  simp only
  split_ifs with hl
  · trivial
  · cases hp : project vi.length W (coverRhs vi vj W) with
    | some p => exact ⟨not_not.mp hl, rfl, project_checked hp⟩
    | none =>
      cases hf : findFarkas vi.length W (coverRhs vi vj W) with
      | some lam => exact ⟨not_not.mp hl, findFarkas_checked hf⟩
      | none => trivial

/-! ### ε-coverage -/

/-- **Geometric definition of ε-coverage**: some cone vector `z` of squared norm at most `ε²`
added to `vj` dominates `vi` (`vj + z − vi ∈ C`).  Vectors have entries in `K`. -/
def Covered (W : Mat) (vi vj : Vec) (ε : K) : Prop :=
  ∃ z : List K, z.length = vi.length ∧ InCone (castM W) z ∧ gdot z z ≤ ε * ε ∧
    InCone (castM W) (gsub (gadd (castV vj) z) (castV vi))

theorem inCone_castM_iff (W : Mat) (x : List K) :
    InCone (castM W) x ↔ ∀ w ∈ W, 0 ≤ gdot (castV w) x :=
  List.forall_mem_map

theorem feasK_cover_iff (W : Mat) (vi vj : Vec) (z : List K)
    (hvj : vj.length = vi.length) (hz : z.length = vi.length) :
    FeasK W (coverRhs vi vj W) z ↔
      InCone (castM W) z ∧ InCone (castM W) (gsub (gadd (castV vj) z) (castV vi)) := by
  unfold coverRhs
  rw [feasK_map_iff, inCone_castM_iff, inCone_castM_iff, ← forall₂_and]
  refine forall₂_congr fun w _ => ?_
  have h1 : (castV (K := K) vi).length = (castV (K := K) vj).length := by
    rw [castV_length, castV_length, hvj]
  have h2 : (castV (K := K) vj).length = z.length := by rw [castV_length, hvj, hz]
  have h3 : (gadd (castV vj) z).length = (castV (K := K) vi).length := by
    rw [gadd, List.length_zipWith, h2, Nat.min_self, hz, castV_length]
  -- row by row: max(0, w·(vi − vj)) ≤ w·z ⇔ 0 ≤ w·z ∧ 0 ≤ w·vj + w·z − w·vi
  rw [relu_cast, gdot_cast, castV_gsub]
  simp only [gdot_gsub _ _ _ h1, gdot_gsub _ _ _ h3, gdot_gadd _ _ _ h2, relu_eq_max, max_le_iff,
    sub_nonneg, sub_le_iff_le_add']

theorem covered_iff_of_dist2 {vi vj : Vec} {W : Mat} {d2 : Rat} {y lam : Vec}
    (h : coverSolve vi vj W = .dist2 d2 y lam) (ε : Rat) :
    Covered (K := K) W vi vj (ε : K) ↔ d2 ≤ ε * ε := by
  have hspec := coverSolve_spec vi vj W
  rw [h] at hspec
  obtain ⟨hvj, rfl, hk⟩ := hspec
  obtain ⟨hfy, hopt⟩ := checkKKT_sound (K := K) _ W _ y lam hk
  have hy : (castV (K := K) y).length = vi.length := by
    simp only [checkKKT, Bool.and_eq_true, decide_eq_true_eq] at hk
    rw [castV_length, hk.1.1.1.1.1]
  rw [← Rat.cast_le (K := K), Rat.cast_mul]
  constructor
  · rintro ⟨z, hz, hzC, hzn, hzD⟩
    exact (hopt z ((feasK_cover_iff W vi vj z hvj hz).mpr ⟨hzC, hzD⟩)).trans hzn
  · intro hle
    obtain ⟨h1, h2⟩ := (feasK_cover_iff W vi vj (castV y) hvj hy).mp hfy
    exact ⟨castV y, hy, h1, (gdot_cast y y).symm.trans_le hle, h2⟩

theorem not_covered_of_infeasible {vi vj : Vec} {W : Mat} {lam : Vec}
    (h : coverSolve vi vj W = .infeasible lam) (ε : K) : ¬ Covered (K := K) W vi vj ε := by
  have hspec := coverSolve_spec vi vj W
  rw [h] at hspec
  rintro ⟨z, hz, hzC, _, hzD⟩
  exact checkFarkas_sound (K := K) _ W _ lam hspec.2 z
    ((feasK_cover_iff W vi vj z hspec.1 hz).mpr ⟨hzC, hzD⟩)

end VOPy.Eval
