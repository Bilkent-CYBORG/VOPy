import VOPyVerif.Model.Locate
import VOPyVerif.Proofs.Problem
import Mathlib.Data.List.Nodup
/-! Helper lemmas for `Model/Locate.lean` (`DiscreteDesignSpace.locate_points`): one query row, the
tolerance test, and the whole call, through which the chosen points come back as design indices. -/
namespace VOPy.Locate
open VOPy VOPy.Problem

/-- `locOne` answers exactly (first nearest design, its squared distance) -/
theorem locOne_eq_some_iff (x : Vec) (X : Mat) (i : Nat) (d : Rat) :
    locOne x X = some (i, d) ↔ IsNearestFirst x X i ∧ ∃ hi : i < X.length, d = sqDist x X[i] := by
  unfold locOne
  constructor
  · intro h
    cases hn : nearestFirst x X with
    | none => simp [hn] at h
    | some k =>
      have hk := (nearestFirst_some_iff x X k).mp hn
      have hkl := hk.1
      simp only [hn, dists, List.getElem?_map, List.getElem?_eq_getElem hkl, Option.map_some,
        Option.some.injEq, Prod.mk.injEq] at h
      obtain ⟨rfl, rfl⟩ := h
      exact ⟨hk, hkl, rfl⟩
  · rintro ⟨hn, hi, rfl⟩
    rw [(nearestFirst_some_iff x X i).mpr hn]
    simp [dists, List.getElem?_map, List.getElem?_eq_getElem hi]

theorem locOne_total (x : Vec) (X : Mat) (hX : X ≠ []) :
    ∃ i, ∃ hi : i < X.length, locOne x X = some (i, sqDist x X[i]) ∧ IsNearestFirst x X i := by
  obtain ⟨i, _, hs⟩ := exists_nearestFirst x X hX
  exact ⟨i, hs.1, (locOne_eq_some_iff x X i _).mpr ⟨hs, hs.1, rfl⟩, hs⟩

theorem locOne_isSome (x : Vec) (X : Mat) (hX : X ≠ []) : (locOne x X).isSome := by
  obtain ⟨i, hi, h, _⟩ := locOne_total x X hX
  rw [h]; rfl

theorem tooFar_iff (atol d : Rat) : tooFar atol d = true ↔ atol < 0 ∨ atol * atol < d := by
  simp [tooFar]

/-- for a non-negative squared distance and tolerance, "not too far" is `d ≤ atol²` -/
theorem not_tooFar_iff (atol d : Rat) : tooFar atol d = false ↔ 0 ≤ atol ∧ d ≤ atol * atol := by
  rw [← Bool.not_eq_true, tooFar_iff]
  constructor
  · intro h
    constructor
    · exact Rat.not_lt.mp (fun h' => h (Or.inl h'))
    · exact Rat.not_lt.mp (fun h' => h (Or.inr h'))
  · rintro ⟨h1, h2⟩ (h | h)
    · exact absurd h (Rat.not_lt.mpr h1)
    · exact absurd h (Rat.not_lt.mpr h2)

/-! ## the whole call -/

theorem locate_of_eq_nil {xs X : Mat} (h : xs = [] ∨ X = []) (atol : Rat) :
    locate xs X atol = .valueError := by
  rcases h with rfl | rfl
  · rfl
  · rw [locate, List.isEmpty_nil, Bool.or_true, if_pos rfl]

/-- With at least one query row and one design the `mapM` of `locate` cannot fail: `locate` decides
on the list `ps` of (first nearest design, squared distance to it), one pair per query row. -/
theorem locate_eq {xs X : Mat} (hxs : xs ≠ []) (hX : X ≠ []) (atol : Rat) :
    ∃ ps : List (Nat × Rat), ps.length = xs.length ∧
      (∀ (k : Nat) (hk : k < xs.length), ∃ i, ∃ hi : i < X.length,
        ps[k]? = some (i, sqDist xs[k] X[i]) ∧ IsNearestFirst xs[k] X i) ∧
      locate xs X atol =
        if ps.any (fun p => tooFar atol p.2) then .valueError else .ok (ps.map (·.1)) := by
  obtain ⟨ps, hps⟩ := mapM_option_isSome (l := xs) fun x _ => locOne_isSome x X hX
  refine ⟨ps, mapM_option_length hps, fun k hk => ?_, ?_⟩
  · obtain ⟨i, hi, hloc, hn⟩ := locOne_total xs[k] X hX
    refine ⟨i, hi, ?_, hn⟩
    rw [mapM_option_getElem? hps, List.getElem?_eq_getElem hk]
    exact hloc
  · rw [locate, List.isEmpty_eq_false_iff.mpr hxs, List.isEmpty_eq_false_iff.mpr hX, hps]
    rfl

/-- too far from the nearest design is too far from every design -/
theorem tooFar_nearest_iff {x : Vec} {X : Mat} {i : Nat} (hn : IsNearestFirst x X i) (atol : Rat) :
    tooFar atol (sqDist x (X[i]'hn.1)) = true ↔ ∀ r ∈ X, atol < 0 ∨ atol * atol < sqDist x r := by
  rw [tooFar_iff]
  constructor
  · intro h r hr
    obtain ⟨j, hj, rfl⟩ := List.getElem_of_mem hr
    exact h.imp_right fun h1 => lt_of_lt_of_le h1 (hn.2.1 j hj)
  · exact fun h => h _ (List.getElem_mem hn.1)

/-- **Design points are located at their own indices.**  With pairwise distinct design points of one
dimension and a non-negative tolerance, locating the points of the designs `is` returns `is`: the
nearest design of `X[i]` is at distance `0`, so it is the point `X[i]`, which only design `i` has. -/
theorem locate_design_points {X : Mat} (hnd : X.Nodup) {d : Nat} (hdim : ∀ r ∈ X, r.length = d)
    {atol : Rat} (hat : 0 ≤ atol) {is : List Nat} (hne : is ≠ []) (his : ∀ i ∈ is, i < X.length) :
    locate (is.map (fun i => X.getD i [])) X atol = .ok is := by
  obtain ⟨i0, hi0⟩ := List.exists_mem_of_ne_nil is hne
  have hX : X ≠ [] := List.ne_nil_of_length_pos (Nat.zero_lt_of_lt (his i0 hi0))
  obtain ⟨ps, hlen, hrow, heq⟩ :=
    locate_eq (xs := is.map (fun i => X.getD i [])) (mt List.map_eq_nil_iff.mp hne) hX atol
  rw [List.length_map] at hlen
  have hps : ps = is.map (fun i => (i, 0)) := by
    refine List.ext_getElem (by rw [hlen, List.length_map]) fun k hk _ => ?_
    have hk' : k < is.length := hlen ▸ hk
    obtain ⟨i, hi, hp, hn⟩ := hrow k (by rw [List.length_map]; exact hk')
    have hik := his _ (List.getElem_mem hk')
    rw [List.getElem_map, ← List.getElem_eq_getD (h := hik)] at hp hn
    obtain rfl : i = is[k] := hnd.getElem_inj_iff.mp (hn.getElem_eq (List.getElem_mem hik)
      fun r hr => (hdim r hr).trans (hdim _ (List.getElem_mem hik)).symm)
    rw [List.getElem?_eq_getElem hk, sqDist_self] at hp
    rw [Option.some.inj hp, List.getElem_map]
  have hfar : tooFar atol 0 = false := (not_tooFar_iff _ _).mpr ⟨hat, mul_self_nonneg atol⟩
  rw [heq, hps, List.any_map, List.map_map]
  simp [Function.comp_def, hfar]

end VOPy.Locate
