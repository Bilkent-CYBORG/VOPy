import VOPyVerif.Model.ConeFormulas
import VOPyVerif.Proofs.RealInst
import VOPyVerif.Proofs.ConeOrderRat
import Mathlib.Analysis.Real.Sqrt
import Mathlib.Tactic.NormNum
/-!
# Helper lemmas for C12: the vector operations of the `RealLike` cone terms at `ℝ`

`rdot` is `gdot`; dividing a vector by a number, and normalising it, are instances of `rscale`; multiplying the
rows of a matrix by one number changes neither the cone (positive number) nor the kernel (non-zero number).
-/
namespace VOPy.ConeFormulas
open VOPy VOPy.ConeOrd Real

@[simp] theorem rdot_nil_left (b : List ℝ) : rdot ([] : List ℝ) b = 0 := by simp [rdot]
@[simp] theorem rdot_nil_right (a : List ℝ) : rdot a ([] : List ℝ) = 0 := by cases a <;> simp [rdot]
@[simp] theorem rdot_cons (x y : ℝ) (a b : List ℝ) : rdot (x :: a) (y :: b) = x * y + rdot a b := rfl

theorem rdot_eq_gdot (a b : List ℝ) : rdot a b = gdot a b := by
  induction a generalizing b with
  | nil => rw [rdot_nil_left, gdot_nil_left]
  | cons x a ih =>
    cases b with
    | nil => rw [rdot_nil_right, gdot_nil_right]
    | cons y b => rw [rdot_cons, gdot_cons, ih b]

/-! ### scaling and normalising -/

theorem rdivs_eq_rscale (v : List ℝ) (c : ℝ) : rdivs v c = rscale c⁻¹ v := by
  simp only [rdivs, rscale, div_eq_inv_mul]

theorem rdot_rscale_left (c : ℝ) (v x : List ℝ) : rdot (rscale c v) x = c * rdot v x := by
  rw [rdot_eq_gdot, rdot_eq_gdot]; exact gdot_smul_left c v x

theorem rdot_rscale_right (c : ℝ) (v x : List ℝ) : rdot v (rscale c x) = c * rdot v x := by
  rw [rdot_eq_gdot, rdot_eq_gdot]; exact gdot_smul c v x

theorem rscale_rscale (a b : ℝ) (v : List ℝ) : rscale a (rscale b v) = rscale (a * b) v := by
  simp only [rscale, List.map_map, Function.comp_def, mul_assoc]

theorem rscale_one (v : List ℝ) : rscale 1 v = v := by
  simp only [rscale, one_mul, List.map_id']

theorem rmatVec_rscale (M : List (List ℝ)) (c : ℝ) (v : List ℝ) :
    rmatVec M (rscale c v) = rscale c (rmatVec M v) := by
  simp only [rmatVec, rdot_rscale_right]
  simp only [rscale, List.map_map, Function.comp_def]

theorem memCone_map_rscale {c : ℝ} (hc : 0 < c) (W : List (List ℝ)) (x : List ℝ) :
    MemCone (W.map (rscale c)) x ↔ MemCone W x := by
  simp only [MemCone, List.forall_mem_map, ← rdot_eq_gdot, rdot_rscale_left, mul_nonneg_iff_of_pos_left hc]

theorem kernel_map_rscale {c : ℝ} (hc : c ≠ 0) (W : List (List ℝ)) (x : List ℝ) :
    (∀ w ∈ W.map (rscale c), gdot w x = 0) ↔ ∀ w ∈ W, gdot w x = 0 := by
  simp only [List.forall_mem_map, ← rdot_eq_gdot, rdot_rscale_left, mul_eq_zero, hc, false_or]

theorem rnormalize_rscale {k : ℝ} (hk : 0 < k) {u : List ℝ} (hu : rdot u u = 1) :
    rnormalize (rscale k u) = u := by
  have hn : rnorm (rscale k u) = k := by
    rw [rnorm, rdot_rscale_left, rdot_rscale_right, hu, mul_one, RealLike.sqrt_real, Real.sqrt_mul_self hk.le]
  rw [rnormalize, hn, rdivs_eq_rscale, rscale_rscale, inv_mul_cancel₀ hk.ne', rscale_one]

/-! ### `√2` -/

theorem sqrt2_mul_self : √(2 : ℝ) * √2 = 2 := Real.mul_self_sqrt (by norm_num)
theorem sqrt2_pos : 0 < √(2 : ℝ) := Real.sqrt_pos.mpr (by norm_num)
theorem one_div_sqrt2 : 1 / √(2 : ℝ) = √2 / 2 := Real.sqrt_div_self'.symm
theorem neg_one_div_sqrt2 : -1 / √(2 : ℝ) = -(√2 / 2) := by
  rw [neg_div, one_div_sqrt2]

end VOPy.ConeFormulas
