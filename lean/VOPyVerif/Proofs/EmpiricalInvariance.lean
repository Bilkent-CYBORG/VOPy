import VOPyVerif.Proofs.Empirical
/-!
# Helper lemmas for C16: affine equivariance of the empirical statistics

`affRow a c y = a·y + c` (entrywise, `c` one constant per objective) and `Op.affine a c` (the same
history with every sample row replaced by its affine image; indices, clears, updates and flag toggles
untouched).

* `mean_affine`, `popVar_affine` — `mean (a·x + k) = a·mean x + k`, `popVar (a·x + k) = a²·popVar x`;
* `meanOf_affine`, `varOf_affine` — the same for the per-design statistics `update()` stores,
  including the branches "no sample → zero vector" and "fewer than two samples → `noise·I`";
* `heldFor_affine`, `WF_affine`, `flagsAfter_affine` — the history vocabulary commutes with `Op.affine`.
-/
namespace VOPy.Empirical

/-- `a·y + c` entrywise -/
def affRow (a : Rat) (c : Vec) (y : Vec) : Vec := vadd (smul a y) c

/-- the same call with every sample row replaced by its affine image -/
def Op.affine (a : Rat) (c : Vec) : Op → Op
  | .add idx Y => .add idx (Y.map (affRow a c))
  | o => o

/-! ### numbers -/

theorem sum_map_affine (a k : Rat) (l : List Rat) :
    (l.map (fun x => a * x + k)).sum = a * l.sum + (l.length : Rat) * k := by
  induction l with
  | nil => simp
  | cons x l ih =>
    simp only [List.map_cons, List.sum_cons, ih, List.length_cons]
    push_cast
    ring

theorem mean_affine (a k : Rat) (l : List Rat) (hl : l ≠ []) :
    mean (l.map (fun x => a * x + k)) = a * mean l + k := by
  have hn : (l.length : Rat) ≠ 0 := by exact_mod_cast (List.length_pos_iff.mpr hl).ne'
  rw [mean, mean, sum_map_affine, List.length_map, add_div, mul_div_assoc, mul_div_cancel_left₀ _ hn]

theorem popVar_affine (a k : Rat) (l : List Rat) :
    popVar (l.map (fun x => a * x + k)) = a * a * popVar l := by
  by_cases hl : l = []
  · subst hl; simp [popVar, mean]
  · simp only [popVar, mean_affine a k l hl, List.map_map, Function.comp_def]
    have e : (fun x => (a * x + k - (a * mean l + k)) * (a * x + k - (a * mean l + k))) =
        (fun x => (a * a) * ((x - mean l) * (x - mean l)) + 0) := by
      funext x; ring
    rw [e]
    have := mean_affine (a * a) 0 (l.map (fun x => (x - mean l) * (x - mean l))) (by simpa using hl)
    rw [List.map_map] at this
    simp only [Function.comp_def] at this
    rw [this, add_zero]

/-! ### rows and per-design statistics -/

theorem affRow_length (a : Rat) (c y : Vec) (h : y.length = c.length) :
    (affRow a c y).length = c.length := by
  simp [affRow, vadd, smul, h]

theorem affRow_getD (a : Rat) (c y : Vec) (j : Nat) (hy : j < y.length) (hc : j < c.length) :
    (affRow a c y).getD j 0 = a * y.getD j 0 + c.getD j 0 := by
  have hl : j < (affRow a c y).length := by simp [affRow, vadd, smul, hy, hc]
  simp only [List.getD_eq_getElem?_getD, List.getElem?_eq_getElem hl, List.getElem?_eq_getElem hy,
    List.getElem?_eq_getElem hc, Option.getD_some]
  simp [affRow, vadd, smul]

theorem colOf_affine (a : Rat) (c : Vec) (S : List Vec) (j : Nat) (hj : j < c.length)
    (hS : ∀ y ∈ S, y.length = c.length) :
    colOf j (S.map (affRow a c)) = (colOf j S).map (fun x => a * x + c.getD j 0) := by
  simp only [colOf, List.map_map]
  apply List.map_congr_left
  intro y hy
  simp only [Function.comp_def]
  exact affRow_getD a c y j (by rw [hS y hy]; exact hj) hj

/-- **Means are equivariant**: with at least one sample the stored mean of the transformed samples is
the affine image of the stored mean; with none it is the zero vector in both cases. -/
theorem meanOf_affine (a : Rat) (c : Vec) (S : List Vec) (hS : ∀ y ∈ S, y.length = c.length) :
    meanOf c.length (S.map (affRow a c)) =
      if S = [] then zeros c.length else affRow a c (meanOf c.length S) := by
  by_cases hS0 : S = []
  · subst hS0; simp [meanOf]
  · have hpos : 0 < S.length := List.length_pos_iff.mpr hS0
    simp only [meanOf, List.length_map, hpos, if_true, hS0, if_false]
    apply List.ext_getElem
    · simp [affRow, vadd, smul]
    · intro j h1 h2
      have hj : j < c.length := by simpa using h1
      have hne : colOf j S ≠ [] := by simpa [colOf] using hS0
      simp only [List.getElem_map, List.getElem_range, affRow, vadd, smul, List.getElem_zipWith]
      rw [colOf_affine a c S j hj hS, mean_affine _ _ _ hne]
      simp [List.getD_eq_getElem?_getD, List.getElem?_eq_getElem hj]

theorem diagOf_smul (m : Nat) (k : Rat) (f : Nat → Rat) :
    (diagOf m f).map (smul k) = diagOf m (fun j => k * f j) := by
  simp only [diagOf, List.map_map]
  apply List.map_congr_left
  intro i _
  simp only [Function.comp_def, smul, List.map_map]
  apply List.map_congr_left
  intro j _
  split_ifs <;> simp

/-- **Variances are invariant under shifts and scale with `a²`**: with at least two samples the stored
covariance of the transformed samples is `a²` times the stored covariance; with fewer it is the
configured `noise·I` in both cases. -/
theorem varOf_affine (a : Rat) (c : Vec) (noise : Rat) (S : List Vec)
    (hS : ∀ y ∈ S, y.length = c.length) :
    varOf c.length noise (S.map (affRow a c)) =
      if 1 < S.length then (varOf c.length noise S).map (smul (a * a))
      else diagOf c.length (fun _ => noise) := by
  by_cases h1 : 1 < S.length
  · simp only [varOf, List.length_map, h1, if_true, diagOf_smul]
    simp only [diagOf]
    apply List.map_congr_left
    intro i hi
    have hi' : i < c.length := List.mem_range.mp hi
    apply List.map_congr_left
    intro j _
    by_cases hij : i = j
    · simp only [hij, if_true]
      subst hij
      rw [colOf_affine a c S i hi' hS, popVar_affine]
    · simp [hij]
  · simp [varOf, h1]

/-! ### histories -/

theorem affine_isClear (a : Rat) (c : Vec) (o : Op) : (o.affine a c).isClear = o.isClear := by
  cases o <;> rfl

theorem affine_isUpdate (a : Rat) (c : Vec) (o : Op) : (o.affine a c).isUpdate = o.isUpdate := by
  cases o <;> rfl

theorem affine_rejected (a : Rat) (c : Vec) (count : Nat) (o : Op) :
    (o.affine a c).rejected count = o.rejected count := by
  cases o <;> simp [Op.affine, Op.rejected]

theorem affine_clean (a : Rat) (c : Vec) (count : Nat) (o : Op) (h : o.clean c.length count = true) :
    (o.affine a c).clean c.length count = true := by
  cases o with
  | add idx Y =>
    simp only [Op.affine, Op.clean, Bool.and_eq_true, beq_iff_eq, List.length_map, List.all_eq_true,
      List.mem_map, forall_exists_index, and_imp, forall_apply_eq_imp_iff₂] at h ⊢
    refine ⟨⟨⟨h.1.1.1, h.1.1.2⟩, h.1.2⟩, fun y hy => ?_⟩
    exact affRow_length a c y (h.2 y hy)
  | _ => rfl

theorem WF_affine (a : Rat) (c : Vec) (count : Nat) (ops : List Op) (h : WF c.length count ops) :
    WF c.length count (ops.map (Op.affine a c)) := by
  intro o ho
  obtain ⟨o', ho', rfl⟩ := List.mem_map.mp ho
  rcases h o' ho' with h1 | h1
  · exact Or.inl (affine_clean a c count o' h1)
  · exact Or.inr (by rw [affine_rejected]; exact h1)

theorem flagsAfter_affine (a : Rat) (c : Vec) (init : Bool × Bool) (ops : List Op) :
    flagsAfter init (ops.map (Op.affine a c)) = flagsAfter init ops := by
  induction ops generalizing init with
  | nil => rfl
  | cons o ops ih => cases o <;> simp [Op.affine, flagsAfter, ih]

theorem map_affine_update (a : Rat) (c : Vec) (pre post : List Op) :
    (pre ++ .update :: post).map (Op.affine a c) =
      pre.map (Op.affine a c) ++ .update :: post.map (Op.affine a c) := by
  rw [List.map_append, List.map_cons]
  rfl

theorem noUpdate_affine (a : Rat) (c : Vec) {ops : List Op} (h : ∀ o ∈ ops, o.isUpdate = false) :
    ∀ o ∈ ops.map (Op.affine a c), o.isUpdate = false :=
  List.forall_mem_map.2 fun o ho => (affine_isUpdate a c o).trans (h o ho)

theorem pairs_affine (a : Rat) (c : Vec) (count : Nat) (o : Op) :
    (o.affine a c).pairs count = (o.pairs count).map (fun p => (p.1, affRow a c p.2)) := by
  cases o with
  | add idx Y =>
    simp only [Op.affine, Op.pairs, List.length_map]
    split
    · rw [List.zip_map_right]
      simp [List.map_map, Function.comp_def]
    · rfl
  | _ => rfl

theorem samplesFor_map (d : Nat) (g : Vec → Vec) (l : List (Nat × Vec)) :
    samplesFor d (l.map (fun p => (p.1, g p.2))) = (samplesFor d l).map g := by
  simp [samplesFor, List.filter_map, Function.comp_def]

theorem afterLastClear_affine (a : Rat) (c : Vec) (ops : List Op) :
    afterLastClear (ops.map (Op.affine a c)) = (afterLastClear ops).map (Op.affine a c) := by
  have e : ((fun o : Op => !o.isClear) ∘ Op.affine a c) = fun o => !o.isClear := by
    funext o; simp [affine_isClear]
  simp only [afterLastClear, ← List.map_reverse, List.takeWhile_map, e]

/-- the samples held for a design in the transformed history are the transformed held samples -/
theorem heldFor_affine (a : Rat) (c : Vec) (count d : Nat) (ops : List Op) :
    heldFor count d (ops.map (Op.affine a c)) = (heldFor count d ops).map (affRow a c) := by
  simp only [heldFor, afterLastClear_affine, List.flatMap_map]
  rw [← samplesFor_map]
  congr 1
  rw [List.map_flatMap]
  apply List.flatMap_congr
  intro o _
  exact pairs_affine a c count o

/-- in a well-formed history every held sample is an `m`-vector -/
theorem heldFor_rows {m count : Nat} (d : Nat) (ops : List Op) (h : WF m count ops) :
    ∀ y ∈ heldFor count d ops, y.length = m := by
  intro y hy
  simp only [heldFor, samplesFor, List.mem_map, List.mem_filter, List.mem_flatMap] at hy
  obtain ⟨p, ⟨⟨o, ho, hp⟩, _⟩, rfl⟩ := hy
  have hoO : o ∈ ops := by
    have : o ∈ (ops.reverse.takeWhile (fun o => !o.isClear)).reverse := ho
    rw [List.mem_reverse] at this
    exact List.mem_reverse.mp ((List.takeWhile_sublist _).subset this)
  cases o with
  | add idx Y =>
    simp only [Op.pairs] at hp
    split at hp
    · rename_i hg
      rcases h _ hoO with hc | hr
      · obtain ⟨_, _, _, hY⟩ := clean_add hc
        obtain ⟨q, hq, rfl⟩ := List.mem_map.mp hp
        exact hY _ (List.of_mem_zip hq).2
      · simp [Op.rejected, hg] at hr
    · simp at hp
  | clear => simp [Op.pairs] at hp
  | update => simp [Op.pairs] at hp
  | setFlags _ _ => simp [Op.pairs] at hp

theorem affRow_one_shift (c y : Vec) : affRow 1 c y = vadd y c := by
  simp [affRow, smul]

theorem affRow_scale (a : Rat) (m : Nat) (y : Vec) (hy : y.length = m) :
    affRow a (zeros m) y = smul a y := by
  subst hy
  simp only [affRow, vadd, zeros, smul]
  induction y with
  | nil => rfl
  | cons x y ih =>
    simp only [List.map_cons, List.length_cons, List.replicate_succ, List.zipWith_cons_cons, add_zero,
      List.cons.injEq, true_and]
    exact ih

end VOPy.Empirical
