import VOPyVerif.Model.Run
import VOPyVerif.Proofs.Steps
/-!
# One call of `run_one_step()` in the model: what `Run.step` guarantees on a well-formed state

`WF` is the invariant of the elimination algorithms (duplicate-free disjoint `S`, `P`; `U ⊆ P`;
VOGP_AD: every node mentioned exists).  `active_trans` / `adActive_facts` describe the set
transition of an active call, `active_account` the bookkeeping.
-/
namespace VOPy.Run
open VOPy VOPy.Steps

/-- invariant of the run state of an elimination algorithm -/
structure WF (c : Cfg) (s : State) : Prop where
  nodupS : s.S.Nodup
  nodupP : s.P.Nodup
  disj : ∀ i ∈ s.S, i ∉ s.P
  useful : ∀ i ∈ s.U, i ∈ s.P
  bound : c.alg = .vogpAD → ∀ i, i ∈ s.S ∨ i ∈ s.P → i < s.depths.length
  noU : c.alg = .vogpAD → s.U = []

theorem wf_init (c : Cfg) : WF c (init c) where
  nodupS := by
    simp only [init]
    split
    · exact List.nodup_nil
    · exact List.nodup_nil
    · exact List.pairwise_singleton _ 0
    · exact List.nodup_range
  nodupP := List.nodup_nil
  disj := fun _ _ h => nomatch h
  useful := fun _ h => nomatch h
  bound := fun h i hi => by
    simp only [init, h, List.mem_singleton, List.not_mem_nil, or_false] at hi
    simp only [init, h, hi, List.length_singleton, Nat.zero_lt_one]
  noU := fun _ => rfl

/-- the constructor's candidates are designs of the problem (VOGP_AD starts from the root node) -/
theorem mem_init_S {c : Cfg} (hne : c.alg ≠ .vogpAD) {i : Nat} (hi : i ∈ (init c).S) : i < c.K := by
  simp only [init] at hi
  split at hi
  · cases hi
  · cases hi
  · rename_i hc; exact absurd hc hne
  · exact List.mem_range.mp hi

/-! ### bookkeeping -/

@[simp] theorem account_S (c : Cfg) (s : State) (r : List Req) : (account c s r).S = s.S := rfl
@[simp] theorem account_P (c : Cfg) (s : State) (r : List Req) : (account c s r).P = s.P := rfl
@[simp] theorem account_U (c : Cfg) (s : State) (r : List Req) : (account c s r).U = s.U := rfl
@[simp] theorem account_latch (c : Cfg) (s : State) (r : List Req) :
    (account c s r).latch = s.latch := rfl
@[simp] theorem account_depths (c : Cfg) (s : State) (r : List Req) :
    (account c s r).depths = s.depths := rfl
@[simp] theorem account_parent (c : Cfg) (s : State) (r : List Req) :
    (account c s r).parent = s.parent := rfl
@[simp] theorem account_round (c : Cfg) (s : State) (r : List Req) :
    (account c s r).round = s.round + 1 := rfl
@[simp] theorem account_sampleCount (c : Cfg) (s : State) (r : List Req) :
    (account c s r).sampleCount = s.sampleCount + r.length := rfl
@[simp] theorem account_totalCost (c : Cfg) (s : State) (r : List Req) :
    (account c s r).totalCost = s.totalCost + reqsCost c r := rfl

/-! ### the families -/

/-- `c.alg` decides which of the six family functions `active` runs -/
theorem active_eq (c : Cfg) (s : State) (e : Env) :
    ((c.alg = .paveba ∨ c.alg = .pavebaGP ∨ c.alg = .pavebaPartial) ∧
      active c s e = pavebaActive c s e) ∨
    (c.alg = .auer ∧ active c s e = auerActive c s e) ∨
    ((c.alg = .vogp ∨ c.alg = .epal) ∧ active c s e = vogpActive c s e) ∨
    (c.alg = .vogpAD ∧ active c s e = adActive c s e) ∨
    (c.alg = .naive ∧ active c s e = naiveActive c s) ∨
    (c.alg = .decoupled ∧ active c s e = decoupledActive c s e) := by
  unfold active
  cases c.alg
  · exact Or.inl ⟨Or.inl rfl, rfl⟩
  · exact Or.inl ⟨Or.inr (Or.inl rfl), rfl⟩
  · exact Or.inl ⟨Or.inr (Or.inr rfl), rfl⟩
  · exact Or.inr (Or.inr (Or.inl ⟨Or.inl rfl, rfl⟩))
  · exact Or.inr (Or.inr (Or.inl ⟨Or.inr rfl, rfl⟩))
  · exact Or.inr (Or.inr (Or.inr (Or.inl ⟨rfl, rfl⟩)))
  · exact Or.inr (Or.inl ⟨rfl, rfl⟩)
  · exact Or.inr (Or.inr (Or.inr (Or.inr (Or.inl ⟨rfl, rfl⟩))))
  · exact Or.inr (Or.inr (Or.inr (Or.inr (Or.inr ⟨rfl, rfl⟩))))

theorem active_ad {c : Cfg} (hc : c.alg = .vogpAD) (s : State) (e : Env) :
    active c s e = adActive c s e := by
  unfold active; rw [hc]

/-- the state a VOGP_AD call has reached after its decision phases -/
def adMid (c : Cfg) (s : State) (e : Env) : State :=
  { s with
    S := (vogpADRound e.isDom e.isCov e.pessDom (depthOf s) c.maxDepth s.latch s.S s.P).1
    P := (vogpADRound e.isDom e.isCov e.pessDom (depthOf s) c.maxDepth s.latch s.S s.P).2.1
    latch := (vogpADRound e.isDom e.isCov e.pessDom (depthOf s) c.maxDepth s.latch s.S s.P).2.2 }

theorem adActive_eq (c : Cfg) (s : State) (e : Env) :
    adActive c s e =
      if (adMid c s e).S.isEmpty then { st := account c (adMid c s e) [], req := [] }
      else evalRefine c (adMid c s e) e := rfl

/-- `evaluate_refine()` keeps the counters of its input state apart from `account` -/
theorem evalRefine_account (c : Cfg) (s : State) (e : Env) :
    (evalRefine c s e).st.round = s.round + 1 ∧
    (evalRefine c s e).st.sampleCount = s.sampleCount + (evalRefine c s e).req.length ∧
    (evalRefine c s e).st.totalCost = s.totalCost + reqsCost c (evalRefine c s e).req := by
  unfold evalRefine
  cases choose c s e <;> exact ⟨rfl, rfl, rfl⟩

/-- Every active call: `round += 1`, `sample_count += len(requested)`,
`total_cost += Σ costs[objective]`. -/
theorem active_account (c : Cfg) (s : State) (e : Env) :
    (active c s e).st.round = s.round + 1 ∧
    (active c s e).st.sampleCount = s.sampleCount + (active c s e).req.length ∧
    (active c s e).st.totalCost = s.totalCost + reqsCost c (active c s e).req := by
  rcases active_eq c s e with ⟨_, h⟩ | ⟨_, h⟩ | ⟨_, h⟩ | ⟨_, h⟩ | ⟨_, h⟩ | ⟨_, h⟩ <;> rw [h]
  case inr.inr.inr.inl =>
    rw [adActive_eq]
    split
    · exact ⟨rfl, rfl, rfl⟩
    · exact evalRefine_account c (adMid c s e) e
  all_goals exact ⟨rfl, rfl, rfl⟩

/-! ### set transitions of the fixed-design elimination algorithms -/

/-- An active call of PaVeBa / PaVeBaGP / PaVeBaPartialGP / Auer / VOGP / ε-PAL on a well-formed
state: a `Trans` on `(S, P)`, `U ⊆ P` afterwards, nothing refined. -/
theorem active_trans (c : Cfg) (s : State) (e : Env) (hw : WF c s)
    (hel : c.alg.elim = true) (hne : c.alg ≠ .vogpAD) :
    Trans s.S s.P (active c s e).st.S (active c s e).st.P ∧
    (∀ i ∈ (active c s e).st.U, i ∈ (active c s e).st.P) ∧ (active c s e).refined = none := by
  have hpav := pavebaRound_trans e.isDom e.isCov s.U hw.nodupS hw.nodupP hw.disj
  have hvo := vogpRound_trans e.isDom e.isCov e.pessDom hw.nodupS hw.nodupP hw.disj
  have hau := auerRound_trans c.eps e.centre e.width hw.nodupS hw.nodupP hw.disj
  rcases active_eq c s e with ⟨_, h⟩ | ⟨_, h⟩ | ⟨_, h⟩ | ⟨hc, _⟩ | ⟨hc, _⟩ | ⟨hc, _⟩
  · rw [h]; unfold pavebaActive; dsimp only [account_S, account_P, account_U]
    exact ⟨hpav.1, hpav.2, rfl⟩
  · rw [h]; unfold auerActive; dsimp only [account_S, account_P, account_U]
    exact ⟨hau, fun i hi => hau.keep i (hw.useful i hi), rfl⟩
  · rw [h]; unfold vogpActive; dsimp only [account_S, account_P, account_U]
    exact ⟨hvo, fun i hi => hvo.keep i (hw.useful i hi), rfl⟩
  · exact absurd hc hne
  · rw [hc] at hel; cases hel
  · rw [hc] at hel; cases hel

/-! ### VOGP_AD -/

theorem mem_childIds (c : Cfg) (n k : Nat) : k ∈ childIds c n ↔ n ≤ k ∧ k < n + c.branch := by
  unfold childIds
  simp only [List.mem_map, List.mem_range]
  constructor
  · rintro ⟨j, hj, rfl⟩; exact ⟨Nat.le_add_right n j, Nat.add_lt_add_left hj n⟩
  · rintro ⟨h1, h2⟩
    exact ⟨k - n, Nat.sub_lt_left_of_lt_add h1 h2, Nat.add_sub_cancel' h1⟩

theorem nodup_childIds (c : Cfg) (n : Nat) : (childIds c n).Nodup := by
  unfold childIds
  exact List.Pairwise.map _ (fun a b (h : a ≠ b) => by omega) List.nodup_range

/-- replacing a member `d` of `X` by the children of a refinement — the block of fresh indices
from `n` on, where the number `n` of existing nodes bounds `X` and the other set `Y` -/
theorem swap_childIds (c : Cfg) {X Y depths : List Nat} (d : Nat) (hX : X.Nodup)
    (hXY : ∀ i ∈ X, i ∉ Y) (hb : ∀ i, i ∈ X ∨ i ∈ Y → i < depths.length) :
    (X.erase d ++ childIds c depths.length).Nodup ∧
    (∀ i ∈ X.erase d ++ childIds c depths.length, i ∉ Y) ∧
    (∀ i, i ∈ X.erase d ++ childIds c depths.length ∨ i ∈ Y →
      ∀ v, i < (depths ++ List.replicate c.branch v).length) ∧
    (d ∈ X → d ∉ X.erase d ++ childIds c depths.length) := by
  have hold : ∀ i ∈ X.erase d, i < depths.length :=
    fun i hi => hb i (Or.inl (List.mem_of_mem_erase hi))
  -- a child is not an old node
  have hnew : ∀ i ∈ childIds c depths.length, ¬ i < depths.length :=
    fun i hi => Nat.not_lt.mpr ((mem_childIds c _ i).mp hi).1
  refine ⟨List.nodup_append.mpr ⟨hX.erase d, nodup_childIds c _, fun a ha b hb' hab => ?_⟩,
    fun i hi hY => ?_, fun i hi v => ?_, fun hd hi => ?_⟩
  · exact hnew b hb' (hab ▸ hold a ha)
  · rcases List.mem_append.mp hi with h | h
    · exact hXY i (List.mem_of_mem_erase h) hY
    · exact hnew i h (hb i (Or.inr hY))
  · rw [List.length_append, List.length_replicate]
    rcases hi with hi | hi
    · rcases List.mem_append.mp hi with h | h
      · exact Nat.lt_add_right c.branch (hold i h)
      · exact ((mem_childIds c _ i).mp h).2
    · exact Nat.lt_add_right c.branch (hb i (Or.inr hi))
  · rcases List.mem_append.mp hi with h | h
    · exact (hX.mem_erase_iff.mp h).1 rfl
    · exact hnew d h (hb d (Or.inl hd))

/-- what `choose` says about the node it picked: it lies in `W = S ∪ P`; it is refined only below
the maximum depth, and as a member of `P` only if it is not a candidate -/
theorem choose_spec (c : Cfg) (s : State) (e : Env) :
    match choose c s e with
    | .idle => True
    | .sample d => d ∈ s.S ∨ d ∈ s.P
    | .refineS d => d ∈ s.S ∧ depthOf s d < c.maxDepth
    | .refineP d => d ∉ s.S ∧ d ∈ s.P ∧ depthOf s d < c.maxDepth := by
  unfold choose
  cases hp : (e.picks.filter (fun p => (union s.S s.P).contains p.1)).head? with
  | none => trivial
  | some p =>
    have hm := List.mem_of_mem_head? (Option.mem_def.mpr hp)
    have hu : p.1 ∈ s.S ∨ p.1 ∈ s.P :=
      mem_union.mp (List.contains_iff_mem.mp (List.mem_filter.mp hm).2)
    dsimp only
    by_cases hcond : (decide (depthOf s p.1 < c.maxDepth) && e.refineTest) = true
    · have hlt : depthOf s p.1 < c.maxDepth := of_decide_eq_true (Bool.and_eq_true_iff.mp hcond).1
      rw [if_pos hcond]
      by_cases hS : s.S.contains p.1 = true
      · rw [if_pos hS]
        exact ⟨List.contains_iff_mem.mp hS, hlt⟩
      · rw [if_neg hS]
        have hS' : p.1 ∉ s.S := fun h => hS (List.contains_iff_mem.mpr h)
        exact ⟨hS', hu.resolve_left hS', hlt⟩
    · rw [if_neg hcond]
      exact hu

/-- with the latch off, a candidate below the maximum depth that is still active after the
decision phases is still a *candidate*: ε-covering cannot have moved it -/
theorem ad_latch_keeps (isDom isCov pessDom : Rel) (depth : Nat → Nat) (maxDepth : Nat)
    {enabled : Bool} (hen : enabled = false) {S P : List Nat} (hd : ∀ i ∈ S, i ∉ P) {d : Nat}
    (hS : d ∈ S) (hdep : depth d ≠ maxDepth)
    (hin : d ∈ (vogpADRound isDom isCov pessDom depth maxDepth enabled S P).1 ∨
           d ∈ (vogpADRound isDom isCov pessDom depth maxDepth enabled S P).2.1) :
    d ∈ (vogpADRound isDom isCov pessDom depth maxDepth enabled S P).1 := by
  subst hen
  refine hin.resolve_right (fun h => ?_)
  unfold vogpADRound at h
  rw [epsilonCoveringAD_eq] at h
  split at h
  · rename_i hall
    rcases mem_addAll.mp h with h1 | h1
    · exact hd d hS h1
    · exact hdep (hall.resolve_left Bool.false_ne_true d (mem_coverNew.mp h1).1)
  · exact hd d hS h

/-- Prop form of the refinement clauses of `adSetsOk`: node `d` was refined in this call -/
structure ADRefine (c : Cfg) (s st : State) (d : Nat) : Prop where
  depth_lt : depthOf s d < c.maxDepth
  depths_eq : st.depths = s.depths ++ List.replicate c.branch (depthOf s d + 1)
  notS : d ∉ st.S
  notP : d ∉ st.P
  was : d ∈ s.S ∨ d ∈ s.P
  S_from : ∀ i ∈ st.S, i ∈ s.S ∨ i ∈ childIds c s.depths.length
  P_keep : ∀ p ∈ s.P, p ∈ st.P ∨ p = d
  P_from : ∀ p ∈ st.P, p ∈ s.P ∨ p ∈ s.S ∨ p ∈ childIds c s.depths.length
  side : (∀ k ∈ childIds c s.depths.length, k ∈ st.S) ∨ (∀ k ∈ childIds c s.depths.length, k ∈ st.P)
  kidsP : d ∈ s.P → ∀ k ∈ childIds c s.depths.length, k ∈ st.P
  kidsS : d ∈ s.S → s.latch = false → ∀ k ∈ childIds c s.depths.length, k ∈ st.S

/-- what an active VOGP_AD call guarantees on a well-formed state -/
structure ADFacts (c : Cfg) (s : State) (a : Act) : Prop where
  wf : WF c a.st
  plain : a.refined = none → Trans s.S s.P a.st.S a.st.P ∧ a.st.depths = s.depths
  refine : ∀ d, a.refined = some d → ADRefine c s a.st d ∧ a.req = []
  reqIn : ∀ r ∈ a.req, r.2 = none ∧ (r.1 ∈ s.S ∨ r.1 ∈ s.P)
  reqLen : a.req.length ≤ 1
  reqS : a.req ≠ [] → a.st.S ≠ []
  emptyS : a.st.S = [] → a.req = []
  parentPlain : a.refined = none → a.st.parent = s.parent
  parentRefine : ∀ d, a.refined = some d → a.st.parent = s.parent ++ List.replicate c.branch d

theorem wf_account {c : Cfg} {s : State} (r : List Req) (hw : WF c s) : WF c (account c s r) :=
  ⟨hw.nodupS, hw.nodupP, hw.disj, hw.useful, hw.bound, hw.noU⟩

theorem adMid_trans (c : Cfg) {s : State} (e : Env) (hw : WF c s) :
    Trans s.S s.P (adMid c s e).S (adMid c s e).P :=
  vogpADRound_trans e.isDom e.isCov e.pessDom (depthOf s) c.maxDepth s.latch
    hw.nodupS hw.nodupP hw.disj

theorem wf_adMid (c : Cfg) {s : State} (e : Env) (hw : WF c s) : WF c (adMid c s e) :=
  have T := adMid_trans c e hw
  ⟨T.nodupS, T.nodupP, T.disj,
   fun i hi => T.keep i (hw.useful i hi),
   fun hc i hi => hw.bound hc i (hi.elim (fun h => Or.inl (T.sub.subset h)) (fun h => (T.from_ i h).symm)),
   hw.noU⟩

/-- a VOGP_AD call that refines nothing: after the decision phases it only requests `req` -/
theorem ADFacts.of_plain {c : Cfg} {s : State} (hw : WF c s) (e : Env) {req : List Req} (cap : Nat)
    (hreq : ∀ r ∈ req, r.2 = none ∧ (r.1 ∈ s.S ∨ r.1 ∈ s.P)) (hlen : req.length ≤ 1)
    (hE : (adMid c s e).S = [] → req = []) :
    ADFacts c s { st := account c (adMid c s e) req, req := req, cap := cap } where
  wf := wf_account req (wf_adMid c e hw)
  plain := fun _ => ⟨adMid_trans c e hw, rfl⟩
  refine := fun _ h => nomatch h
  reqIn := hreq
  reqLen := hlen
  reqS := fun hr h => hr (hE h)
  emptyS := hE
  parentPlain := fun _ => rfl
  parentRefine := fun _ h => nomatch h

/-- a VOGP_AD call that refines node `d` and leaves state `st` -/
theorem ADFacts.of_refine {c : Cfg} {s st : State} {d : Nat} (hwf : WF c st)
    (R : ADRefine c s st d) (hpar : st.parent = s.parent ++ List.replicate c.branch d) :
    ADFacts c s { st := st, req := [], refined := some d } where
  wf := hwf
  plain := fun h => nomatch h
  refine := fun _ h => Option.some.inj h ▸ ⟨R, rfl⟩
  reqIn := fun _ h => nomatch h
  reqLen := Nat.zero_le 1
  reqS := fun h => absurd rfl h
  emptyS := fun _ => rfl
  parentPlain := fun h => nomatch h
  parentRefine := fun _ h => Option.some.inj h ▸ hpar

/-- `evaluate_refine()` on the state reached by the decision phases -/
theorem evalRefine_facts (c : Cfg) (s : State) (e : Env) (hc : c.alg = .vogpAD) (hw : WF c s)
    (hne : (adMid c s e).S ≠ []) : ADFacts c s (evalRefine c (adMid c s e) e) := by
  have T := adMid_trans c e hw
  have hw1 := wf_adMid c e hw
  have hU : ∀ i, i ∉ (adMid c s e).U := fun i hi => by
    have : i ∈ s.U := hi
    rw [hw.noU hc] at this
    cases this
  have hsp := choose_spec c (adMid c s e) e
  unfold evalRefine
  generalize choose c (adMid c s e) e = ch at hsp ⊢
  cases ch with
  | idle => exact ADFacts.of_plain hw e 0 (fun _ h => nomatch h) (Nat.zero_le 1) (fun _ => rfl)
  | sample d =>
    refine ADFacts.of_plain hw e 1 (fun r hr => ?_) (Nat.le_refl 1) (fun h => absurd h hne)
    obtain rfl : r = (d, none) := List.mem_singleton.mp hr
    exact ⟨rfl, hsp.elim (fun h => Or.inl (T.sub.subset h)) (fun h => (T.from_ d h).symm)⟩
  | refineS d =>
    obtain ⟨hdS, hlt⟩ := hsp
    obtain ⟨k1, k2, k3, k4⟩ := swap_childIds c d hw1.nodupS hw1.disj (hw1.bound hc)
    exact ADFacts.of_refine
      ⟨k1, hw1.nodupP, k2, fun i hi => absurd hi (hU i), fun _ i hi => k3 i hi _, fun _ => hw.noU hc⟩
      { depth_lt := hlt
        depths_eq := rfl
        notS := k4 hdS
        notP := hw1.disj d hdS
        was := Or.inl (T.sub.subset hdS)
        S_from := fun i hi => (List.mem_append.mp hi).imp
          (fun h => T.sub.subset (List.mem_of_mem_erase h)) id
        P_keep := fun p hp => Or.inl (T.keep p hp)
        P_from := fun p hp => (T.from_ p hp).imp id Or.inl
        side := Or.inl (fun _ hk => List.mem_append_right _ hk)
        kidsP := fun hP => absurd hP (hw.disj d (T.sub.subset hdS))
        kidsS := fun _ _ _ hk => List.mem_append_right _ hk } rfl
  | refineP d =>
    obtain ⟨hnS, hdP, hlt⟩ := hsp
    obtain ⟨k1, k2, k3, k4⟩ := swap_childIds c d hw1.nodupP (fun i hp hs => hw1.disj i hs hp)
      (fun i hi => hw1.bound hc i hi.symm)
    exact ADFacts.of_refine
      ⟨hw1.nodupS, k1, fun i hs hp => k2 i hp hs, fun i hi => absurd hi (hU i),
        fun _ i hi => k3 i hi.symm _, fun _ => hw.noU hc⟩
      { depth_lt := hlt
        depths_eq := rfl
        notS := hnS
        notP := k4 hdP
        was := (T.from_ d hdP).symm
        S_from := fun i hi => Or.inl (T.sub.subset hi)
        P_keep := fun p hp => (Decidable.em (p = d)).symm.imp
          (fun hpd => List.mem_append_left _ ((List.mem_erase_of_ne hpd).mpr (T.keep p hp))) id
        P_from := fun p hp => (List.mem_append.mp hp).elim
          (fun h => (T.from_ p (List.mem_of_mem_erase h)).imp id Or.inl)
          (fun h => Or.inr (Or.inr h))
        side := Or.inr (fun _ hk => List.mem_append_right _ hk)
        kidsP := fun _ _ hk => List.mem_append_right _ hk
        -- the latch is off and `d` is below the maximum depth, so ε-covering has not
        -- moved it: it would still be a candidate
        kidsS := fun hS hl => absurd (ad_latch_keeps e.isDom e.isCov e.pessDom (depthOf s)
          c.maxDepth hl hw.disj hS (Nat.ne_of_lt hlt) (Or.inr hdP)) hnS } rfl

theorem adActive_facts (c : Cfg) (s : State) (e : Env) (hw : WF c s) (hc : c.alg = .vogpAD) :
    ADFacts c s (adActive c s e) := by
  rw [adActive_eq]
  split
  · exact ADFacts.of_plain hw e 0 (fun _ h => nomatch h) (Nat.zero_le 1) (fun _ => rfl)
  · rename_i hne
    exact evalRefine_facts c s e hc hw (fun h => hne (List.isEmpty_iff.mpr h))

end VOPy.Run
