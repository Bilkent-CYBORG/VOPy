import VOPyVerif.Proofs.InvBasic
import VOPyVerif.Proofs.Ellipsoid
import Mathlib.Data.List.Perm.Basic
/-!
# Invariances of the "is dominated" decisions (`Model/Rect.lean`, `Model/Ellipsoid.lean`)

Helpers for the invariance section of `Props/C09.lean`: common translation, positive scaling,
positive row scaling of the cone matrix and row permutation, for the vertex-pair loop of rectangles
and the closed form of ellipsoids.  Each is stated for the loop with a threshold (`isDominatedTol`);
threshold `0` is the loop behind the checked verdict, and `map_guard_congr` carries an invariance of
the loop through the slack guard.
-/
namespace VOPy.Inv
open VOPy

/-- two guarded verdicts agree when the guards agree up to `φ` and the loops agree along `φ` -/
theorem map_guard_congr {o o' : Option Vec} {f g : Vec → Bool} (φ : Vec → Vec)
    (hs : o' = o.map φ) (h : ∀ x, g (φ x) = f x) : o'.map g = o.map f := by
  rw [hs, Option.map_map]
  exact congrArg (Option.map · o) (funext h)

/-! ## rectangles -/

theorem inConeTol_smul (W : Mat) (c t : ℚ) (hc : 0 < c) (x : Vec) :
    Rect.inConeTol W (c * t) (smul c x) = Rect.inConeTol W t x := by
  simp only [Rect.inConeTol, matVec, List.all_map]
  apply all_congr
  intro w _
  simp only [Function.comp_apply, dot_smul_right, decide_eq_decide]
  exact mul_le_mul_iff_right₀ hc

/-- translation of both rectangles, raw loop with threshold `τ` (`τ = 0`: `isDominated`) -/
theorem rect_tol_translate (W : Mat) (l1 u1 l2 u2 s t : Vec) (τ : ℚ)
    (h1 : l1.length = t.length) (h2 : u1.length = t.length) (h3 : l2.length = t.length)
    (h4 : u2.length = t.length) :
    Rect.isDominatedTol W (vadd l1 t) (vadd u1 t) (vadd l2 t) (vadd u2 t) s τ =
      Rect.isDominatedTol W l1 u1 l2 u2 s τ := by
  unfold Rect.isDominatedTol
  rw [rect_vertices_vadd l1 u1 t h1 h2, rect_vertices_vadd l2 u2 t h3 h4]
  simp only [List.all_map]
  apply all_congr
  intro v1 hv1
  apply all_congr
  intro v2 hv2
  have e1 := rect_vertex_length l1 u1 (h1.trans h2.symm) v1 hv1
  have e2 := rect_vertex_length l2 u2 (h3.trans h4.symm) v2 hv2
  simp only [Function.comp_apply]
  rw [vsub_vadd_slack v2 v1 t s (e2.trans h3) (e1.trans h1)]

theorem rect_tol_scale (W : Mat) (c : ℚ) (hc : 0 < c) (l1 u1 l2 u2 s : Vec) (τ : ℚ) :
    Rect.isDominatedTol W (smul c l1) (smul c u1) (smul c l2) (smul c u2) (smul c s) (c * τ) =
      Rect.isDominatedTol W l1 u1 l2 u2 s τ := by
  unfold Rect.isDominatedTol
  rw [rect_vertices_smul, rect_vertices_smul]
  simp only [List.all_map]
  apply all_congr
  intro v1 _
  apply all_congr
  intro v2 _
  simp only [Function.comp_apply, vadd_smul, vsub_smul]
  exact inConeTol_smul W c τ hc _

/-- the rectangle loop sees the cone matrix only through the cone test -/
theorem rect_cone_congr {W W' : Mat} (h : ∀ x, inCone W x = inCone W' x) (l1 u1 l2 u2 s : Vec) :
    Rect.isDominated W l1 u1 l2 u2 s = Rect.isDominated W' l1 u1 l2 u2 s := by
  unfold Rect.isDominated
  apply all_congr
  intro v1 _
  apply all_congr
  intro v2 _
  exact h _

theorem rect_scaleRows (D : Vec) (W : Mat) (hD : ∀ d ∈ D, 0 < d) (hlen : D.length = W.length)
    (l1 u1 l2 u2 s : Vec) :
    Rect.isDominated (List.zipWith smul D W) l1 u1 l2 u2 s = Rect.isDominated W l1 u1 l2 u2 s :=
  rect_cone_congr (inCone_scaleRows D W hD hlen) l1 u1 l2 u2 s

theorem inCone_perm {W W' : Mat} (h : W.Perm W') (x : Vec) : inCone W x = inCone W' x := by
  simp only [inCone, allNonneg, matVec, List.all_map]
  exact h.all_eq

theorem rect_perm {W W' : Mat} (h : W.Perm W') (l1 u1 l2 u2 s : Vec) :
    Rect.isDominated W l1 u1 l2 u2 s = Rect.isDominated W' l1 u1 l2 u2 s :=
  rect_cone_congr (inCone_perm h) l1 u1 l2 u2 s

/-! ## ellipsoids -/

/-- homogeneity of the exact square-root comparison: `k·p − √(k²b) − √(k²c) ≥ k·d ⇔ p − √b − √c ≥ d` -/
theorem sqrtIneq_homog (k : ℚ) (hk : 0 < k) (p b c d : ℚ) :
    Ellipsoid.sqrtIneq (k * p) (k * k * b) (k * k * c) (k * d) = Ellipsoid.sqrtIneq p b c d := by
  have hk2 : 0 < k * k := mul_pos hk hk
  -- the three comparisons of `sqrtIneq` carry the factors `k`, `k²` and `k⁴`
  rw [Bool.eq_iff_iff, Ellipsoid.sqrtIneq_eq_true, Ellipsoid.sqrtIneq_eq_true, ← mul_sub,
    show k * (p - d) * (k * (p - d)) - k * k * b - k * k * c
      = k * k * ((p - d) * (p - d) - b - c) by ring,
    mul_mul_mul_comm (k * k) _ (k * k),
    show 4 * (k * k * b) * (k * k * c) = k * k * (k * k) * (4 * b * c) by ring,
    mul_nonneg_iff_of_pos_left hk, mul_nonneg_iff_of_pos_left hk2,
    mul_le_mul_iff_right₀ (mul_pos hk2 hk2)]

theorem quadForm_map_smul (k : ℚ) (S : Mat) (w : Vec) :
    Ellipsoid.quadForm (S.map (smul k)) w = k * Ellipsoid.quadForm S w := by
  unfold Ellipsoid.quadForm
  have : matVec (S.map (smul k)) w = smul k (matVec S w) := by
    simp only [matVec, smul, List.map_map]
    apply List.map_congr_left
    intro r _
    exact dot_smul_left k r w
  rw [this, dot_smul_right]

theorem quadForm_smul_arg (k : ℚ) (S : Mat) (w : Vec) :
    Ellipsoid.quadForm S (smul k w) = k * k * Ellipsoid.quadForm S w := by
  unfold Ellipsoid.quadForm
  rw [matVec_smul, dot_smul_right, dot_smul_left, mul_assoc]

theorem facetOk_translate (w c1 : Vec) (S1 : Mat) (a1 : ℚ) (c2 : Vec) (S2 : Mat) (a2 d : ℚ) (t : Vec)
    (h1 : c1.length = t.length) (h2 : c2.length = t.length) :
    Ellipsoid.facetOk w (vadd c1 t) S1 a1 (vadd c2 t) S2 a2 d = Ellipsoid.facetOk w c1 S1 a1 c2 S2 a2 d := by
  unfold Ellipsoid.facetOk
  rw [vsub_vadd_vadd c2 c1 t h2 h1]

/-- centres scaled by `k`, covariances by `k²`, threshold by `k` -/
theorem facetOk_scale_sigma (k : ℚ) (hk : 0 < k) (w c1 : Vec) (S1 : Mat) (a1 : ℚ) (c2 : Vec) (S2 : Mat)
    (a2 d : ℚ) :
    Ellipsoid.facetOk w (smul k c1) (S1.map (smul (k * k))) a1 (smul k c2) (S2.map (smul (k * k))) a2
        (k * d) =
      Ellipsoid.facetOk w c1 S1 a1 c2 S2 a2 d := by
  unfold Ellipsoid.facetOk
  rw [vsub_smul, dot_smul_right, quadForm_map_smul, quadForm_map_smul, mul_left_comm (a1 * a1),
    mul_left_comm (a2 * a2)]
  exact sqrtIneq_homog k hk _ _ _ _

/-- centres scaled by `k`, radii `alpha` by `k`, threshold by `k` -/
theorem facetOk_scale_alpha (k : ℚ) (hk : 0 < k) (w c1 : Vec) (S1 : Mat) (a1 : ℚ) (c2 : Vec) (S2 : Mat)
    (a2 d : ℚ) :
    Ellipsoid.facetOk w (smul k c1) S1 (k * a1) (smul k c2) S2 (k * a2) (k * d) =
      Ellipsoid.facetOk w c1 S1 a1 c2 S2 a2 d := by
  unfold Ellipsoid.facetOk
  rw [vsub_smul, dot_smul_right, mul_mul_mul_comm k a1, mul_mul_mul_comm k a2, mul_assoc (k * k),
    mul_assoc (k * k)]
  exact sqrtIneq_homog k hk _ _ _ _

/-- a facet row scaled by `k > 0` together with its threshold -/
theorem facetOk_scale_row (k : ℚ) (hk : 0 < k) (w c1 : Vec) (S1 : Mat) (a1 : ℚ) (c2 : Vec) (S2 : Mat)
    (a2 d : ℚ) :
    Ellipsoid.facetOk (smul k w) c1 S1 a1 c2 S2 a2 (k * d) = Ellipsoid.facetOk w c1 S1 a1 c2 S2 a2 d := by
  unfold Ellipsoid.facetOk
  rw [dot_smul_left, quadForm_smul_arg, quadForm_smul_arg, mul_left_comm (a1 * a1),
    mul_left_comm (a2 * a2)]
  exact sqrtIneq_homog k hk _ _ _ _

theorem ell_tol_translate (W : Mat) (c1 : Vec) (S1 : Mat) (a1 : ℚ) (c2 : Vec) (S2 : Mat) (a2 : ℚ)
    (s t : Vec) (τ : ℚ) (h1 : c1.length = t.length) (h2 : c2.length = t.length) :
    Ellipsoid.isDominatedTol W (vadd c1 t) S1 a1 (vadd c2 t) S2 a2 s τ =
      Ellipsoid.isDominatedTol W c1 S1 a1 c2 S2 a2 s τ := by
  unfold Ellipsoid.isDominatedTol
  split
  · rfl
  · apply all_congr
    intro ws _
    exact facetOk_translate ws.1 c1 S1 a1 c2 S2 a2 _ t h1 h2

/-- a per-facet test `f` against the slack scaled by `k` -/
theorem zip_smul_all (W : Mat) (s : Vec) (k : ℚ) (f g : Vec × ℚ → Bool)
    (h : ∀ w x, f (w, k * x) = g (w, x)) : (W.zip (smul k s)).all f = (W.zip s).all g := by
  rw [smul, List.zip_map_right, List.all_map]
  exact all_congr fun p _ => h p.1 p.2

theorem ell_tol_scale_sigma (W : Mat) (k : ℚ) (hk : 0 < k) (c1 : Vec) (S1 : Mat) (a1 : ℚ) (c2 : Vec)
    (S2 : Mat) (a2 : ℚ) (s : Vec) (τ : ℚ) :
    Ellipsoid.isDominatedTol W (smul k c1) (S1.map (smul (k * k))) a1 (smul k c2)
        (S2.map (smul (k * k))) a2 (smul k s) (k * τ) =
      Ellipsoid.isDominatedTol W c1 S1 a1 c2 S2 a2 s τ := by
  unfold Ellipsoid.isDominatedTol
  split
  · rfl
  · refine zip_smul_all W s k _ _ fun w x => ?_
    dsimp only
    rw [← mul_neg, ← mul_add]
    exact facetOk_scale_sigma k hk w c1 S1 a1 c2 S2 a2 _

theorem ell_tol_scale_alpha (W : Mat) (k : ℚ) (hk : 0 < k) (c1 : Vec) (S1 : Mat) (a1 : ℚ) (c2 : Vec)
    (S2 : Mat) (a2 : ℚ) (s : Vec) (τ : ℚ) :
    Ellipsoid.isDominatedTol W (smul k c1) S1 (k * a1) (smul k c2) S2 (k * a2) (smul k s) (k * τ) =
      Ellipsoid.isDominatedTol W c1 S1 a1 c2 S2 a2 s τ := by
  have neg_iff : ∀ a : ℚ, k * a < 0 ↔ a < 0 := fun a => by
    rw [← not_le, ← not_le, mul_nonneg_iff_of_pos_left hk]
  unfold Ellipsoid.isDominatedTol
  simp only [neg_iff]
  split
  · rfl
  · refine zip_smul_all W s k _ _ fun w x => ?_
    dsimp only
    rw [← mul_neg, ← mul_add]
    exact facetOk_scale_alpha k hk w c1 S1 a1 c2 S2 a2 _

/-- rows and per-facet slack scaled by the same positive factors -/
theorem ell_scaleRows (D : Vec) (W : Mat) (hD : ∀ d ∈ D, 0 < d) (hlen : D.length = W.length)
    (c1 : Vec) (S1 : Mat) (a1 : ℚ) (c2 : Vec) (S2 : Mat) (a2 : ℚ) (s : Vec) :
    Ellipsoid.isDominated (List.zipWith smul D W) c1 S1 a1 c2 S2 a2 (List.zipWith (· * ·) D s) =
      Ellipsoid.isDominated W c1 S1 a1 c2 S2 a2 s := by
  unfold Ellipsoid.isDominated
  split
  · rfl
  · refine all_zip_zipWith_of_blind _ _ s (fun d hd w x => ?_) hlen.ge
    dsimp only
    rw [← mul_neg, facetOk_scale_row d (hD d hd)]

/-- permuting the (row, slack) pairs -/
theorem ell_perm {ws ws' : List (Vec × ℚ)} (h : ws.Perm ws') (c1 : Vec) (S1 : Mat) (a1 : ℚ) (c2 : Vec)
    (S2 : Mat) (a2 : ℚ) :
    Ellipsoid.isDominated (ws.map Prod.fst) c1 S1 a1 c2 S2 a2 (ws.map Prod.snd) =
      Ellipsoid.isDominated (ws'.map Prod.fst) c1 S1 a1 c2 S2 a2 (ws'.map Prod.snd) := by
  unfold Ellipsoid.isDominated
  split
  · rfl
  · rw [← List.zip_of_prod rfl rfl, ← List.zip_of_prod rfl rfl]
    exact h.all_eq

end VOPy.Inv
