import VOPyVerif.Proofs.RunStep
/-!
# Invariants of whole runs (C06): induction over every finite sequence of environments
-/
namespace VOPy.Run
open VOPy VOPy.Steps

/-- the output of a call on a finished run -/
def doneOut : Out := { done := true, req := [], refined := none, batchExceeds := false }

theorem step_of_done {c : Cfg} {s : State} (e : Env) (h : isDone c s = true) :
    step c s e = (s, doneOut) := by
  simp [step, h, doneOut]

theorem step_of_not_done {c : Cfg} {s : State} (e : Env) (h : isDone c s = false) :
    step c s e = ((active c s e).st,
      { done := isDone c (active c s e).st, req := (active c s e).req,
        refined := (active c s e).refined, batchExceeds := (active c s e).exceeds,
        cap := (active c s e).cap }) := by
  simp [step, h]

/-- the returned flag is the termination test on the state the call leaves behind -/
theorem step_done_flag (c : Cfg) (s : State) (e : Env) :
    (step c s e).2.done = isDone c (step c s e).1 := by
  cases h : isDone c s
  · rw [step_of_not_done e h]
  · rw [step_of_done e h]; simp [doneOut, h]

theorem step_round (c : Cfg) (s : State) (e : Env) :
    (step c s e).1.round = if isDone c s then s.round else s.round + 1 := by
  cases h : isDone c s
  · rw [step_of_not_done e h]; simp [(active_account c s e).1]
  · rw [step_of_done e h]; simp

theorem step_account (c : Cfg) (s : State) (e : Env) :
    (step c s e).1.sampleCount = s.sampleCount + (step c s e).2.req.length ∧
    (step c s e).1.totalCost = s.totalCost + reqsCost c (step c s e).2.req := by
  cases h : isDone c s
  · rw [step_of_not_done e h]
    exact ⟨(active_account c s e).2.1, (active_account c s e).2.2⟩
  · rw [step_of_done e h]
    simp [doneOut, reqsCost, Rat.add_zero]

/-- well-formedness is preserved by every call of an elimination algorithm -/
theorem wf_step (c : Cfg) (s : State) (e : Env) (hw : WF c s) (hel : c.alg.elim = true) :
    WF c (step c s e).1 := by
  cases h : isDone c s
  · rw [step_of_not_done e h]
    by_cases hc : c.alg = .vogpAD
    · rw [active_ad hc]; exact (adActive_facts c s e hw hc).wf
    · obtain ⟨T, hU, _⟩ := active_trans c s e hw hel hc
      exact ⟨T.nodupS, T.nodupP, T.disj, hU, fun h => absurd h hc, fun h => absurd h hc⟩
  · rw [step_of_done e h]; exact hw

/-- fixed-design elimination algorithms: one call is a `Trans` on `(S, P)` -/
theorem step_trans (c : Cfg) (s : State) (e : Env) (hw : WF c s) (hel : c.alg.elim = true)
    (hne : c.alg ≠ .vogpAD) : Trans s.S s.P (step c s e).1.S (step c s e).1.P := by
  cases h : isDone c s
  · rw [step_of_not_done e h]; exact (active_trans c s e hw hel hne).1
  · rw [step_of_done e h]; exact Trans.refl hw.nodupS hw.nodupP hw.disj

/-! ### whole runs -/

theorem run_nil (c : Cfg) (s : State) : run c s [] = (s, []) := rfl

theorem run_cons (c : Cfg) (s : State) (e : Env) (es : List Env) :
    run c s (e :: es) = ((run c (step c s e).1 es).1, (step c s e).2 :: (run c (step c s e).1 es).2) :=
  rfl

/-- a run over `es₁ ++ es₂` is the run over `es₂` continued from the end of the run over `es₁`:
every statement about "the state after a run" is a statement about every prefix -/
theorem run_append (c : Cfg) (s : State) (es1 es2 : List Env) :
    run c s (es1 ++ es2) =
      ((run c (run c s es1).1 es2).1, (run c s es1).2 ++ (run c (run c s es1).1 es2).2) := by
  induction es1 generalizing s with
  | nil => simp [run_nil]
  | cons e es ih => simp only [List.cons_append, run_cons, ih, List.cons_append]

theorem run_length (c : Cfg) (s : State) (es : List Env) : (run c s es).2.length = es.length := by
  induction es generalizing s with
  | nil => rfl
  | cons e es ih => simp [run_cons, ih]

theorem wf_run (c : Cfg) (s : State) (es : List Env) (hw : WF c s) (hel : c.alg.elim = true) :
    WF c (run c s es).1 := by
  induction es generalizing s with
  | nil => exact hw
  | cons e es ih => exact ih _ (wf_step c s e hw hel)

/-- fixed-design elimination algorithms: a whole run is a `Trans` on `(S, P)` -/
theorem run_trans (c : Cfg) (s : State) (es : List Env) (hw : WF c s) (hel : c.alg.elim = true)
    (hne : c.alg ≠ .vogpAD) : Trans s.S s.P (run c s es).1.S (run c s es).1.P := by
  induction es generalizing s with
  | nil => exact Trans.refl hw.nodupS hw.nodupP hw.disj
  | cons e es ih => exact (step_trans c s e hw hel hne).trans (ih _ (wf_step c s e hw hel))

/-- once finished, always finished: the state is frozen and every later call is `doneOut` -/
theorem run_of_done (c : Cfg) (s : State) (es : List Env) (h : isDone c s = true) :
    run c s es = (s, List.replicate es.length doneOut) := by
  induction es with
  | nil => rfl
  | cons e es ih => rw [run_cons, step_of_done e h, ih]; rfl

/-- accounting over a whole run: the sample counter and the cost grow by exactly what was requested -/
theorem run_account (c : Cfg) (s : State) (es : List Env) :
    (run c s es).1.sampleCount = s.sampleCount + (allReqs (run c s es).2).length ∧
    (run c s es).1.totalCost = s.totalCost + reqsCost c (allReqs (run c s es).2) := by
  induction es generalizing s with
  | nil => simp [run_nil, allReqs, reqsCost, Rat.add_zero]
  | cons e es ih =>
    rw [run_cons]
    obtain ⟨h1, h2⟩ := step_account c s e
    obtain ⟨i1, i2⟩ := ih (step c s e).1
    refine ⟨?_, ?_⟩
    · rw [i1, h1]
      simp only [allReqs, List.flatMap_cons, List.length_append]
      omega
    · rw [i2, h2]
      simp only [allReqs, reqsCost, List.flatMap_cons, List.map_append, List.sum_append]
      rw [Rat.add_assoc]

/-- number of calls of a run prefix that found the run unfinished -/
def activeCalls (c : Cfg) (s : State) : List Env → Nat
  | [] => 0
  | e :: es => (if isDone c s then 0 else 1) + activeCalls c (step c s e).1 es

theorem run_round (c : Cfg) (s : State) (es : List Env) :
    (run c s es).1.round = s.round + activeCalls c s es := by
  induction es generalizing s with
  | nil => rfl
  | cons e es ih =>
    rw [run_cons, ih, step_round, activeCalls]
    split <;> omega

theorem naive_step {c : Cfg} (hc : c.alg = .naive) (s : State) (e : Env) :
    (step c s e).1 = if s.round = c.L then s else account c s (allOf (List.range c.K)) := by
  have hd : isDone c s = (s.round == c.L) := by unfold isDone; rw [hc]
  by_cases h : s.round = c.L
  · rw [if_pos h, step_of_done e (by rw [hd, h]; exact beq_self_eq_true _)]
  · rw [if_neg h, step_of_not_done e (by rw [hd]; exact beq_false_of_ne h)]
    unfold active; rw [hc]; rfl

/-- NaiveElimination: from a state with `round ≤ L` a run prefix of `n` calls leaves
`round = min L (round + n)`, and every active call sampled all `K` designs. -/
theorem naive_run (c : Cfg) (hc : c.alg = .naive) (s : State) (es : List Env)
    (hle : s.round ≤ c.L) :
    (run c s es).1.round = min c.L (s.round + es.length) ∧
    (run c s es).1.sampleCount + c.K * s.round = s.sampleCount + c.K * (run c s es).1.round := by
  induction es generalizing s with
  | nil => exact ⟨(Nat.min_eq_right hle).symm, rfl⟩
  | cons e es ih =>
    rw [run_cons, naive_step hc, List.length_cons]
    dsimp only
    by_cases hd : s.round = c.L
    · rw [if_pos hd]
      obtain ⟨i1, i2⟩ := ih s hle
      rw [hd, Nat.min_eq_left (Nat.le_add_right _ _)] at i1
      rw [hd, Nat.min_eq_left (Nat.le_add_right _ _)]
      exact ⟨i1, hd ▸ i2⟩
    · rw [if_neg hd]
      obtain ⟨i1, i2⟩ := ih (account c s (allOf (List.range c.K))) (Nat.lt_of_le_of_ne hle hd)
      have hK : (allOf (List.range c.K)).length = c.K := by
        rw [allOf, List.length_map, List.length_range]
      rw [account_round] at i1 i2
      rw [account_sampleCount, hK, Nat.mul_succ] at i2
      exact ⟨by rw [i1, Nat.add_assoc, Nat.add_comm 1], by omega⟩

/-! ### VOGP_AD -/

/-- One VOGP_AD call on a well-formed state: the node list only grows; candidates are old
candidates or fresh nodes; a member of `P` stays unless it is the refined node, whose children
are then all in `P`. -/
theorem ad_step (c : Cfg) (s : State) (e : Env) (hw : WF c s) (hc : c.alg = .vogpAD) :
    (∃ t, (step c s e).1.depths = s.depths ++ t) ∧
    (∀ i ∈ (step c s e).1.S, i ∈ s.S ∨ s.depths.length ≤ i) ∧
    (∀ p ∈ s.P, p ∈ (step c s e).1.P ∨
      ((step c s e).2.refined = some p ∧ p ∉ (step c s e).1.S ∧
        ∀ k ∈ childIds c s.depths.length, k ∈ (step c s e).1.P)) := by
  cases h : isDone c s
  · rw [step_of_not_done e h, active_ad hc]
    have F := adActive_facts c s e hw hc
    cases hr : (adActive c s e).refined with
    | none =>
      obtain ⟨T, hD⟩ := F.plain hr
      exact ⟨⟨[], by simp [hD]⟩, fun i hi => Or.inl (T.sub.subset hi), fun p hp => Or.inl (T.keep p hp)⟩
    | some d =>
      obtain ⟨R, _⟩ := F.refine d hr
      exact ⟨⟨_, R.depths_eq⟩,
        fun i hi => (R.S_from i hi).imp id (fun h1 => ((mem_childIds c _ i).mp h1).1),
        fun p hp => (R.P_keep p hp).imp id
          (fun (h1 : p = d) => h1 ▸ ⟨rfl, h1 ▸ R.notS, R.kidsP (h1 ▸ hp)⟩)⟩
  · rw [step_of_done e h]
    exact ⟨⟨[], by simp⟩, fun i hi => Or.inl hi, fun p hp => Or.inl hp⟩

/-- VOGP_AD, whole run: nodes are never forgotten and every candidate at the end is a candidate of
the start or a node created during the run. -/
theorem ad_run (c : Cfg) (s : State) (es : List Env) (hw : WF c s) (hc : c.alg = .vogpAD) :
    (∃ t, (run c s es).1.depths = s.depths ++ t) ∧
    (∀ i ∈ (run c s es).1.S, i ∈ s.S ∨ s.depths.length ≤ i) := by
  have hel : c.alg.elim = true := by rw [hc]; rfl
  induction es generalizing s with
  | nil => exact ⟨⟨[], (List.append_nil _).symm⟩, fun i hi => Or.inl hi⟩
  | cons e es ih =>
    rw [run_cons]
    obtain ⟨⟨t1, h1⟩, h2, _⟩ := ad_step c s e hw hc
    obtain ⟨⟨t2, h3⟩, h4⟩ := ih _ (wf_step c s e hw hel)
    refine ⟨⟨t1 ++ t2, by rw [h3, h1, List.append_assoc]⟩, fun i hi => ?_⟩
    rcases h4 i hi with h | h
    · exact h2 i h
    · rw [h1, List.length_append] at h
      exact Or.inr (Nat.le_trans (Nat.le_add_right _ _) h)

end VOPy.Run
