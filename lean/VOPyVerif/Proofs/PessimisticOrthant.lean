import VOPyVerif.Proofs.PessimisticRef
import VOPyVerif.Proofs.PessimisticComplete
/-!
# C11: entrywise non-negative cone matrices, e.g. the orthant cone (`W = I`)

A matrix with entries `≥ 0` is monotone, so over `R₂` every facet functional is smallest at
`lower₂`, the first vertex of `R₂`: the vertex test alone is complete, in every dimension.
-/
namespace VOPy.Pess

theorem lower_mem_vertices : ∀ (l u : Vec), l.length = u.length → l ∈ vertices l u
  | [], [], _ => by simp [vertices]
  | a :: l, b :: u, h => by
    have ih := lower_mem_vertices l u (by simpa using h)
    simp only [vertices, List.mem_append, List.mem_map]
    exact Or.inl ⟨l, ih, rfl⟩
  | [], _ :: _, h => by simp at h
  | _ :: _, [], h => by simp at h

theorem identMat_nonneg (m : Nat) : ∀ w ∈ identMat m, ∀ c ∈ w, (0 : Rat) ≤ c := by
  intro w hw c hc
  obtain ⟨i, -, rfl⟩ := List.mem_map.mp hw
  obtain ⟨j, -, rfl⟩ := List.mem_map.mp hc
  split
  · exact zero_le_one
  · exact le_rfl

section Cast
variable {L : Type} [Field L] [LinearOrder L] [IsStrictOrderedRing L]

/-- **Entrywise non-negative `W`, vertices of `R₁`.**  If every vertex `x` of `R₁` has a witness
`y ∈ R₂` (coordinates in `L ⊇ ℚ`) with `w·y ≤ w·x` for every row, the model answers `true` — by the
vertex test at `lower₂`, since `w·lower₂ ≤ w·y`. -/
theorem checkDominates_complete_nonneg_vertices (W : Mat) (hW : ∀ w ∈ W, ∀ c ∈ w, 0 ≤ c)
    (l1 u1 l2 u2 : Vec) (hlen : l2.length = u2.length)
    (hsem : ∀ x ∈ vertices l1 u1, ∃ y : List L, GInBox (castV l2) (castV u2) y ∧
      ∀ w ∈ W, gdot (castV w) y ≤ ((dot w x : Rat) : L)) :
    checkDominates W l1 u1 l2 u2 = true := by
  simp only [checkDominates, checkDominatesR, List.all_map, List.all_eq_true, Function.comp]
  intro x hx
  obtain ⟨y, hy, hd⟩ := hsem x hx
  refine isPtIn_of_vertex (List.mem_map.mpr ⟨l2, lower_mem_vertices l2 u2 hlen, rfl⟩)
    ((vle_matVec W l2 x).mpr fun w hw => ?_)
  have h1 : gdot (castV w : List L) (castV l2) ≤ gdot (castV w) y :=
    gdot_mono _ _ _ (castV_nonneg (hW w hw)) (GInBox.forall₂ hy).1
  rw [gdot_castV, gdot_eq_dot] at h1
  exact Rat.cast_le.mp (h1.trans (hd w hw))

end Cast

end VOPy.Pess
