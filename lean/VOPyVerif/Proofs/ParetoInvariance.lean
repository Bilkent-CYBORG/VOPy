import VOPyVerif.Proofs.ParetoDominates
/-!
# Invariance of the Pareto routines (C13)

`fast_map_congr` / `naive_map_congr`: if a map `f` on the elements carries the relation(s) used on the
*members of the input list* to the relation(s) used on their images, the two routines return the
**same index list** on `xs` and on `xs.map f`.  Translation, positive scaling and a change of the
cone matrix that does not change the order (`f = id`) are instances.

`dominates_rowScale`, `dominates_of_same_rows`: the order of a cone matrix does not change when its
rows are multiplied by positive factors or permuted (or repeated).
-/
namespace VOPy.Pareto

variable {α β : Type}

/-- apply `f` to the element of every (index, element) pair -/
def mapSnd (f : α → β) (l : List (Nat × α)) : List (Nat × β) := l.map (fun e => (e.1, f e.2))

theorem mapSnd_append (f : α → β) (a b : List (Nat × α)) :
    mapSnd f (a ++ b) = mapSnd f a ++ mapSnd f b := by simp [mapSnd]

theorem mapSnd_map_fst (f : α → β) (l : List (Nat × α)) : (mapSnd f l).map (·.1) = l.map (·.1) := by
  simp [mapSnd, Function.comp_def]

theorem indexed_map (f : α → β) (xs : List α) : indexed (xs.map f) = mapSnd f (indexed xs) := by
  simp [indexed, mapSnd, List.zipIdx_map, Function.comp_def]

theorem rm_mapSnd (dom : α → α → Bool) (dom' : β → β → Bool) (f : α → β) (v : Nat × α)
    (l : List (Nat × α)) (h : ∀ e ∈ l, dom' (f v.2) (f e.2) = dom v.2 e.2) :
    rm dom' (v.1, f v.2) (mapSnd f l) = mapSnd f (rm dom v l) := by
  simp only [rm, mapSnd, List.filter_map]
  congr 1
  apply List.filter_congr
  intro e he
  simp only [Function.comp_def]
  rw [h e he]

theorem loop_mapSnd (dom : α → α → Bool) (dom' : β → β → Bool) (f : α → β) :
    ∀ (pre post : List (Nat × α)),
      (∀ e ∈ pre ++ post, ∀ e' ∈ pre ++ post, dom' (f e.2) (f e'.2) = dom e.2 e'.2) →
      loop dom' (mapSnd f pre) (mapSnd f post) = mapSnd f (loop dom pre post) := by
  intro pre post
  induction pre, post using loop.induct dom with
  | case1 pre => intro _; rw [loop, show mapSnd f ([] : List (Nat × α)) = [] from rfl, loop]
  | case2 pre v post ih =>
    intro h
    have hv : v ∈ pre ++ v :: post := List.mem_append_right _ List.mem_cons_self
    have e1 : mapSnd f (v :: post) = (v.1, f v.2) :: mapSnd f post := rfl
    rw [e1, loop, loop,
      rm_mapSnd dom dom' f v pre (fun e he => h v hv e (List.mem_append_left _ he)),
      rm_mapSnd dom dom' f v post
        (fun e he => h v hv e (List.mem_append_right _ (List.mem_cons_of_mem _ he))),
      ← ih (fun e he e' he' => h e ((rm_step_sublist dom v pre post).subset he)
        e' ((rm_step_sublist dom v pre post).subset he')), mapSnd_append]
    rfl

/-- **The fast routine commutes with relation-preserving maps**: same index list. -/
theorem fast_map_congr (dom : α → α → Bool) (dom' : β → β → Bool) (f : α → β) (xs : List α)
    (h : ∀ a ∈ xs, ∀ b ∈ xs, dom' (f a) (f b) = dom a b) :
    fast dom' (xs.map f) = fast dom xs := by
  unfold fast
  rw [indexed_map]
  have := loop_mapSnd dom dom' f [] (indexed xs)
    (fun e he e' he' => h _ (snd_mem_of_mem_indexed he) _ (snd_mem_of_mem_indexed he'))
  rw [show mapSnd f ([] : List (Nat × α)) = [] from rfl] at this
  rw [this, mapSnd_map_fst]

/-- **The naive routine commutes with maps preserving `eqv` and `dom`**: same index list. -/
theorem naive_map_congr (eqv dom : α → α → Bool) (eqv' dom' : β → β → Bool) (f : α → β)
    (xs : List α)
    (hd : ∀ a ∈ xs, ∀ b ∈ xs, dom' (f a) (f b) = dom a b)
    (he : ∀ a ∈ xs, ∀ b ∈ xs, eqv' (f a) (f b) = eqv a b) :
    naive eqv' dom' (xs.map f) = naive eqv dom xs := by
  unfold naive
  rw [indexed_map]
  simp only [mapSnd, List.filter_map, List.map_map]
  have : (fun e : Nat × β => e.1) ∘ (fun e : Nat × α => (e.1, f e.2)) = fun e => e.1 := by
    funext e; rfl
  rw [this]
  congr 1
  apply List.filter_congr
  intro e hmem
  have hex : e.2 ∈ xs := snd_mem_of_mem_indexed hmem
  simp only [Function.comp_def, List.any_map]
  -- the two scans of `xs` apply tests that agree on its members
  refine congrArg (!·) (Bool.eq_iff_iff.mpr ?_)
  simp only [List.any_eq_true, Bool.and_eq_true, Bool.not_eq_true']
  exact exists_congr fun o => and_congr_right fun ho => by rw [he e.2 hex o ho, hd o ho e.2 hex]

end VOPy.Pareto

namespace VOPy
open VOPy.ConeOrd

/-- multiply row `k` of `W` by `cs[k]` -/
def rowScale (cs : Vec) (W : Mat) : Mat := List.zipWith (fun c w => smul c w) cs W

theorem inCone_rowScale (cs : Vec) (W : Mat) (hlen : cs.length = W.length)
    (hpos : ∀ c ∈ cs, 0 < c) (x : Vec) : inCone (rowScale cs W) x = inCone W x :=
  inCone_scaleRows cs W hpos hlen x

/-- **Positive row scaling does not change the order.** -/
theorem dominates_rowScale (cs : Vec) (W : Mat) (hlen : cs.length = W.length)
    (hpos : ∀ c ∈ cs, 0 < c) (a b : Vec) :
    dominates (rowScale cs W) a b = dominates W a b :=
  inCone_rowScale cs W hlen hpos (vsub a b)

/-- **The order depends only on the set of rows**: permuting (or repeating) rows changes nothing. -/
theorem dominates_of_same_rows (W W' : Mat) (h : ∀ w, w ∈ W' ↔ w ∈ W) (a b : Vec) :
    dominates W' a b = dominates W a b := by
  rw [Bool.eq_iff_iff, dominates_iff, dominates_iff]
  exact ⟨fun hh w hw => hh w ((h w).2 hw), fun hh w hw => hh w ((h w).1 hw)⟩

theorem vadd_right_cancel_iff (a b t : Vec) (ha : a.length = t.length) (hb : b.length = t.length) :
    vadd a t = vadd b t ↔ a = b := by
  refine ⟨fun h => ?_, fun h => h ▸ rfl⟩
  induction t generalizing a b with
  | nil => rw [List.eq_nil_of_length_eq_zero ha, List.eq_nil_of_length_eq_zero hb]
  | cons t ts ih =>
    cases a with
    | nil => cases ha
    | cons x a =>
      cases b with
      | nil => cases hb
      | cons y b =>
        injection h with h1 h2
        rw [add_right_cancel h1, ih a b (Nat.succ.inj ha) (Nat.succ.inj hb) h2]

end VOPy
