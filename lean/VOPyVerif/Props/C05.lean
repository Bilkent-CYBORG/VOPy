import VOPyVerif.Proofs.AccuracyRegions
import VOPyVerif.Proofs.IntegrationRect
import VOPyVerif.Proofs.StepsCongr
/-!
# C05 — VOGP / ε-PAL keep ε-isolated optima; `P` is internally non-ε-dominated

Property theorems only.  They are about `Steps.vogpRound` (`discarding` restricted to
`S − pessimistic set` with witnesses from the pessimistic set, then `epsiloncovering` against
`S ∪ P`) iterated by `Accuracy.vogpRun` from `(S, P) = (all, ∅)`, and about the executable
conclusions `Accuracy.keepsIsolated` / `Accuracy.internallyNondom` the driver evaluates on the
final `P` of a real run.  The pessimistic oracle `pessDom` is *arbitrary* in every theorem: the
guarantees hold however complete the pessimistic test is.

* `vogp_invariant` — abstract: isolated designs stay alive, `P` is never dominated beyond the slack
  by a living design — after every number of rounds.
* `vogp_keeps_isolated`, `vogp_P_internally_nondominated` — cone `W`, slack vector `s` (ε·u*).
* `vogp_oracles_sound_of_valid_regions`, `vogp_accurate_of_valid_regions` — from valid displayed regions.
* `epal_keeps_isolated`, `epal_P_internally_nondominated` — ε-PAL: componentwise order, slack ε·𝟙.
* `keepsIsolated_spec`, `internallyNondom_spec` — what the executable checks mean.
-/
namespace VOPy.C05
open VOPy VOPy.Steps VOPy.Accuracy

/-- **Invariant of VOGP / ε-PAL, abstractly.**  For any number of designs, any relations `near j i`
("μ_j + slack ≽ μ_i") and `sd j i` ("μ_j ≽ μ_i + slack"), any pessimistic oracle, and any per-round
oracles such that for living `j ≠ i`: `isDom_r i j → near j i` and `isCov_r i j = false → ¬ sd j i`:
after every number `T` of rounds, every design that no other design is `near` is still in `S ∪ P`,
and no member of `P` is `sd`-dominated by another living design. -/
theorem vogp_invariant {K : Nat} {near sd : Nat → Nat → Prop} (isDom isCov pessDom : Nat → Rel) (T : Nat)
    (hs : ∀ r, r < T → VRoundSound near sd (isDom r) (isCov r)
      (vogpRun K isDom isCov pessDom r).1 (vogpRun K isDom isCov pessDom r).2) :
    let S := (vogpRun K isDom isCov pessDom T).1
    let P := (vogpRun K isDom isCov pessDom T).2
    (∀ i, i < K → (∀ j, j < K → j ≠ i → ¬ near j i) → i ∈ S ∨ i ∈ P) ∧
    (∀ i, i ∈ P → ∀ j, (j ∈ S ∨ j ∈ P) → j ≠ i → ¬ sd j i) ∧
    (∀ x, x ∈ S → x ∉ P) ∧ (∀ x, x ∈ S ∨ x ∈ P → x < K) := by
  have h := vogp_run_inv (near := near) (sd := sd) isDom isCov pessDom T hs
  exact ⟨h.isoKept, h.internal, h.disj, h.lt⟩

/-- **VOGP keeps every ε-isolated design.**  Cone `W`, slack `s` in objective space (`ε·u*`), true
values `μ`.  If in every round `r < T` the oracles are sound at the true values for living designs
(`VRoundSound`) and no candidate is left after round `T`, then every design `i` such that no other
design `j` has `μ_j + s ≽ μ_i` is in the final `P` (`keepsIsolated`).  The proof uses only that a
discard needs a witness `j ≠ i` among `S ∪ P` with `is_dominated(R_i, R_j, s)`. -/
theorem vogp_keeps_isolated (W : Mat) (s : Vec) (K : Nat) (mu : Nat → Vec)
    (isDom isCov pessDom : Nat → Rel) (T : Nat)
    (hs : ∀ r, r < T → VRoundSound (fun j i => dominates W (vadd (mu j) s) (mu i) = true)
      (fun j i => dominates W (mu j) (vadd (mu i) s) = true) (isDom r) (isCov r)
      (vogpRun K isDom isCov pessDom r).1 (vogpRun K isDom isCov pessDom r).2)
    (hfinal : (vogpRun K isDom isCov pessDom T).1 = []) :
    keepsIsolated W s K mu (vogpRun K isDom isCov pessDom T).2 = true := by
  have h := vogp_run_inv isDom isCov pessDom T hs
  rw [keepsIsolated_iff]
  intro i hi hiso
  exact (vinv_final h hfinal).1 i hi fun j hj hne hc => by
    rw [hiso j hj hne] at hc
    exact absurd hc (by simp)

/-- **The returned `P` is internally non-ε-dominated.**  Same hypotheses (termination is not even
needed): for all `i ≠ j` in `P`, `¬ (μ_j ≽ μ_i + s)` (`internallyNondom`) — at the round `i` entered
`P`, `j` was in `S ∪ P` and the covering test failed. -/
theorem vogp_P_internally_nondominated (W : Mat) (s : Vec) (K : Nat) (mu : Nat → Vec)
    (isDom isCov pessDom : Nat → Rel) (T : Nat)
    (hs : ∀ r, r < T → VRoundSound (fun j i => dominates W (vadd (mu j) s) (mu i) = true)
      (fun j i => dominates W (mu j) (vadd (mu i) s) = true) (isDom r) (isCov r)
      (vogpRun K isDom isCov pessDom r).1 (vogpRun K isDom isCov pessDom r).2) :
    internallyNondom W s mu (vogpRun K isDom isCov pessDom T).2 = true := by
  have h := vogp_run_inv isDom isCov pessDom T hs
  rw [internallyNondom_iff]
  intro i hi j hj hne
  have := h.internal i hi j (Or.inr hj) hne
  cases hd : dominates W (mu j) (vadd (mu i) s) with
  | false => rfl
  | true => exact absurd hd this

/-- **Valid rectangles give sound oracles.**  `R r i` is the region displayed for design `i` in round
`r` (all of `S ∪ P` is refreshed every round).  If `is_dominated = True` implies the semantic
`∀∀ z' + s ≽ z`, `is_covered = False` implies `¬ ∃∃ z' ≽ z + s`, and the true value of every
living design is inside its displayed region, every round is `VRoundSound`. -/
theorem vogp_oracles_sound_of_valid_regions (W : Mat) (s : Vec) (K : Nat) (mu : Nat → Vec)
    (R : Nat → Nat → Region) (isDom isCov pessDom : Nat → Rel) (T : Nat)
    (hDom : ∀ r, r < T → ∀ i j, isDom r i j = true → SemDominatedS W s (R r i) (R r j))
    (hCov : ∀ r, r < T → ∀ i j, isCov r i j = false → ¬ SemCoverableS W s (R r i) (R r j))
    (hvalid : ∀ r, r < T → ∀ i,
      (i ∈ (vogpRun K isDom isCov pessDom r).1 ∨ i ∈ (vogpRun K isDom isCov pessDom r).2) →
      R r i (mu i)) :
    ∀ r, r < T → VRoundSound (fun j i => dominates W (vadd (mu j) s) (mu i) = true)
      (fun j i => dominates W (mu j) (vadd (mu i) s) = true) (isDom r) (isCov r)
      (vogpRun K isDom isCov pessDom r).1 (vogpRun K isDom isCov pessDom r).2 :=
  vogp_roundSound_of_valid_regions W s K mu R isDom isCov pessDom T hDom hCov hvalid

/-- **C05 end to end.**  Valid displayed regions in every round, oracles with the semantic meaning
of `is_dominated` / `is_covered`, an arbitrary pessimistic test, and termination imply both
conclusions the driver evaluates on the final `P`. -/
theorem vogp_accurate_of_valid_regions (W : Mat) (s : Vec) (K : Nat) (mu : Nat → Vec)
    (R : Nat → Nat → Region) (isDom isCov pessDom : Nat → Rel) (T : Nat)
    (hDom : ∀ r, r < T → ∀ i j, isDom r i j = true → SemDominatedS W s (R r i) (R r j))
    (hCov : ∀ r, r < T → ∀ i j, isCov r i j = false → ¬ SemCoverableS W s (R r i) (R r j))
    (hvalid : ∀ r, r < T → ∀ i,
      (i ∈ (vogpRun K isDom isCov pessDom r).1 ∨ i ∈ (vogpRun K isDom isCov pessDom r).2) →
      R r i (mu i))
    (hfinal : (vogpRun K isDom isCov pessDom T).1 = []) :
    keepsIsolated W s K mu (vogpRun K isDom isCov pessDom T).2 = true ∧
    internallyNondom W s mu (vogpRun K isDom isCov pessDom T).2 = true :=
  ⟨vogp_keeps_isolated W s K mu isDom isCov pessDom T
      (vogp_roundSound_of_valid_regions W s K mu R isDom isCov pessDom T hDom hCov hvalid) hfinal,
   vogp_P_internally_nondominated W s K mu isDom isCov pessDom T
      (vogp_roundSound_of_valid_regions W s K mu R isDom isCov pessDom T hDom hCov hvalid)⟩

/-- **ε-PAL keeps every ε-isolated design** — the VOGP theorem at the componentwise order
(`identMat m`) with the scalar ε added to every objective (`ε·𝟙`). -/
theorem epal_keeps_isolated (m K : Nat) (eps : Rat) (mu : Nat → Vec)
    (isDom isCov pessDom : Nat → Rel) (T : Nat)
    (hs : ∀ r, r < T → VRoundSound
      (fun j i => dominates (identMat m) (vadd (mu j) (List.replicate m eps)) (mu i) = true)
      (fun j i => dominates (identMat m) (mu j) (vadd (mu i) (List.replicate m eps)) = true)
      (isDom r) (isCov r)
      (vogpRun K isDom isCov pessDom r).1 (vogpRun K isDom isCov pessDom r).2)
    (hfinal : (vogpRun K isDom isCov pessDom T).1 = []) :
    keepsIsolated (identMat m) (List.replicate m eps) K mu (vogpRun K isDom isCov pessDom T).2 = true :=
  vogp_keeps_isolated (identMat m) (List.replicate m eps) K mu isDom isCov pessDom T hs hfinal

/-- **ε-PAL's `P` is internally non-ε-dominated** (slack `ε·𝟙`, componentwise order). -/
theorem epal_P_internally_nondominated (m K : Nat) (eps : Rat) (mu : Nat → Vec)
    (isDom isCov pessDom : Nat → Rel) (T : Nat)
    (hs : ∀ r, r < T → VRoundSound
      (fun j i => dominates (identMat m) (vadd (mu j) (List.replicate m eps)) (mu i) = true)
      (fun j i => dominates (identMat m) (mu j) (vadd (mu i) (List.replicate m eps)) = true)
      (isDom r) (isCov r)
      (vogpRun K isDom isCov pessDom r).1 (vogpRun K isDom isCov pessDom r).2) :
    internallyNondom (identMat m) (List.replicate m eps) mu (vogpRun K isDom isCov pessDom T).2 = true :=
  vogp_P_internally_nondominated (identMat m) (List.replicate m eps) K mu isDom isCov pessDom T hs

/-- `keepsIsolated` says: every design that no other design matches up to the slack is in `P`. -/
theorem keepsIsolated_spec (W : Mat) (s : Vec) (K : Nat) (mu : Nat → Vec) (P : List Nat) :
    keepsIsolated W s K mu P = true ↔
      ∀ i, i < K → (∀ j, j < K → j ≠ i → dominates W (vadd (mu j) s) (mu i) = false) → i ∈ P :=
  keepsIsolated_iff W s K mu P

/-- `internallyNondom` says: no member of `P` is dominated by another member by more than the slack. -/
theorem internallyNondom_spec (W : Mat) (s : Vec) (mu : Nat → Vec) (P : List Nat) :
    internallyNondom W s mu P = true ↔
      ∀ i ∈ P, ∀ j ∈ P, j ≠ i → dominates W (mu j) (vadd (mu i) s) = false :=
  internallyNondom_iff W s mu P

/-! ### non-vacuity: three designs, one discarded, an isolated one kept -/

/-- design 0 lies far below design 1; design 2 is incomparable with both (isolated) -/
private def exMu : Nat → Vec := fun i => ([[0, 0], [2, 2], [-1, 4]] : List Vec).getD i []
/-- region 0 is dominated (with slack) by region 1 -/
private def exDom : Nat → Rel := fun _ i j => i == 0 && j == 1
/-- region 0 can be covered by region 1, nothing else can be covered -/
private def exCov : Nat → Rel := fun _ i j => i == 0 && j == 1
/-- the pessimistic test: region 1 pessimistically dominates region 0 -/
private def exPess : Nat → Rel := fun _ j i => j == 1 && i == 0

/-- The hypotheses of `vogp_keeps_isolated` / `vogp_P_internally_nondominated` are satisfiable with a
non-trivial outcome: orthant cone, slack `(1/4, 1/4)`; design 0 is discarded through the pessimistic
set `{1, 2}`, designs 1 and 2 (both isolated) reach `P`. -/
example :
    vogpRun 3 exDom exCov exPess 1 = ([], [1, 2]) ∧
    keepsIsolated (identMat 2) [1/4, 1/4] 3 exMu (vogpRun 3 exDom exCov exPess 1).2 = true ∧
    internallyNondom (identMat 2) [1/4, 1/4] exMu (vogpRun 3 exDom exCov exPess 1).2 = true := by
  have hs : ∀ r, r < 1 → VRoundSound
      (fun j i => dominates (identMat 2) (vadd (exMu j) [1/4, 1/4]) (exMu i) = true)
      (fun j i => dominates (identMat 2) (exMu j) (vadd (exMu i) [1/4, 1/4]) = true)
      (exDom r) (exCov r) (vogpRun 3 exDom exCov exPess r).1 (vogpRun 3 exDom exCov exPess r).2 := by
    intro r hr
    have : r = 0 := by omega
    subst this
    exact vroundSound_of_check _ _ _ _ _ _ _ (by decide +kernel)
  have hrun : vogpRun 3 exDom exCov exPess 1 = ([], [1, 2]) := by decide +kernel
  exact ⟨hrun, vogp_keeps_isolated _ _ _ _ _ _ _ 1 hs (congrArg Prod.fst hrun),
    vogp_P_internally_nondominated _ _ _ _ _ _ _ 1 hs⟩

/-- the isolation premise is not vacuous in that example: designs 1 and 2 are isolated, design 0 is not -/
example : (List.range 3).filter (isolated (identMat 2) [1/4, 1/4] 3 exMu) = [1, 2] := by
  decide +kernel

end VOPy.C05

/-! # INTEGRATION — end-to-end statements about the executable decision core

The theorems above take the oracles as given.  Here they are *computed* from the displayed
rectangles by the exact geometry models: `Core.rectDom` (`Rect.isDominatedChecked`, the vertex-pair
loop of `is_dominated` with the slack the algorithm passes), `Core.rectCov` (`Covered.rectIsCovered`,
the LP of `is_covered`) and `Core.rectPess` (`Pess.checkDominates`, the real pessimistic test of C11 —
the guarantees hold for any pessimistic oracle, it is instantiated so that the statement is about
the executable core).  `Core.vogpRectCore` is `Accuracy.vogpRun` with those oracles.  The semantic
hypotheses of `vogp_accurate_of_valid_regions` are discharged by C09 (`rect_isDominated_iff`) and
C10 (`rect_isCovered_iff`); what is left is the premise: the true value of every living design lies
in the rectangle displayed for it. -/
namespace VOPy.C05
open VOPy VOPy.Steps VOPy.Accuracy

/-- **C05 end to end on the executable core, any admissible slack.**  Cone matrix `W` (non-empty,
rows of `m` entries), a slack that passes the size guard of the rectangular predicates and is
broadcast to `s` (`Covered.expandSlack m slack = some s`: an `m`-vector as is, a scalar repeated).  If
in every round `r < T` every design of `S ∪ P` has a displayed rectangle of dimension `m` containing
its true value, and `S = ∅` after round `T` of `Core.vogpRectCore`, then every `s`-isolated design is
in the final `P` and `P` is internally non-`s`-dominated. -/
theorem vogp_rect_end_to_end_slack (W : Mat) (slack s : Vec) (m K : Nat) (mu : Nat → Vec)
    (hW : ∀ w ∈ W, w.length = m) (hWne : W ≠ [])
    (hs : Covered.expandSlack m slack = some s)
    (fresh : Nat → Nat → Core.Box) (T : Nat)
    (hvalid : ∀ r, r < T → ∀ i,
      (i ∈ (Core.vogpRectCore W slack K fresh r).1 ∨ i ∈ (Core.vogpRectCore W slack K fresh r).2) →
      (fresh r i).l.length = m ∧ (fresh r i).mem (mu i) = true)
    (hfinal : (Core.vogpRectCore W slack K fresh T).1 = []) :
    keepsIsolated W s K mu (Core.vogpRectCore W slack K fresh T).2 = true ∧
    internallyNondom W s mu (Core.vogpRectCore W slack K fresh T).2 = true := by
  exact vogp_accurate_of_valid_regions W s K mu
    (fun r i z => (fresh r i).l.length = m ∧ (fresh r i).mem z = true)
    (fun k => Core.relOf (Core.rectDom W slack) (fresh k))
    (fun k => Core.relOf (Core.rectCov W slack) (fresh k))
    (fun k => Core.relOf (Core.rectPess W) (fresh k)) T
    (fun r _ i j h z hz z' hz' =>
      Core.rectDom_sound W m hW slack s hs (fresh r i) (fresh r j) z z' hz.1 hz'.1 hz.2 hz'.2 h)
    (fun r _ i j h ⟨z, hz, z', hz', hd⟩ => Bool.false_ne_true
      ((Core.rectCov_sound W m hW hWne slack s hs (fresh r i) (fresh r j) z z' hz.1 hz'.1 hz.2 hz'.2
        h).symm.trans hd))
    hvalid hfinal

/-- **VOGP, end to end on the executable core**: slack `s = ε·u*` (any `m`-vector). -/
theorem vogp_rect_end_to_end (W : Mat) (s : Vec) (m K : Nat) (mu : Nat → Vec)
    (hW : ∀ w ∈ W, w.length = m) (hWne : W ≠ []) (hs : s.length = m)
    (fresh : Nat → Nat → Core.Box) (T : Nat)
    (hvalid : ∀ r, r < T → ∀ i,
      (i ∈ (Core.vogpRectCore W s K fresh r).1 ∨ i ∈ (Core.vogpRectCore W s K fresh r).2) →
      (fresh r i).l.length = m ∧ (fresh r i).mem (mu i) = true)
    (hfinal : (Core.vogpRectCore W s K fresh T).1 = []) :
    keepsIsolated W s K mu (Core.vogpRectCore W s K fresh T).2 = true ∧
    internallyNondom W s mu (Core.vogpRectCore W s K fresh T).2 = true :=
  vogp_rect_end_to_end_slack W s s m K mu hW hWne (Core.expandSlack_self m s hs) fresh T hvalid hfinal

/-- **ε-PAL, end to end on the executable core**: componentwise order (`identMat m`, `m ≥ 1`), the
scalar `ε` passed as the slack (`[ε]`) and broadcast by the guard to `ε·𝟙`. -/
theorem epal_rect_end_to_end (m K : Nat) (hm : 0 < m) (eps : Rat) (mu : Nat → Vec)
    (fresh : Nat → Nat → Core.Box) (T : Nat)
    (hvalid : ∀ r, r < T → ∀ i,
      (i ∈ (Core.vogpRectCore (identMat m) [eps] K fresh r).1 ∨
        i ∈ (Core.vogpRectCore (identMat m) [eps] K fresh r).2) →
      (fresh r i).l.length = m ∧ (fresh r i).mem (mu i) = true)
    (hfinal : (Core.vogpRectCore (identMat m) [eps] K fresh T).1 = []) :
    keepsIsolated (identMat m) (List.replicate m eps) K mu
      (Core.vogpRectCore (identMat m) [eps] K fresh T).2 = true ∧
    internallyNondom (identMat m) (List.replicate m eps) mu
      (Core.vogpRectCore (identMat m) [eps] K fresh T).2 = true := by
  have hW : ∀ w ∈ identMat m, w.length = m := by
    rw [Core.identMat_eq_toMat]; exact Core.toMat_rows _
  have hne : identMat m ≠ [] := by
    rw [Core.identMat_eq_toMat]; exact Core.toMat_ne_nil _ hm
  exact vogp_rect_end_to_end_slack (identMat m) [eps] (List.replicate m eps) m K mu hW hne rfl fresh T
    hvalid hfinal

/-! ### non-vacuity: two rounds evaluated by the kernel, real pessimistic test included -/

private def exBoxes : Nat → Nat → Core.Box := fun r i =>
  let h : Rat := if r = 0 then 2 else 1/8
  ⟨(exMu i).map (· - h), (exMu i).map (· + h)⟩

/-- `vogp_rect_end_to_end` on the acute cone `W = [[2,−1],[−1,2]]` with slack `(1/4,1/4)`: the displayed
rectangles are centred at the true values, half-width 2 in round 0 (nothing decided) and 1/8 in round 1
(design 0 leaves through the computed pessimistic set, designs 1 and 2 — both isolated — reach `P`). -/
example :
    Core.vogpRectCore [[2, -1], [-1, 2]] [1/4, 1/4] 3 exBoxes 1 = ([0, 1, 2], []) ∧
    Core.vogpRectCore [[2, -1], [-1, 2]] [1/4, 1/4] 3 exBoxes 2 = ([], [1, 2]) ∧
    keepsIsolated [[2, -1], [-1, 2]] [1/4, 1/4] 3 exMu
      (Core.vogpRectCore [[2, -1], [-1, 2]] [1/4, 1/4] 3 exBoxes 2).2 = true ∧
    internallyNondom [[2, -1], [-1, 2]] [1/4, 1/4] exMu
      (Core.vogpRectCore [[2, -1], [-1, 2]] [1/4, 1/4] 3 exBoxes 2).2 = true := by
  -- the two rounds and the premise check are evaluated together, so that each round is run once
  suffices h : _ ∧ _ ∧
      Core.vogpPremise (fun b x => decide (b.l.length = 2) && b.mem x) 3 _ _ _ exBoxes exMu 2 = true by
    refine ⟨h.1, h.2.1, ?_⟩
    apply vogp_rect_end_to_end [[2, -1], [-1, 2]] [1/4, 1/4] 2 3 exMu (by decide) (by decide) rfl
    · intro r hr i hi
      simpa only [Bool.and_eq_true, decide_eq_true_eq] using
        Core.vogpPremise_spec _ 3 _ _ _ exBoxes exMu 2 h.2.2 r hr i hi
    · exact congrArg Prod.fst h.2.1
  decide +kernel

/-- `epal_rect_end_to_end`: same rectangles, componentwise order, scalar slack `ε = 1/4`. -/
example :
    Core.vogpRectCore (identMat 2) [1/4] 3 exBoxes 2 = ([], [1, 2]) ∧
    keepsIsolated (identMat 2) (List.replicate 2 (1/4)) 3 exMu
      (Core.vogpRectCore (identMat 2) [1/4] 3 exBoxes 2).2 = true := by
  suffices h : _ ∧
      Core.vogpPremise (fun b x => decide (b.l.length = 2) && b.mem x) 3 _ _ _ exBoxes exMu 2 = true by
    refine ⟨h.1, (epal_rect_end_to_end 2 3 (by norm_num) (1/4) exMu exBoxes 2 ?_
      (congrArg Prod.fst h.1)).1⟩
    intro r hr i hi
    simpa only [Bool.and_eq_true, decide_eq_true_eq] using
      Core.vogpPremise_spec _ 3 _ _ _ exBoxes exMu 2 h.2 r hr i hi
  decide +kernel

/-! ## real true values -/

/-- **C05 on the executable core with real true values.**  `vogp_rect_end_to_end_slack` for true values
that are arbitrary real vectors: if the true value of every living design lies in its displayed
rectangle in every round and `S = ∅` after round `T`, every design that no other design matches up to
the slack (`¬ (μ_j + s ≽ μ_i)` for all `j ≠ i`) is in `P`, and no member of `P` dominates another by
more than the slack — over `ℝ`, with the real pessimistic test inside the core. -/
theorem vogp_rect_end_to_end_real {m N : ℕ} (W : Fin N → Fin m → ℚ) (hN : 0 < N) (slack : Vec)
    (s : Fin m → ℚ) (hs : Covered.expandSlack m slack = some (toVec s)) (K : ℕ) (mu : ℕ → Fin m → ℝ)
    (l u : ℕ → ℕ → Fin m → ℚ) (T : ℕ)
    (hvalid : ∀ r, r < T → ∀ i,
      (i ∈ (Core.vogpRectCore (toMat W) slack K (fun r i => ⟨toVec (l r i), toVec (u r i)⟩) r).1 ∨
        i ∈ (Core.vogpRectCore (toMat W) slack K (fun r i => ⟨toVec (l r i), toVec (u r i)⟩) r).2) →
      ∀ d, (l r i d : ℝ) ≤ mu i d ∧ mu i d ≤ (u r i d : ℝ))
    (hfinal : (Core.vogpRectCore (toMat W) slack K (fun r i => ⟨toVec (l r i), toVec (u r i)⟩) T).1 = []) :
    (∀ i, i < K →
      (∀ j, j < K → j ≠ i → ¬ ∀ n, 0 ≤ ∑ d, (W n d : ℝ) * (mu j d + (s d : ℝ) - mu i d)) →
      i ∈ (Core.vogpRectCore (toMat W) slack K (fun r i => ⟨toVec (l r i), toVec (u r i)⟩) T).2) ∧
    (∀ i ∈ (Core.vogpRectCore (toMat W) slack K (fun r i => ⟨toVec (l r i), toVec (u r i)⟩) T).2,
      ∀ j ∈ (Core.vogpRectCore (toMat W) slack K (fun r i => ⟨toVec (l r i), toVec (u r i)⟩) T).2,
        j ≠ i → ¬ ∀ n, 0 ≤ ∑ d, (W n d : ℝ) * (mu j d - mu i d - (s d : ℝ))) := by
  exact vinv_final (vogp_run_inv _ _ _ T fun r hr =>
    Core.rect_vroundSound_real W hN slack s hs mu (l r) (u r) (hvalid r hr)) hfinal

/-- VOGP instance: the slack is an `m`-vector `s` (`ε·u*`). -/
theorem vogp_rect_end_to_end_real_vec {m N : ℕ} (W : Fin N → Fin m → ℚ) (hN : 0 < N) (s : Fin m → ℚ)
    (K : ℕ) (mu : ℕ → Fin m → ℝ) (l u : ℕ → ℕ → Fin m → ℚ) (T : ℕ)
    (hvalid : ∀ r, r < T → ∀ i,
      (i ∈ (Core.vogpRectCore (toMat W) (toVec s) K (fun r i => ⟨toVec (l r i), toVec (u r i)⟩) r).1 ∨
        i ∈ (Core.vogpRectCore (toMat W) (toVec s) K (fun r i => ⟨toVec (l r i), toVec (u r i)⟩) r).2) →
      ∀ d, (l r i d : ℝ) ≤ mu i d ∧ mu i d ≤ (u r i d : ℝ))
    (hfinal : (Core.vogpRectCore (toMat W) (toVec s) K (fun r i => ⟨toVec (l r i), toVec (u r i)⟩) T).1 = []) :
    (∀ i, i < K →
      (∀ j, j < K → j ≠ i → ¬ ∀ n, 0 ≤ ∑ d, (W n d : ℝ) * (mu j d + (s d : ℝ) - mu i d)) →
      i ∈ (Core.vogpRectCore (toMat W) (toVec s) K (fun r i => ⟨toVec (l r i), toVec (u r i)⟩) T).2) ∧
    (∀ i ∈ (Core.vogpRectCore (toMat W) (toVec s) K (fun r i => ⟨toVec (l r i), toVec (u r i)⟩) T).2,
      ∀ j ∈ (Core.vogpRectCore (toMat W) (toVec s) K (fun r i => ⟨toVec (l r i), toVec (u r i)⟩) T).2,
        j ≠ i → ¬ ∀ n, 0 ≤ ∑ d, (W n d : ℝ) * (mu j d - mu i d - (s d : ℝ))) :=
  vogp_rect_end_to_end_real W hN (toVec s) s (Core.expandSlack_self m _ (by simp)) K mu l u T hvalid hfinal

/-- ε-PAL instance: componentwise order, the scalar `ε` as slack; in coordinates: a design `i` such
that every other design `j` has some objective `d` with `μ_j d + ε < μ_i d` is in `P`, and for
`i ≠ j ∈ P` some objective has `μ_j d < μ_i d + ε`. -/
theorem epal_rect_end_to_end_real {m : ℕ} (hm : 0 < m) (eps : ℚ) (K : ℕ) (mu : ℕ → Fin m → ℝ)
    (l u : ℕ → ℕ → Fin m → ℚ) (T : ℕ)
    (hvalid : ∀ r, r < T → ∀ i,
      (i ∈ (Core.vogpRectCore (identMat m) [eps] K (fun r i => ⟨toVec (l r i), toVec (u r i)⟩) r).1 ∨
        i ∈ (Core.vogpRectCore (identMat m) [eps] K (fun r i => ⟨toVec (l r i), toVec (u r i)⟩) r).2) →
      ∀ d, (l r i d : ℝ) ≤ mu i d ∧ mu i d ≤ (u r i d : ℝ))
    (hfinal : (Core.vogpRectCore (identMat m) [eps] K (fun r i => ⟨toVec (l r i), toVec (u r i)⟩) T).1 = []) :
    (∀ i, i < K → (∀ j, j < K → j ≠ i → ∃ d, mu j d + (eps : ℝ) < mu i d) →
      i ∈ (Core.vogpRectCore (identMat m) [eps] K (fun r i => ⟨toVec (l r i), toVec (u r i)⟩) T).2) ∧
    (∀ i ∈ (Core.vogpRectCore (identMat m) [eps] K (fun r i => ⟨toVec (l r i), toVec (u r i)⟩) T).2,
      ∀ j ∈ (Core.vogpRectCore (identMat m) [eps] K (fun r i => ⟨toVec (l r i), toVec (u r i)⟩) T).2,
        j ≠ i → ∃ d, mu j d < mu i d + (eps : ℝ)) := by
  rw [Core.identMat_eq_toMat] at hvalid hfinal ⊢
  obtain ⟨h1, h2⟩ := vogp_rect_end_to_end_real (Core.idQ m) hm [eps] (fun _ => eps)
    (by rw [toVec_const]; rfl) K mu l u T hvalid hfinal
  constructor
  · intro i hi hiso
    apply h1 i hi
    intro j hj hne hall
    obtain ⟨d, hd⟩ := hiso j hj hne
    have := hall d
    rw [Core.sum_idQ_mul] at this
    exact absurd this (not_le.2 (sub_neg.2 hd))
  · intro i hi j hj hne
    by_contra hno
    apply h2 i hi j hj hne
    intro n
    rw [Core.sum_idQ_mul, sub_sub]
    exact sub_nonneg.2 (not_lt.1 fun h => hno ⟨n, h⟩)

private def rMu : ℕ → Fin 2 → ℚ := fun i => if i = 0 then ![0, 0] else if i = 1 then ![2, 2] else ![-1, 4]

/-- non-vacuity of the real-valued statement: the acute-cone scenario above with the true values cast
to `ℝ`; design 2 (isolated) is in `P`. -/
example :
    2 ∈ (Core.vogpRectCore (toMat ![![2, -1], ![-1, 2]]) (toVec ![1/4, 1/4]) 3
      (fun r i => ⟨toVec (fun d => rMu i d - (if r = 0 then 2 else 1/8)),
        toVec (fun d => rMu i d + (if r = 0 then 2 else 1/8))⟩) 2).2 := by
  refine (vogp_rect_end_to_end_real_vec ![![2, -1], ![-1, 2]] (by norm_num) ![1/4, 1/4] 3
    (fun i d => (rMu i d : ℝ)) (fun r i d => rMu i d - (if r = 0 then 2 else 1/8))
    (fun r i d => rMu i d + (if r = 0 then 2 else 1/8)) 2 ?_ (by decide +kernel)).1 2 (by norm_num) ?_
  · intro r _ i _ d
    have h : (0 : ℚ) ≤ if r = 0 then 2 else 1/8 := by split_ifs <;> norm_num
    exact ⟨Rat.cast_le.2 (sub_le_self _ h), Rat.cast_le.2 (le_add_of_nonneg_right h)⟩
  · intro j hj hne hall
    -- facet 1 fails for both other designs; the inequality is one between rationals
    have h1 : (0 : ℚ) ≤ ∑ d, ![![2, -1], ![-1, 2]] 1 d * (rMu j d + ![1/4, 1/4] d - rMu 2 d) := by
      have := hall 1
      simp only [← Rat.cast_add, ← Rat.cast_sub, ← Rat.cast_mul, ← Rat.cast_sum, Rat.cast_nonneg] at this
      exact this
    have hj' : j = 0 ∨ j = 1 := by omega
    rcases hj' with rfl | rfl
    · exact absurd h1 (by decide +kernel)
    · exact absurd h1 (by decide +kernel)

end VOPy.C05

/-! # INVARIANCE — translation twins of whole runs (see the section of the same name in `Props/C01.lean`) -/
namespace VOPy.C05
open VOPy VOPy.Steps VOPy.Accuracy

/-- **Twin runs of VOGP / ε-PAL.**  If the three oracles (`is_dominated`, `is_covered`, the pessimistic
test) of two runs agree on all pairs of designs `< K` in every round `< T`, the trajectories `(S, P)`
are identical up to round `T`. -/
theorem vogp_translation_twin (K : Nat) (isDom isDom' isCov isCov' pd pd' : Nat → Rel) (T : Nat)
    (h : ∀ r, r < T → ∀ i, i < K → ∀ j, j < K →
      isDom' r i j = isDom r i j ∧ isCov' r i j = isCov r i j ∧ pd' r i j = pd r i j) :
    ∀ t, t ≤ T → vogpRun K isDom' isCov' pd' t = vogpRun K isDom isCov pd t :=
  vogpRun_congr K isDom isDom' isCov isCov' pd pd' T h

/-- **Twin runs of the executable core**: three computed oracles invariant under a transformation `Tr`
of the (well-formed) displayed regions give the identical run. -/
theorem vogp_core_translation_twin {ρ : Type} (Tr : ρ → ρ) (ok : ρ → Prop) (dom cov pess : ρ → ρ → Bool)
    (hd : ∀ a b, ok a → ok b → dom (Tr a) (Tr b) = dom a b)
    (hc : ∀ a b, ok a → ok b → cov (Tr a) (Tr b) = cov a b)
    (hp : ∀ a b, ok a → ok b → pess (Tr a) (Tr b) = pess a b)
    (K : Nat) (fresh : Nat → Nat → ρ) (hfresh : ∀ r i, ok (fresh r i)) :
    Core.vogpCore K dom cov pess (fun r i => Tr (fresh r i)) = Core.vogpCore K dom cov pess fresh :=
  Core.vogpCore_map Tr ok dom cov pess hd hc hp K fresh hfresh

/-- non-vacuity: oracles that differ from the example's only outside the designs `0, 1, 2` -/
example :
    vogpRun 3 (fun r i j => exDom r i j || decide (3 ≤ j)) exCov (fun r j i => exPess r j i || decide (3 ≤ i)) 1 =
      vogpRun 3 exDom exCov exPess 1 :=
  vogp_translation_twin 3 exDom _ exCov _ exPess _ 1
    (fun r _ i hi j hj => by
      have h1 : decide (3 ≤ j) = false := by simp; omega
      simp [h1]) 1 (le_refl _)

end VOPy.C05
