import VOPyVerif.Proofs.SchedulesChi
import VOPyVerif.Proofs.SchedulesRegion
import VOPyVerif.Proofs.SchedulesUnion
import VOPyVerif.Proofs.SchedulesMean
/-!
# C04 — at contraction 1 the confidence schedules are valid with probability ≥ 1 − δ

Property theorems only (helper lemmas: `Proofs/Tails.lean`, `Proofs/Schedules*.lean`).  Every schedule
theorem is about the `RealLike` term of `Model/Schedules.lean` that the driver runs at `Float`
against the real `compute_radius / compute_alpha / compute_beta`, instantiated at `ℝ` with
`conf_contraction = 1`.

Conventions.  `K` = number of designs, `m` = number of objectives, `δ ∈ (0,1)`.  The series index
`t : ℕ` enumerates rounds; PaVeBa, PaVeBaGP, PaVeBaPartialGP and Auer increment `self.round` before
modelling, so their `t`-th round has `self.round = t+1`; VOGP and ε-PAL model first (their `t`-th
round has `self.round = t` and the code itself uses `round + 1`).  Every series statement has the form
`Summable f ∧ ∑' t, f t ≤ δ` (or `HasSum`): summability is proved, never assumed.

Modelling assumptions appear as the *measures* in the statements (they are not axioms):
GP algorithms — the posterior marginal of objective `j` of design `i` in round `t` is
`N(μ t i j, v t i j)` for arbitrary `μ`, `v` (hyper-rectangles), resp. the whitened posterior error
`Σ^{-1/2}(f − μ)` is standard Gaussian on `Fin m → ℝ` (hyper-ellipsoids, see `ell_outside_prob`);
PaVeBa / Auer — the mean of the `t+1` samples of an active design has independent `N(f, σ²/(t+1))`
coordinates (Auer: variance at most `1/(t+1)`).
-/
namespace VOPy.C04
open Real MeasureTheory ProbabilityTheory VOPy VOPy.Sched VOPy.SchedR Matrix
open scoped NNReal

/-! ## Tail bounds -/

/-- **Sharp two-sided Gaussian tail.**  For `X ~ N(μ, v)` (any mean, any variance `v ≥ 0`) and
`c ≥ 0`: `P(|X − μ| > c·√v) ≤ exp(−c²/2)` — constant 1, not the factor 2 of the Chernoff bound;
ε-PAL's schedule sums to exactly `δ` with this constant. -/
theorem gauss_two_sided_tail (μ : ℝ) (v : ℝ≥0) (c : ℝ) (hc : 0 ≤ c) :
    (gaussianReal μ v).real {x | c * √(v:ℝ) < |x - μ|} ≤ rexp (-c^2/2) :=
  Tails.gauss_two_sided μ v c hc

example : (gaussianReal 3 4).real {x | 2 * √((4:ℝ≥0):ℝ) < |x - 3|} ≤ rexp (-2^2/2) :=
  gauss_two_sided_tail 3 4 2 (by norm_num)

/-- **χ²-type tail.**  For the standard Gaussian on `Fin m → ℝ` (`m` i.i.d. `N(0,1)` coordinates):
`P(‖z‖² > x) ≤ 2^{m/2}·exp(−x/4)`, every `m` and every real `x`. -/
theorem chi2_tail (m : ℕ) (x : ℝ) :
    (Measure.pi (fun _ : Fin m => gaussianReal 0 1)).real {z | x < ∑ i, (z i)^2}
      ≤ (2:ℝ)^((m:ℝ)/2) * rexp (-x/4) := by
  have h : (2:ℝ)^((m:ℝ)/2) = (√2)^m := by
    rw [Real.sqrt_eq_rpow, ← Real.rpow_natCast, ← Real.rpow_mul (by norm_num)]
    congr 1; ring
  rw [h]; exact Tails.chi2_tail_std m x

example : (Measure.pi (fun _ : Fin 3 => gaussianReal 0 1)).real {z | 20 < ∑ i, (z i)^2}
    ≤ (2:ℝ)^(((3:ℕ):ℝ)/2) * rexp (-20/4) := chi2_tail 3 20

/-- χ²-type tail for `m` i.i.d. `N(0, s)` coordinates, `s > 0` (the error of a sample mean):
`P(‖z‖² > x) ≤ (√2)^m·exp(−x/(4s))`. -/
theorem chi2_tail_scaled (m : ℕ) (s : ℝ≥0) (hs : s ≠ 0) (x : ℝ) :
    (Measure.pi (fun _ : Fin m => gaussianReal 0 s)).real {z | x < ∑ i, (z i)^2}
      ≤ (√2)^m * rexp (-x/(4*s)) :=
  Tails.chi2_tail_var m s hs x

/-! ## Regions: what a scale becomes -/

/-- **Hyper-rectangle.**  The truth `f` lies in the box that the model's `rectLower/rectUpper`
(= `RectangularConfidenceRegion.update(mean, cov, scale)`: `mean ∓ sqrt(diag cov)·scale`) builds iff
`|f_j − mean_j| ≤ s_j·√cov_jj` for every objective `j`.  Hence "`f` outside the displayed region" is
exactly `∃ j, s_j·√cov_jj < |f_j − mean_j|`, the events summed in the rectangle theorems below. -/
theorem rect_region_iff {m : ℕ} (mean : Fin m → ℝ) (cov : Matrix (Fin m) (Fin m) ℝ)
    (s f : Fin m → ℝ) :
    f ∈ rectRegion mean cov s ↔ ∀ j, |f j - mean j| ≤ s j * √(cov j j) := by
  simp only [rectRegion, Set.mem_ofPred_eq, rect_coord_iff]

example : (![1, 5] : Fin 2 → ℝ) ∈ rectRegion ![0, 4] (1 : Matrix (Fin 2) (Fin 2) ℝ) ![2, 2] := by
  rw [rect_region_iff]; intro j; fin_cases j <;> norm_num

/-- The list-level `rectUpdate` that the driver executes is, coordinate by coordinate, the pair
`rectLower/rectUpper` used in `rectRegion` (any carrier, in particular `Float` and `ℝ`). -/
theorem rectUpdate_coordinatewise {α : Type} [RealLike α] {m : ℕ} (mean covd s : Fin m → α) :
    rectUpdate (List.ofFn mean) (List.ofFn covd) (List.ofFn s)
      = (List.ofFn fun j => rectLower (mean j) (covd j) (s j),
         List.ofFn fun j => rectUpper (mean j) (covd j) (s j)) := by
  induction m with
  | zero => simp [rectUpdate, zipWith3]
  | succ m ih =>
    have ih := ih (fun j => mean j.succ) (fun j => covd j.succ) (fun j => s j.succ)
    simp only [rectUpdate, Prod.mk.injEq] at ih ⊢
    simp only [List.ofFn_succ, zipWith3, ih.1, ih.2, and_self]

/-- **Hyper-ellipsoid.**  `EllipsoidalConfidenceRegion.update` stores `(mean, cov, scale)` unchanged
and the code constrains points by `‖sqrtm(inv(cov))·(x − mean)‖₂ ≤ scale`.  With `W` the whitening
matrix, that set is `{x | (x−c)ᵀ(WᵀW)(x−c) ≤ α²}` (`α ≥ 0`; `WᵀW = Σ⁻¹`): the radius enters
*squared* in the quadratic form, which is why passing `α_t` rather than `√α_t` over-sizes the region. -/
theorem ell_region_iff {m : ℕ} (c x : Fin m → ℝ) (W : Matrix (Fin m) (Fin m) ℝ) (α : ℝ)
    (hα : 0 ≤ α) :
    x ∈ ellRegion c W α ↔ (x - c) ⬝ᵥ ((Wᵀ * W) *ᵥ (x - c)) ≤ α^2 := by
  have hq : (x - c) ⬝ᵥ ((Wᵀ * W) *ᵥ (x - c)) = ∑ j, ((W *ᵥ (x - c)) j)^2 := by
    rw [← Matrix.mulVec_mulVec, Matrix.dotProduct_mulVec, Matrix.vecMul_transpose]
    simp only [dotProduct, pow_two]
  rw [hq, ellRegion, Set.mem_ofPred_eq, Real.sqrt_le_left hα]

/-- With the identity covariance (what PaVeBa's model reports) the ellipsoid is the Euclidean ball
of radius `r` around the sample mean: `f ∈ region ↔ ‖f − c‖₂ ≤ r`. -/
theorem ell_region_ball {m : ℕ} (c x : Fin m → ℝ) (r : ℝ) :
    x ∈ ellRegion c (1 : Matrix (Fin m) (Fin m) ℝ) r ↔ √(∑ j, (x j - c j)^2) ≤ r := by
  simp only [ellRegion, Set.mem_ofPred_eq, Matrix.one_mulVec, Pi.sub_apply]

/-- `ellUpdate` (the model of `EllipsoidalConfidenceRegion.update`) stores centre, covariance and
radius exactly as given. -/
theorem ellUpdate_stores {β : Type} (mean : List β) (cov : List (List β)) (scale : β) :
    (ellUpdate mean cov scale).center = mean ∧ (ellUpdate mean cov scale).sigma = cov ∧
      (ellUpdate mean cov scale).alpha = scale := ⟨rfl, rfl, rfl⟩

/-- **From the posterior to the norm tail.**  If under the law `P` of the unknown value the whitened
error `W(f − c)` is standard Gaussian on `Fin m → ℝ`, then `P(f ∉ ellipsoid(c, W, α))` equals the
standard-Gaussian norm tail `P(‖z‖₂ > α)` that the ellipsoid theorems below sum. -/
theorem ell_outside_prob {m : ℕ} (c : Fin m → ℝ) (W : Matrix (Fin m) (Fin m) ℝ) (α : ℝ)
    (P : Measure (Fin m → ℝ))
    (hP : P.map (fun f => W *ᵥ (f - c)) = Measure.pi (fun _ : Fin m => gaussianReal 0 1)) :
    P.real (ellRegion c W α)ᶜ
      = (Measure.pi (fun _ : Fin m => gaussianReal 0 1)).real {z | α < √(∑ j, (z j)^2)} := by
  have hf : Measurable (fun f : Fin m → ℝ => W *ᵥ (f - c)) := Continuous.measurable (by fun_prop)
  rw [← hP, map_measureReal_apply hf (measurableSet_lt measurable_const (by fun_prop))]
  congr 1
  ext x
  simp only [ellRegion, Set.mem_compl_iff, Set.mem_ofPred_eq, not_le, Set.mem_preimage]

/-! ## VOGP -/

/-- VOGP, explicit chain: with the proven tail bound `exp(−β²/2)` in place of the tail, the series
over all rounds of `K·m·exp(−β_t²/2)` converges to exactly `δ/2`. -/
theorem vogp_union_exp (K m : ℕ) (hK : 1 ≤ K) (hm : 1 ≤ m) (δ : ℝ) (h0 : 0 < δ) (h1 : δ < 1) :
    HasSum (fun t : ℕ => (K:ℝ) * m * rexp (-(vogpBeta t m K δ (1:ℝ))^2/2)) (δ/2) := by
  have h := (hasSum_div_pi_sq (3*δ)).congr_fun (fun t => vogp_term t m K δ hm hK h0 h1)
  rwa [show 3*δ/6 = δ/2 by ring] at h

/-- **VOGP is valid at contraction 1.**  For arbitrary Gaussian posterior marginals
`N(μ t i j, v t i j)`, the sum over all rounds `t = 0,1,…`, designs `i < K` and objectives `j < m`
of the *actual* probabilities that the value lies outside `μ ± β_t·√v`, with `β_t` the code's
`VOGP.compute_beta` at round `t`, converges and is at most `δ` (indeed `δ/2`). -/
theorem vogp_union (K m : ℕ) (hK : 1 ≤ K) (hm : 1 ≤ m) (δ : ℝ) (h0 : 0 < δ) (h1 : δ < 1)
    (μ : ℕ → Fin K → Fin m → ℝ) (v : ℕ → Fin K → Fin m → ℝ≥0) :
    Summable (fun t => ∑ i, ∑ j, (gaussianReal (μ t i j) (v t i j)).real
        {x | vogpBeta t m K δ (1:ℝ) * √(v t i j : ℝ) < |x - μ t i j|}) ∧
    ∑' t, (∑ i, ∑ j, (gaussianReal (μ t i j) (v t i j)).real
        {x | vogpBeta t m K δ (1:ℝ) * √(v t i j : ℝ) < |x - μ t i j|}) ≤ δ := by
  exact union_gauss_le (fun t => vogpBeta t m K δ (1:ℝ)) (fun t => vogpBeta_nonneg t m K δ) μ v
    (fun t => le_rfl) (vogp_union_exp K m hK hm δ h0 h1) (half_le_self h0.le)

example : ∑' t : ℕ, (∑ _i : Fin 32, ∑ _j : Fin 2, (gaussianReal 0 1).real
    {x | vogpBeta t 2 32 (1/10) (1:ℝ) * √((1:ℝ≥0):ℝ) < |x - 0|}) ≤ 1/10 :=
  (vogp_union 32 2 (by norm_num) (by norm_num) (1/10) (by norm_num) (by norm_num)
    (fun _ _ _ => 0) (fun _ _ _ => 1)).2

/-! ## ε-PAL -/

/-- ε-PAL, explicit chain: `∑_t K·m·exp(−β_t²/2) = δ` exactly — no slack; this is why the sharp
constant of `gauss_two_sided_tail` is needed. -/
theorem epal_union_exp (K m : ℕ) (hK : 1 ≤ K) (hm : 1 ≤ m) (δ : ℝ) (h0 : 0 < δ) (h1 : δ < 1) :
    HasSum (fun t : ℕ => (K:ℝ) * m * rexp (-(epalBeta t m K δ (1:ℝ))^2/2)) δ := by
  have h := (hasSum_div_pi_sq (6*δ)).congr_fun (fun t => epal_term t m K δ hm hK h0 h1)
  rwa [mul_div_cancel_left₀ δ (by norm_num : (6:ℝ) ≠ 0)] at h

/-- **ε-PAL is valid at contraction 1**: as `vogp_union` with `EpsilonPAL.compute_beta`; the sum of
the actual outside-probabilities over all rounds, designs and objectives is at most `δ`. -/
theorem epal_union (K m : ℕ) (hK : 1 ≤ K) (hm : 1 ≤ m) (δ : ℝ) (h0 : 0 < δ) (h1 : δ < 1)
    (μ : ℕ → Fin K → Fin m → ℝ) (v : ℕ → Fin K → Fin m → ℝ≥0) :
    Summable (fun t => ∑ i, ∑ j, (gaussianReal (μ t i j) (v t i j)).real
        {x | epalBeta t m K δ (1:ℝ) * √(v t i j : ℝ) < |x - μ t i j|}) ∧
    ∑' t, (∑ i, ∑ j, (gaussianReal (μ t i j) (v t i j)).real
        {x | epalBeta t m K δ (1:ℝ) * √(v t i j : ℝ) < |x - μ t i j|}) ≤ δ := by
  exact union_gauss_le (fun t => epalBeta t m K δ (1:ℝ)) (fun t => epalBeta_nonneg t m K δ) μ v
    (fun t => le_rfl) (epal_union_exp K m hK hm δ h0 h1) le_rfl

example : ∑' t : ℕ, (∑ _i : Fin 500, ∑ _j : Fin 3, (gaussianReal 0 2).real
    {x | epalBeta t 3 500 (1/20) (1:ℝ) * √((2:ℝ≥0):ℝ) < |x - 0|}) ≤ 1/20 :=
  (epal_union 500 3 (by norm_num) (by norm_num) (1/20) (by norm_num) (by norm_num)
    (fun _ _ _ => 0) (fun _ _ _ => 2)).2

/-! ## PaVeBaPartialGP, hyper-rectangle -/

/-- **PaVeBaPartialGP (hyper-rectangle) is valid at contraction 1 for `m ≤ 6`.**  The code passes
`α_t = 2·log(π²t²K/(3δ))` itself (not `√α_t`) as the scale and the schedule carries no factor `m`;
because `log(π²t²K/(3δ)) ≥ 1` the over-sized scale is valid and the sum over rounds (`self.round =
t+1`), designs and objectives of the actual outside-probabilities is at most `3mδ/(2π²) ≤ δ`
exactly when `3m ≤ 2π²`, i.e. `m ≤ 6`. -/
theorem partialgp_rect_union (K m : ℕ) (hK : 1 ≤ K) (hm : m ≤ 6) (δ : ℝ) (h0 : 0 < δ)
    (h1 : δ < 1) (μ : ℕ → Fin K → Fin m → ℝ) (v : ℕ → Fin K → Fin m → ℝ≥0) :
    Summable (fun t => ∑ i, ∑ j, (gaussianReal (μ t i j) (v t i j)).real
        {x | partialGpAlpha (t+1) K δ (1:ℝ) * √(v t i j : ℝ) < |x - μ t i j|}) ∧
    ∑' t, (∑ i, ∑ j, (gaussianReal (μ t i j) (v t i j)).real
        {x | partialGpAlpha (t+1) K δ (1:ℝ) * √(v t i j : ℝ) < |x - μ t i j|}) ≤ δ := by
  have hm' : (m:ℝ) ≤ 6 := by exact_mod_cast hm
  refine union_gauss_le (fun t => partialGpAlpha (t+1) K δ (1:ℝ))
    (fun t => zero_le_two.trans (two_le_partialGpAlpha t K δ hK h0 h1)) μ v
    (fun t => partialgp_rect_term t m K δ hK h0 h1) (hasSum_div_pi_sq (9*m*δ/π^2)) ?_
  rw [div_div, div_le_iff₀ (mul_pos pi_sq_pos (by norm_num))]
  linarith only [mul_le_mul_of_nonneg_right hm' h0.le, mul_lt_mul_of_pos_right pi_sq_gt_nine h0]

example : ∑' t : ℕ, (∑ _i : Fin 100, ∑ _j : Fin 6, (gaussianReal 0 1).real
    {x | partialGpAlpha (t+1) 100 (999/1000) (1:ℝ) * √((1:ℝ≥0):ℝ) < |x - 0|}) ≤ 999/1000 :=
  (partialgp_rect_union 100 6 (by norm_num) (by norm_num) (999/1000) (by norm_num) (by norm_num)
    (fun _ _ _ => 0) (fun _ _ _ => 1)).2

/-! ## Auer -/

/-- Auer, explicit chain: the means of `n = t+1` samples of per-sample variance ≤ 1 have variance
≤ `1/n`, giving the per-coordinate bound `exp(−β_n²·n/2)`; the series of `K·m·exp(−β_n²·n/2)` over
all rounds converges to exactly `δ·π²/24`. -/
theorem auer_union_exp (K m : ℕ) (hK : 1 ≤ K) (hm : 1 ≤ m) (δ : ℝ) (h0 : 0 < δ) (h1 : δ < 1) :
    HasSum (fun t : ℕ => (K:ℝ) * m * rexp (-(auerBeta (t+1) m K δ (1:ℝ))^2 * ((t:ℝ)+1) / 2))
      (δ * π^2 / 24) := by
  have h := hasSum_inv_sq_succ.mul_left (δ/4)
  have e : δ/4 * (π^2/6) = δ * π^2 / 24 := by ring
  rw [e] at h
  exact h.congr_fun (fun t => auer_term t m K δ hm hK h0 h1)

/-- **Auer (original β) is valid at contraction 1.**  Truth `f i j`; in round `n = t+1` the empirical
mean of design `i`, objective `j` is `N(f i j, s t i j)` with `s t i j ≤ 1/(t+1)` (per-sample
variance at most 1, `t+1` samples); the model reports the identity covariance, so the region is
`mean ± β_n`.  The sum over all rounds, designs, objectives of the actual probabilities that the
truth is outside is at most `δ·π²/24 ≤ δ`. -/
theorem auer_union (K m : ℕ) (hK : 1 ≤ K) (hm : 1 ≤ m) (δ : ℝ) (h0 : 0 < δ) (h1 : δ < 1)
    (f : Fin K → Fin m → ℝ) (s : ℕ → Fin K → Fin m → ℝ≥0)
    (hs : ∀ t i j, (s t i j : ℝ) ≤ 1 / ((t:ℝ)+1)) :
    Summable (fun t => ∑ i, ∑ j, (gaussianReal (f i j) (s t i j)).real
        {x | auerBeta (t+1) m K δ (1:ℝ) < |x - f i j|}) ∧
    ∑' t, (∑ i, ∑ j, (gaussianReal (f i j) (s t i j)).real
        {x | auerBeta (t+1) m K δ (1:ℝ) < |x - f i j|}) ≤ δ := by
  refine union_le₂ (fun _ _ _ => measureReal_nonneg)
    (fun t i j => Tails.gauss_abs_tail_of_var_le (f i j) (s t i j) t.cast_add_one_pos (hs t i j)
      (auerBeta_nonneg t m K δ))
    (fun t => le_rfl) (auer_union_exp K m hK hm δ h0 h1) ?_
  have hpi : π^2 ≤ 4^2 := pow_le_pow_left₀ Real.pi_pos.le Real.pi_lt_four.le 2
  rw [mul_div_assoc]
  exact mul_le_of_le_one_right h0.le ((div_le_one (by norm_num)).mpr (hpi.trans (by norm_num)))

example : ∑' t : ℕ, (∑ _i : Fin 10, ∑ _j : Fin 2,
    (gaussianReal 0 (1 / ((t:ℝ≥0)+1))).real {x | auerBeta (t+1) 2 10 (1/10) (1:ℝ) < |x - 0|})
    ≤ 1/10 :=
  (auer_union 10 2 (by norm_num) (by norm_num) (1/10) (by norm_num) (by norm_num)
    (fun _ _ => 0) (fun t _ _ => 1 / ((t:ℝ≥0)+1)) (fun t _ _ => by push_cast; exact le_rfl)).2

/-! ## PaVeBa -/

/-- **PaVeBa is valid at contraction 1** whenever `2^{m/2}·2·δ ≤ 5·(m+1)²·K` (the exact arithmetic
condition under which the `2^{m/2}e^{−x/4}` tail closes; see `paveba_union_of_le` for `m ≤ 20`).
Truth fixed; in round `n = t+1` the error of the sample mean of a design has `m` i.i.d.
`N(0, σ²/(t+1))` coordinates; the region is the Euclidean ball of radius
`r_n = PaVeBa.compute_radius` around the sample mean (identity covariance, `ell_region_ball`).
The sum over all rounds and designs of the actual probabilities `P(‖error‖₂ > r_n)` converges and is
at most `2^{m/2}·(2/5)·δ²/((m+1)²K) ≤ δ`. -/
theorem paveba_union (K m : ℕ) (hK : 1 ≤ K) (δ : ℝ) (h0 : 0 < δ) (h1 : δ < 1)
    (σ2 : ℝ≥0) (hσ : σ2 ≠ 0) (hcond : (√2)^m * 2 * δ ≤ 5 * ((m:ℝ)+1)^2 * K) :
    Summable (fun t : ℕ => ∑ _i : Fin K,
      (Measure.pi (fun _ : Fin m => gaussianReal 0 (σ2 / ((t:ℝ≥0)+1)))).real
        {e | pavebaRadius (σ2:ℝ) (t+1) m K δ (1:ℝ) < √(∑ j, (e j)^2)}) ∧
    ∑' t : ℕ, (∑ _i : Fin K,
      (Measure.pi (fun _ : Fin m => gaussianReal 0 (σ2 / ((t:ℝ≥0)+1)))).real
        {e | pavebaRadius (σ2:ℝ) (t+1) m K δ (1:ℝ) < √(∑ j, (e j)^2)}) ≤ δ := by
  have hK0 : (0:ℝ) < K := Nat.cast_pos.mpr hK
  refine union_le (fun _ _ => measureReal_nonneg)
    (fun t _ => Tails.norm_tail_var m (σ2 / ((t:ℝ≥0)+1)) (by positivity) _
      (pavebaRadius_nonneg t m K δ σ2))
    (fun t => by rw [Fintype.card_fin]; exact (paveba_term t m K δ hK h0 h1 σ2 hσ).le)
    (hasSum_div_pi_four _) ?_
  rw [div_div, div_le_iff₀ (by positivity)]
  linear_combination (18*δ) * hcond

/-- the arithmetic condition of `paveba_union` holds for every `m ≤ 20` (so for `m = 2…6`) -/
theorem paveba_cond_of_le {K m : ℕ} (hK : 1 ≤ K) (hm : m ≤ 20) {δ : ℝ} (h0 : 0 < δ) (h1 : δ < 1) :
    (√2)^m * 2 * δ ≤ 5 * ((m:ℝ)+1)^2 * K := by
  have hn : ∀ m ≤ 20, 2^m * 4 ≤ 25 * (m+1)^4 := by decide
  have hp : 0 ≤ 5 * ((m:ℝ)+1)^2 := by positivity
  have hsq : ((√2)^m * 2)^2 ≤ (5 * ((m:ℝ)+1)^2)^2 := by
    rw [mul_pow, ← pow_mul, mul_comm m 2, pow_mul, Real.sq_sqrt zero_le_two, mul_pow, ← pow_mul]
    exact_mod_cast hn m hm
  have hle : (√2)^m * 2 ≤ 5 * ((m:ℝ)+1)^2 := (sq_le_sq₀ (by positivity) hp).mp hsq
  calc (√2)^m * 2 * δ ≤ 5 * ((m:ℝ)+1)^2 * 1 := mul_le_mul hle h1.le h0.le hp
    _ ≤ 5 * ((m:ℝ)+1)^2 * K := mul_le_mul_of_nonneg_left (Nat.one_le_cast.mpr hK) hp

/-- **PaVeBa, `m ≤ 20`** (in particular the property's range `m = 2…6`): the union bound over all
rounds and designs is at most `δ`, every `K ≥ 1`, `δ ∈ (0,1)`, noise variance `σ² > 0`. -/
theorem paveba_union_of_le (K m : ℕ) (hK : 1 ≤ K) (hm : m ≤ 20) (δ : ℝ) (h0 : 0 < δ) (h1 : δ < 1)
    (σ2 : ℝ≥0) (hσ : σ2 ≠ 0) :
    Summable (fun t : ℕ => ∑ _i : Fin K,
      (Measure.pi (fun _ : Fin m => gaussianReal 0 (σ2 / ((t:ℝ≥0)+1)))).real
        {e | pavebaRadius (σ2:ℝ) (t+1) m K δ (1:ℝ) < √(∑ j, (e j)^2)}) ∧
    ∑' t : ℕ, (∑ _i : Fin K,
      (Measure.pi (fun _ : Fin m => gaussianReal 0 (σ2 / ((t:ℝ≥0)+1)))).real
        {e | pavebaRadius (σ2:ℝ) (t+1) m K δ (1:ℝ) < √(∑ j, (e j)^2)}) ≤ δ :=
  paveba_union K m hK δ h0 h1 σ2 hσ (paveba_cond_of_le hK hm h0 h1)

example : ∑' t : ℕ, (∑ _i : Fin 50,
      (Measure.pi (fun _ : Fin 6 => gaussianReal 0 ((1/100 : ℝ≥0) / ((t:ℝ≥0)+1)))).real
        {e | pavebaRadius (((1/100 : ℝ≥0)):ℝ) (t+1) 6 50 (1/20) (1:ℝ) < √(∑ j, (e j)^2)}) ≤ 1/20 :=
  (paveba_union_of_le 50 6 (by norm_num) (by norm_num) (1/20) (by norm_num) (by norm_num)
    (1/100) (by norm_num)).2

/-! ## PaVeBaGP -/

/-- **The PaVeBaGP scale is over-sized, not under-sized.**  The code feeds `α_t` where the analysis
uses `√α_t`; at contraction 1, `α_t ≥ 8m·log 6 ≥ 8 > 1` (for `m = 2`: `≥ 16·log 6`), hence
`√α_t ≤ α_t`: the displayed regions contain the regions of the analysis. -/
theorem pavebagp_scale_oversized (t K m : ℕ) (hK : 1 ≤ K) (hm : 1 ≤ m) (δ : ℝ) (h0 : 0 < δ)
    (h1 : δ < 1) :
    8 * (m:ℝ) * Real.log 6 ≤ pavebaGpAlpha (t+1) m K δ (1:ℝ) ∧
    √(pavebaGpAlpha (t+1) m K δ (1:ℝ)) ≤ pavebaGpAlpha (t+1) m K δ (1:ℝ) := by
  have h8 := (pavebaGpAlpha_ge t m K δ hm hK h0 h1).1
  refine ⟨?_, (Real.sqrt_le_left (by linarith only [h8])).mpr
    (le_self_pow₀ (by linarith only [h8]) two_ne_zero)⟩
  have hL := Real.log_nonneg (one_le_pavebagp_arg t K δ hK h0 h1)
  rw [pavebaGpAlpha_real]; push_cast
  exact le_add_of_nonneg_right (mul_nonneg zero_le_four hL)

/-- The PaVeBaPartialGP scale `α_t = 2·log(π²t²K/(3δ))` is at least 2 at contraction 1, hence
`√α_t ≤ α_t`: feeding `α_t` instead of `√α_t` over-sizes the region. -/
theorem partialgp_scale_oversized (t K : ℕ) (hK : 1 ≤ K) (δ : ℝ) (h0 : 0 < δ) (h1 : δ < 1) :
    2 ≤ partialGpAlpha (t+1) K δ (1:ℝ) ∧
    √(partialGpAlpha (t+1) K δ (1:ℝ)) ≤ partialGpAlpha (t+1) K δ (1:ℝ) := by
  have h2 := two_le_partialGpAlpha t K δ hK h0 h1
  exact ⟨h2, (Real.sqrt_le_left (by linarith)).mpr (le_self_pow₀ (by linarith) two_ne_zero)⟩

/-- **PaVeBaGP, type IH (hyper-rectangles), is valid at contraction 1.**  The code passes
`α_t = 8m·log 6 + 4·log(π²t²K/(6δ))` itself as the scale (half-widths `α_t·√v`), where the analysis
would use `√α_t`; since `α_t ≥ 8m·log 6 ≥ 2` the over-sized scale is valid: the sum over rounds
(`self.round = t+1`), designs and objectives of the actual outside-probabilities is at most `δ`. -/
theorem pavebagp_rect_union (K m : ℕ) (hK : 1 ≤ K) (hm : 1 ≤ m) (δ : ℝ) (h0 : 0 < δ)
    (h1 : δ < 1) (μ : ℕ → Fin K → Fin m → ℝ) (v : ℕ → Fin K → Fin m → ℝ≥0) :
    Summable (fun t => ∑ i, ∑ j, (gaussianReal (μ t i j) (v t i j)).real
        {x | pavebaGpAlpha (t+1) m K δ (1:ℝ) * √(v t i j : ℝ) < |x - μ t i j|}) ∧
    ∑' t, (∑ i, ∑ j, (gaussianReal (μ t i j) (v t i j)).real
        {x | pavebaGpAlpha (t+1) m K δ (1:ℝ) * √(v t i j : ℝ) < |x - μ t i j|}) ≤ δ := by
  exact union_gauss_le (fun t => pavebaGpAlpha (t+1) m K δ (1:ℝ))
    (fun t => pavebaGpAlpha_nonneg t m K δ hm hK h0 h1) μ v
    (fun t => (mul_assoc _ _ _).trans_le (pavebagp_term t m K δ
      ((le_add_of_nonneg_right zero_le_one).trans (Real.add_one_le_exp _)) two_pos (by norm_num)
      hm hK h0 h1)) (hasSum_div_pi_sq (6*δ))
    (mul_div_cancel_left₀ δ (by norm_num)).le

example : ∑' t : ℕ, (∑ _i : Fin 7, ∑ _j : Fin 2, (gaussianReal 0 1).real
    {x | pavebaGpAlpha (t+1) 2 7 (1/2) (1:ℝ) * √((1:ℝ≥0):ℝ) < |x - 0|}) ≤ 1/2 :=
  (pavebagp_rect_union 7 2 (by norm_num) (by norm_num) (1/2) (by norm_num) (by norm_num)
    (fun _ _ _ => 0) (fun _ _ _ => 1)).2

/-- **PaVeBaGP, type DE (hyper-ellipsoids), is valid at contraction 1.**  The ellipsoid has radius
`α_t` (quadratic form `≤ α_t²`, `ell_region_iff`) where the analysis uses `≤ α_t`; since
`α_t ≥ 8m·log 6 ≥ 4` the over-sized region is valid: with the whitened posterior error standard
Gaussian on `Fin m → ℝ` (`ell_outside_prob`), the sum over all rounds and designs of the actual
probabilities `P(‖z‖₂ > α_t)` converges and is at most `δ`. -/
theorem pavebagp_ell_union (K m : ℕ) (hK : 1 ≤ K) (hm : 1 ≤ m) (δ : ℝ) (h0 : 0 < δ)
    (h1 : δ < 1) :
    Summable (fun t : ℕ => ∑ _i : Fin K, (Measure.pi (fun _ : Fin m => gaussianReal 0 1)).real
        {z | pavebaGpAlpha (t+1) m K δ (1:ℝ) < √(∑ j, (z j)^2)}) ∧
    ∑' t : ℕ, (∑ _i : Fin K, (Measure.pi (fun _ : Fin m => gaussianReal 0 1)).real
        {z | pavebaGpAlpha (t+1) m K δ (1:ℝ) < √(∑ j, (z j)^2)}) ≤ δ := by
  exact union_le (fun _ _ => measureReal_nonneg)
    (fun t _ => Tails.norm_tail_std m _ (pavebaGpAlpha_nonneg t m K δ hm hK h0 h1))
    (fun t => by
      rw [Fintype.card_fin]
      exact pavebagp_term t m K δ (sqrt_two_pow_le_exp m) four_pos (by norm_num) hm hK h0 h1)
    (hasSum_div_pi_sq (6*δ)) (mul_div_cancel_left₀ δ (by norm_num)).le

example : ∑' t : ℕ, (∑ _i : Fin 1000, (Measure.pi (fun _ : Fin 3 => gaussianReal 0 1)).real
    {z | pavebaGpAlpha (t+1) 3 1000 (1/10) (1:ℝ) < √(∑ j, (z j)^2)}) ≤ 1/10 :=
  (pavebagp_ell_union 1000 3 (by norm_num) (by norm_num) (1/10) (by norm_num) (by norm_num)).2

/-! ## PaVeBaPartialGP, hyper-ellipsoid -/

/-- PaVeBaPartialGP (hyper-ellipsoid), general form: under the arithmetic condition
`2^{m/2}·exp(−L₁(L₁−1)) ≤ 2` with `L₁ = log(π²K/(3δ))` the sum over all rounds and designs of the
actual probabilities `P(‖z‖₂ > α_t)`, `α_t = 2·log(π²t²K/(3δ))` the code's radius, is at most `δ`. -/
theorem partialgp_ell_union_of_cond (K m : ℕ) (hK : 1 ≤ K) (δ : ℝ) (h0 : 0 < δ) (h1 : δ < 1)
    (hc : (√2)^m * rexp (-(Real.log (π^2 * K / (3*δ)) * (Real.log (π^2 * K / (3*δ)) - 1))) ≤ 2) :
    Summable (fun t : ℕ => ∑ _i : Fin K, (Measure.pi (fun _ : Fin m => gaussianReal 0 1)).real
        {z | partialGpAlpha (t+1) K δ (1:ℝ) < √(∑ j, (z j)^2)}) ∧
    ∑' t : ℕ, (∑ _i : Fin K, (Measure.pi (fun _ : Fin m => gaussianReal 0 1)).real
        {z | partialGpAlpha (t+1) K δ (1:ℝ) < √(∑ j, (z j)^2)}) ≤ δ := by
  exact union_le (fun _ _ => measureReal_nonneg)
    (fun t _ => Tails.norm_tail_std m _
      (zero_le_two.trans (two_le_partialGpAlpha t K δ hK h0 h1)))
    (fun t => by rw [Fintype.card_fin]; exact partialgp_ell_term t m K δ hK h0 h1 hc)
    (hasSum_div_pi_sq (6*δ)) (mul_div_cancel_left₀ δ (by norm_num)).le

/- FULL STATEMENT (not proved; true numerically — worst ratio sum/δ ≈ 0.46 at K = 1, m = 6, δ → 1 —
and covered by the numeric scan of the harness, which is a test):

  theorem partialgp_ell_union (K m : ℕ) (hK : 1 ≤ K) (hm : m ≤ 6) (δ : ℝ) (h0 : 0 < δ) (h1 : δ < 1) :
      Summable (fun t : ℕ => ∑ _i : Fin K, (Measure.pi (fun _ : Fin m => gaussianReal 0 1)).real
          {z | partialGpAlpha (t+1) K δ (1:ℝ) < √(∑ j, (z j)^2)}) ∧
      ∑' t : ℕ, (∑ _i : Fin K, (Measure.pi (fun _ : Fin m => gaussianReal 0 1)).real
          {z | partialGpAlpha (t+1) K δ (1:ℝ) < √(∑ j, (z j)^2)}) ≤ δ

What is proved below covers everything except `K = 1 ∧ δ > 1/2 ∧ 3 ≤ m ≤ 6`.  There, for δ close to 1,
the first-round radius² `4·log²(π²/(3δ))` is below `m`, where every Chernoff-type bound of the χ²_m
tail is trivial; closing the gap needs the exact χ²_m survival function. -/

/-- **PaVeBaPartialGP (hyper-ellipsoid), partial:** valid at contraction 1 for `m ≤ 6` whenever
`2δ ≤ K` — that is, for every `δ ∈ (0,1)` as soon as there are `K ≥ 2` designs, and for `δ ≤ 1/2`
when `K = 1`.  Missing from the full statement above: only `K = 1` with `δ ∈ (1/2, 1)` and
`3 ≤ m ≤ 6` (`partialgp_ell_union_two` covers `m ≤ 2` for every `K`, `δ`). -/
theorem partialgp_ell_union_partial (K m : ℕ) (hK : 1 ≤ K) (hm : m ≤ 6) (δ : ℝ) (h0 : 0 < δ)
    (h1 : δ < 1) (h2 : 2 * δ ≤ K) :
    Summable (fun t : ℕ => ∑ _i : Fin K, (Measure.pi (fun _ : Fin m => gaussianReal 0 1)).real
        {z | partialGpAlpha (t+1) K δ (1:ℝ) < √(∑ j, (z j)^2)}) ∧
    ∑' t : ℕ, (∑ _i : Fin K, (Measure.pi (fun _ : Fin m => gaussianReal 0 1)).real
        {z | partialGpAlpha (t+1) K δ (1:ℝ) < √(∑ j, (z j)^2)}) ≤ δ :=
  partialgp_ell_union_of_cond K m hK δ h0 h1 (partialgp_ell_cond_half hm h0 h2)

/-- PaVeBaPartialGP (hyper-ellipsoid), `m ≤ 2`: valid at contraction 1 for every `δ ∈ (0,1)`. -/
theorem partialgp_ell_union_two (K m : ℕ) (hK : 1 ≤ K) (hm : m ≤ 2) (δ : ℝ) (h0 : 0 < δ)
    (h1 : δ < 1) :
    Summable (fun t : ℕ => ∑ _i : Fin K, (Measure.pi (fun _ : Fin m => gaussianReal 0 1)).real
        {z | partialGpAlpha (t+1) K δ (1:ℝ) < √(∑ j, (z j)^2)}) ∧
    ∑' t : ℕ, (∑ _i : Fin K, (Measure.pi (fun _ : Fin m => gaussianReal 0 1)).real
        {z | partialGpAlpha (t+1) K δ (1:ℝ) < √(∑ j, (z j)^2)}) ≤ δ :=
  partialgp_ell_union_of_cond K m hK δ h0 h1 (partialgp_ell_cond_two hm hK h0 h1)

example : ∑' t : ℕ, (∑ _i : Fin 20, (Measure.pi (fun _ : Fin 6 => gaussianReal 0 1)).real
    {z | partialGpAlpha (t+1) 20 (1/2) (1:ℝ) < √(∑ j, (z j)^2)}) ≤ 1/2 :=
  (partialgp_ell_union_partial 20 6 (by norm_num) (by norm_num) (1/2) (by norm_num) (by norm_num)
    (by norm_num)).2

example : ∑' t : ℕ, (∑ _i : Fin 2, (Measure.pi (fun _ : Fin 6 => gaussianReal 0 1)).real
    {z | partialGpAlpha (t+1) 2 (999/1000) (1:ℝ) < √(∑ j, (z j)^2)}) ≤ 999/1000 :=
  (partialgp_ell_union_partial 2 6 (by norm_num) (by norm_num) (999/1000) (by norm_num)
    (by norm_num) (by norm_num)).2

/-! ## From the union-bound sums to "with probability ≥ 1 − δ" -/

/-- **Coverage from a union bound** (any probability space).  `E t i j` = "in round `t` the value of
design `i`, objective `j` is outside its region".  If the series `∑_t ∑_i ∑_j P(E t i j)` converges
and is `≤ δ` — what every `*_union` theorem above establishes for its schedule — then with
probability `≥ 1 − δ` no value is ever outside its region. -/
theorem coverage_of_union_bound {Ω : Type*} [MeasurableSpace Ω] (P : Measure Ω)
    [IsProbabilityMeasure P] {K m : ℕ} (E : ℕ → Fin K → Fin m → Set Ω)
    (hE : ∀ t i j, MeasurableSet (E t i j)) {δ : ℝ}
    (hs : Summable fun t => ∑ i, ∑ j, P.real (E t i j))
    (hle : ∑' t, ∑ i, ∑ j, P.real (E t i j) ≤ δ) :
    1 - δ ≤ P.real {ω | ∀ t i j, ω ∉ E t i j} :=
  SchedR.coverage_of_union_bound P E hE hs hle

/-- **VOGP: valid with probability ≥ 1 − δ.**  On any probability space, let `X t i j` be the value
of objective `j` at design `i` as seen in round `t`, with law `N(μ t i j, v t i j)` (means and
variances deterministic).  Then with probability at least `1 − δ`, in every round, for every design
and objective, the value lies in the displayed interval `μ ± β_t·√v` built from the code's
`VOGP.compute_beta` at contraction 1 (`rect_region_iff`). -/
theorem vogp_valid {Ω : Type*} [MeasurableSpace Ω] (P : Measure Ω) [IsProbabilityMeasure P]
    (K m : ℕ) (hK : 1 ≤ K) (hm : 1 ≤ m) (δ : ℝ) (h0 : 0 < δ) (h1 : δ < 1)
    (X : ℕ → Fin K → Fin m → Ω → ℝ) (hX : ∀ t i j, Measurable (X t i j))
    (μ : ℕ → Fin K → Fin m → ℝ) (v : ℕ → Fin K → Fin m → ℝ≥0)
    (hlaw : ∀ t i j, P.map (X t i j) = gaussianReal (μ t i j) (v t i j)) :
    1 - δ ≤ P.real {ω | ∀ t i j,
      |X t i j ω - μ t i j| ≤ vogpBeta t m K δ (1:ℝ) * √(v t i j : ℝ)} :=
  gauss_coverage P (fun t => vogpBeta t m K δ (1:ℝ)) X hX μ v hlaw
    (vogp_union K m hK hm δ h0 h1 μ v)

/-- **ε-PAL: valid with probability ≥ 1 − δ** (same setting as `vogp_valid`). -/
theorem epal_valid {Ω : Type*} [MeasurableSpace Ω] (P : Measure Ω) [IsProbabilityMeasure P]
    (K m : ℕ) (hK : 1 ≤ K) (hm : 1 ≤ m) (δ : ℝ) (h0 : 0 < δ) (h1 : δ < 1)
    (X : ℕ → Fin K → Fin m → Ω → ℝ) (hX : ∀ t i j, Measurable (X t i j))
    (μ : ℕ → Fin K → Fin m → ℝ) (v : ℕ → Fin K → Fin m → ℝ≥0)
    (hlaw : ∀ t i j, P.map (X t i j) = gaussianReal (μ t i j) (v t i j)) :
    1 - δ ≤ P.real {ω | ∀ t i j,
      |X t i j ω - μ t i j| ≤ epalBeta t m K δ (1:ℝ) * √(v t i j : ℝ)} :=
  gauss_coverage P (fun t => epalBeta t m K δ (1:ℝ)) X hX μ v hlaw
    (epal_union K m hK hm δ h0 h1 μ v)

/-- **PaVeBaGP (IH): valid with probability ≥ 1 − δ** (setting of `vogp_valid`, `self.round = t+1`,
half-widths `α_t·√v` as the code builds them). -/
theorem pavebagp_rect_valid {Ω : Type*} [MeasurableSpace Ω] (P : Measure Ω)
    [IsProbabilityMeasure P] (K m : ℕ) (hK : 1 ≤ K) (hm : 1 ≤ m) (δ : ℝ) (h0 : 0 < δ) (h1 : δ < 1)
    (X : ℕ → Fin K → Fin m → Ω → ℝ) (hX : ∀ t i j, Measurable (X t i j))
    (μ : ℕ → Fin K → Fin m → ℝ) (v : ℕ → Fin K → Fin m → ℝ≥0)
    (hlaw : ∀ t i j, P.map (X t i j) = gaussianReal (μ t i j) (v t i j)) :
    1 - δ ≤ P.real {ω | ∀ t i j,
      |X t i j ω - μ t i j| ≤ pavebaGpAlpha (t+1) m K δ (1:ℝ) * √(v t i j : ℝ)} :=
  gauss_coverage P (fun t => pavebaGpAlpha (t+1) m K δ (1:ℝ)) X hX μ v hlaw
    (pavebagp_rect_union K m hK hm δ h0 h1 μ v)

/-- **PaVeBaPartialGP (hyper-rectangle), `m ≤ 6`: valid with probability ≥ 1 − δ.** -/
theorem partialgp_rect_valid {Ω : Type*} [MeasurableSpace Ω] (P : Measure Ω)
    [IsProbabilityMeasure P] (K m : ℕ) (hK : 1 ≤ K) (hm : m ≤ 6) (δ : ℝ) (h0 : 0 < δ) (h1 : δ < 1)
    (X : ℕ → Fin K → Fin m → Ω → ℝ) (hX : ∀ t i j, Measurable (X t i j))
    (μ : ℕ → Fin K → Fin m → ℝ) (v : ℕ → Fin K → Fin m → ℝ≥0)
    (hlaw : ∀ t i j, P.map (X t i j) = gaussianReal (μ t i j) (v t i j)) :
    1 - δ ≤ P.real {ω | ∀ t i j,
      |X t i j ω - μ t i j| ≤ partialGpAlpha (t+1) K δ (1:ℝ) * √(v t i j : ℝ)} :=
  gauss_coverage P (fun t => partialGpAlpha (t+1) K δ (1:ℝ)) X hX μ v hlaw
    (partialgp_rect_union K m hK hm δ h0 h1 μ v)

/-- **Auer (original β): valid with probability ≥ 1 − δ.**  `X t i j` = empirical mean of objective
`j` of design `i` after `t+1` samples, law `N(f i j, s t i j)` with `s t i j ≤ 1/(t+1)` (per-sample
variance ≤ 1).  With probability `≥ 1 − δ` the truth `f i j` is within `β_{t+1}` of the empirical
mean (the displayed region, identity covariance) in every round, for every design and objective. -/
theorem auer_valid {Ω : Type*} [MeasurableSpace Ω] (P : Measure Ω) [IsProbabilityMeasure P]
    (K m : ℕ) (hK : 1 ≤ K) (hm : 1 ≤ m) (δ : ℝ) (h0 : 0 < δ) (h1 : δ < 1)
    (f : Fin K → Fin m → ℝ) (s : ℕ → Fin K → Fin m → ℝ≥0)
    (hs : ∀ t i j, (s t i j : ℝ) ≤ 1 / ((t:ℝ)+1))
    (X : ℕ → Fin K → Fin m → Ω → ℝ) (hX : ∀ t i j, Measurable (X t i j))
    (hlaw : ∀ t i j, P.map (X t i j) = gaussianReal (f i j) (s t i j)) :
    1 - δ ≤ P.real {ω | ∀ t i j, |X t i j ω - f i j| ≤ auerBeta (t+1) m K δ (1:ℝ)} := by
  exact law_coverage₂ P X hX _ hlaw (fun t i j x => |x - f i j|) (fun t i j => by fun_prop) _
    (auer_union K m hK hm δ h0 h1 f s hs)

/-- **Auer from the sampling model.**  `Y i j k` = `k`-th noisy observation of objective `j` of
design `i`: independent over `k`, law `N(f i j, v i j)` with `v i j ≤ 1` (nothing is assumed about
dependence between designs or objectives).  The empirical mean after `t+1` samples is then
`N(f, v/(t+1))` (`sample_mean_gaussian`), so with probability `≥ 1 − δ` every empirical mean stays
within `β_{t+1}` (the code's `Auer.compute_beta`, contraction 1) of the truth, in all rounds. -/
theorem auer_valid_iid {Ω : Type*} [MeasurableSpace Ω] (P : Measure Ω) [IsProbabilityMeasure P]
    (K m : ℕ) (hK : 1 ≤ K) (hm : 1 ≤ m) (δ : ℝ) (h0 : 0 < δ) (h1 : δ < 1)
    (f : Fin K → Fin m → ℝ) (v : Fin K → Fin m → ℝ≥0) (hv : ∀ i j, v i j ≤ 1)
    (Y : Fin K → Fin m → ℕ → Ω → ℝ) (hY : ∀ i j k, Measurable (Y i j k))
    (hind : ∀ i j, iIndepFun (Y i j) P)
    (hlaw : ∀ i j k, P.map (Y i j k) = gaussianReal (f i j) (v i j)) :
    1 - δ ≤ P.real {ω | ∀ t i j,
      |(∑ k ∈ Finset.range (t+1), Y i j k ω) / ((t+1 : ℕ):ℝ) - f i j|
        ≤ auerBeta (t+1) m K δ (1:ℝ)} := by
  refine auer_valid P K m hK hm δ h0 h1 f (fun t i j => v i j / ((t+1 : ℕ) : ℝ≥0)) ?_
    (fun t i j ω => (∑ k ∈ Finset.range (t+1), Y i j k ω) / ((t+1 : ℕ):ℝ)) ?_ ?_
  · intro t i j
    push_cast
    have hv' : ((v i j : ℝ≥0) : ℝ) ≤ 1 := by exact_mod_cast hv i j
    exact div_le_div_of_nonneg_right hv' (by positivity)
  · intro t i j
    exact (Finset.measurable_sum _ (fun k _ => hY i j k)).div_const _
  · intro t i j
    exact sample_mean_gaussian P (Y i j) (hY i j) (hind i j) (f i j) (v i j) (hlaw i j) (t+1)
      (Nat.succ_pos t)

/-- **PaVeBa: valid with probability ≥ 1 − δ** (under the arithmetic condition of `paveba_union`,
which holds for `m ≤ 20`, `paveba_cond_of_le`).  `e t i` = error (sample mean − truth) of design `i`
after `t+1` samples, with `m` i.i.d. `N(0, σ²/(t+1))` coordinates.  With probability `≥ 1 − δ`,
`‖e t i‖₂ ≤ r_{t+1}` in every round for every design, i.e. (`ell_region_ball`) the truth is always
inside the displayed ball. -/
theorem paveba_valid {Ω : Type*} [MeasurableSpace Ω] (P : Measure Ω) [IsProbabilityMeasure P]
    (K m : ℕ) (hK : 1 ≤ K) (δ : ℝ) (h0 : 0 < δ) (h1 : δ < 1) (σ2 : ℝ≥0) (hσ : σ2 ≠ 0)
    (hcond : (√2)^m * 2 * δ ≤ 5 * ((m:ℝ)+1)^2 * K)
    (e : ℕ → Fin K → Ω → (Fin m → ℝ)) (he : ∀ t i, Measurable (e t i))
    (hlaw : ∀ t i, P.map (e t i)
      = Measure.pi (fun _ : Fin m => gaussianReal 0 (σ2 / ((t:ℝ≥0)+1)))) :
    1 - δ ≤ P.real {ω | ∀ t i,
      √(∑ j, (e t i ω j)^2) ≤ pavebaRadius (σ2:ℝ) (t+1) m K δ (1:ℝ)} := by
  exact law_coverage P e he _ hlaw (fun _ _ y => √(∑ j, (y j)^2)) (fun _ _ => by fun_prop) _
    (paveba_union K m hK δ h0 h1 σ2 hσ hcond)

/-- **PaVeBaGP (DE): valid with probability ≥ 1 − δ.**  `z t i` = whitened posterior error
`Σ^{-1/2}(f − μ)` of design `i` in round `t+1`, standard Gaussian on `Fin m → ℝ`.  With probability
`≥ 1 − δ`, `‖z t i‖₂ ≤ α_{t+1}` always, i.e. (`ell_outside_prob`, `ell_region_iff`) the value is
always inside the displayed ellipsoid of radius `α_t`. -/
theorem pavebagp_ell_valid {Ω : Type*} [MeasurableSpace Ω] (P : Measure Ω)
    [IsProbabilityMeasure P] (K m : ℕ) (hK : 1 ≤ K) (hm : 1 ≤ m) (δ : ℝ) (h0 : 0 < δ) (h1 : δ < 1)
    (z : ℕ → Fin K → Ω → (Fin m → ℝ)) (hz : ∀ t i, Measurable (z t i))
    (hlaw : ∀ t i, P.map (z t i) = Measure.pi (fun _ : Fin m => gaussianReal 0 1)) :
    1 - δ ≤ P.real {ω | ∀ t i,
      √(∑ j, (z t i ω j)^2) ≤ pavebaGpAlpha (t+1) m K δ (1:ℝ)} := by
  exact law_coverage P z hz _ hlaw (fun _ _ y => √(∑ j, (y j)^2)) (fun _ _ => by fun_prop) _
    (pavebagp_ell_union K m hK hm δ h0 h1)

/-- **PaVeBaPartialGP (hyper-ellipsoid), partial: valid with probability ≥ 1 − δ** for `m ≤ 6` and
`2δ ≤ K` (same gap as `partialgp_ell_union_partial`: `K = 1`, `δ > 1/2`, `3 ≤ m ≤ 6`); `z t i` the
whitened posterior error as in `pavebagp_ell_valid`. -/
theorem partialgp_ell_valid_partial {Ω : Type*} [MeasurableSpace Ω] (P : Measure Ω)
    [IsProbabilityMeasure P] (K m : ℕ) (hK : 1 ≤ K) (hm : m ≤ 6) (δ : ℝ) (h0 : 0 < δ) (h1 : δ < 1)
    (h2 : 2 * δ ≤ K)
    (z : ℕ → Fin K → Ω → (Fin m → ℝ)) (hz : ∀ t i, Measurable (z t i))
    (hlaw : ∀ t i, P.map (z t i) = Measure.pi (fun _ : Fin m => gaussianReal 0 1)) :
    1 - δ ≤ P.real {ω | ∀ t i,
      √(∑ j, (z t i ω j)^2) ≤ partialGpAlpha (t+1) K δ (1:ℝ)} := by
  exact law_coverage P z hz _ hlaw (fun _ _ y => √(∑ j, (y j)^2)) (fun _ _ => by fun_prop) _
    (partialgp_ell_union_partial K m hK hm δ h0 h1 h2)

/-- non-vacuity of the coverage setting: `Ω = ℝ`, `P = N(0,1)`, every `X t i j` the identity -/
example : 1 - (1/10 : ℝ) ≤ (gaussianReal 0 1).real {ω : ℝ | ∀ (t : ℕ) (_i : Fin 4) (_j : Fin 2),
    |ω - 0| ≤ vogpBeta t 2 4 (1/10) (1:ℝ) * √((1:ℝ≥0):ℝ)} :=
  vogp_valid (gaussianReal 0 1) 4 2 (by norm_num) (by norm_num) (1/10) (by norm_num) (by norm_num)
    (fun _ _ _ ω => ω) (fun _ _ _ => measurable_id) (fun _ _ _ => 0) (fun _ _ _ => 1)
    (fun _ _ _ => Measure.map_id)

end VOPy.C04
