import VOPyVerif.Proofs.AcqSpec
import VOPyVerif.Proofs.AcqDecSpec
import VOPyVerif.Proofs.AcqStore
import VOPyVerif.Proofs.Thompson
import VOPyVerif.Proofs.Locate
import Mathlib.Analysis.Real.Sqrt
/-!
# C07 — samples go to the acquisition maximiser among active designs and reach the model

Property theorems only (helper lemmas live in `Proofs/Acq*.lean`).  They are about the executable
model `Acq.optimizeDiscrete` / `Acq.optimizeDecoupled` / `Acq.evaluateAll` / the `add_sample`
stores that the driver runs against `vopy/acquisition/acquisition.py`, the `evaluating()` methods
and the models' `add_sample`.

`vals[i]` is the acquisition value of row `i` of `choices` (the active designs in the order the
optimiser sees them); a pick is a pair (original position, value).  `sortDesc` is
`List.insertionSort (· ≥ ·)`.
-/
namespace VOPy.C07
open VOPy VOPy.Acq

/-! ## `optimize_acqf_discrete` -/

/-- **Batch size.**  For every value list and every batch size the optimiser returns
`min q n` picks: `q` of them when there are enough choices, all choices otherwise (no crash for a
batch larger than the active set — the behaviour since fix commit 00d0f01). -/
theorem discrete_length (vals : List Rat) (q : Nat) :
    (optimizeDiscrete vals q).length = min q vals.length :=
  optimizeDiscrete_length vals q

/-- **Picks are choices.**  Every pick is a valid position of the original list, reported with
that position's own acquisition value. -/
theorem discrete_cells (vals : List Rat) (q : Nat) :
    ∀ p ∈ optimizeDiscrete vals q, vals[p.1]? = some p.2 :=
  fun _ hp => optimizeDiscrete_mem hp

/-- **Distinct.**  No position is picked twice. -/
theorem discrete_distinct (vals : List Rat) (q : Nat) :
    ((optimizeDiscrete vals q).map (·.1)).Nodup :=
  optimizeDiscrete_pos_nodup vals q

/-- **Non-increasing acquisition order.** -/
theorem discrete_nonincreasing (vals : List Rat) (q : Nat) :
    ((optimizeDiscrete vals q).map (·.2)).Pairwise (· ≥ ·) := by
  rw [List.pairwise_map]; exact optimizeDiscrete_pairwise vals q

/-- **The `k`-th pick is the arg-max of what is left** (`np.argmax` semantics): its value is at
least the value of every position not picked before it, and among those of equal value it is the
smallest position. -/
theorem discrete_kth_is_first_max (vals : List Rat) (q k : Nat)
    (hk : k < (optimizeDiscrete vals q).length) (i : Nat) (v : Rat) (hi : vals[i]? = some v)
    (hnot : i ∉ ((optimizeDiscrete vals q).take k).map (·.1)) :
    v ≤ ((optimizeDiscrete vals q)[k]).2 ∧
      (v = ((optimizeDiscrete vals q)[k]).2 → ((optimizeDiscrete vals q)[k]).1 ≤ i) :=
  pickLoop_first q (indexed_pairwise vals) k hk (i, v) (mem_indexed.mpr hi) hnot

/-- **Top-`q`.**  The picked values, in pick order, are exactly the first `q` entries of the
descending sort of all values — for every `q`, including `q > n` where this is the whole sorted
list.  In particular the multiset of picked values is the top-`q` multiset. -/
theorem discrete_values_eq_top (vals : List Rat) (q : Nat) :
    (optimizeDiscrete vals q).map (·.2) = (vals.insertionSort (· ≥ ·)).take q :=
  optimizeDiscrete_values vals q

/-- the multiset form of `discrete_values_eq_top` -/
theorem discrete_values_perm_top (vals : List Rat) (q : Nat) :
    ((optimizeDiscrete vals q).map (·.2)).Perm ((vals.insertionSort (· ≥ ·)).take q) :=
  List.Perm.of_eq (discrete_values_eq_top vals q)

/-- **A batch at least as large as the choice list picks every choice exactly once.** -/
theorem discrete_picks_all (vals : List Rat) (q : Nat) (hq : vals.length ≤ q) :
    ((optimizeDiscrete vals q).map (·.1)).Perm (List.range vals.length) := by
  have h := (optimizeDiscrete_perm hq).map (·.1)
  rwa [indexed_map_fst] at h

/-- **Regression characterisation of defect D7.**  The loop as it was before fix commit 00d0f01
raised (`none`) exactly when the batch size exceeded the number of choices and agreed with the
fixed loop otherwise. -/
theorem discrete_prefix_crashes_iff (vals : List Rat) (q : Nat) :
    optimizeDiscretePreFix vals q =
      if q ≤ vals.length then some (optimizeDiscrete vals q) else none := by
  rw [optimizeDiscretePreFix, pickLoopPreFix_eq q (indexed_pairwise vals), indexed_length]; rfl

/-- **The relation checked on the real optimiser's output is sound.**  Whatever tie-breaking
produced it, a batch accepted by the decidable relation `discSpecOk` (the (R) check of the
harness: `q` valid, distinct positions carrying their own values, each maximal among the positions
not picked before it) lists exactly the first `q` entries of the descending sort of the values. -/
theorem discSpec_sound (vals : List Rat) (q : Nat) (picks : List (Nat × Rat))
    (h : discSpecOk vals q picks = true) :
    picks.map (·.2) = (vals.insertionSort (· ≥ ·)).take q ∧ (picks.map (·.1)).Nodup ∧
      ∀ p ∈ picks, vals[p.1]? = some p.2 := by
  have hs := (discSpecOk_iff vals q picks).mp h
  exact ⟨hs.values, hs.pos_nodup, hs.cell⟩

/-- **The model refines that relation**: its own output is accepted, for every value list and
batch size (so the relation is satisfiable and the model is one of its solutions). -/
theorem discSpec_model (vals : List Rat) (q : Nat) :
    discSpecOk vals (min q vals.length) (optimizeDiscrete vals q) = true :=
  (discSpecOk_iff _ _ _).mpr (optimizeDiscrete_discSpec vals q)

/-- **Tie-free value lists determine the batch.**  If all acquisition values are different, every
batch accepted by the relation is the model's batch, positions included — this is why the harness
compares positions with the model exactly on tie-free tables and only the relation otherwise. -/
theorem discrete_tiefree_unique (vals : List Rat) (q : Nat) (picks : List (Nat × Rat))
    (hv : vals.Nodup) (h : discSpecOk vals q picks = true) : picks = optimizeDiscrete vals q :=
  ((discSpecOk_iff vals q picks).mp h).eq_model hv

/-- **Greedy batches are nested**: the batch of size `q` is the beginning of every larger batch. -/
theorem discrete_prefix_of_larger (vals : List Rat) (q k : Nat) :
    optimizeDiscrete vals q = (optimizeDiscrete vals (q + k)).take q :=
  pickLoop_take q k (indexed_pairwise vals)

example : discSpecOk [1, 3, 2, 3, 0] 3 [(3, 3), (1, 3), (2, 2)] = true := by decide +kernel
example : discSpecOk [1, 3, 2, 3, 0] 3 [(3, 3), (2, 2), (1, 3)] = false := by decide +kernel

example : optimizeDiscrete [1, 3, 2, 3, 0] 3 = [(1, 3), (3, 3), (2, 2)] := by decide +kernel
example : optimizeDiscrete [1, 3] 5 = [(1, 3), (0, 1)] := by decide +kernel
example : optimizeDiscretePreFix [1, 3] 5 = none := by decide +kernel

/-! ## `optimize_decoupled_acqf_discrete` -/

/-- **Top-`q` of the whole (design, objective) table.**  The selected values, in order, are the
first `q` entries of the descending sort of *all* cells of the table — although only the
per-objective top-`q` lists are ever compared (top-`q` overall ⊆ ⋃ per-objective top-`q`). -/
theorem decoupled_values_eq_top (table : List (List Rat)) (q : Nat) :
    (optimizeDecoupled table q).map (·.val) = (table.flatten.insertionSort (· ≥ ·)).take q :=
  optimizeDecoupled_values table q

/-- **Selected triples are cells of the table** carrying their own value. -/
theorem decoupled_cells (table : List (List Rat)) (q : Nat) :
    ∀ e ∈ optimizeDecoupled table q, tableAt table e.pos e.obj = some e.val :=
  fun _ he => optimizeDecoupled_mem he

/-- **Selected (design, objective) pairs are pairwise distinct.** -/
theorem decoupled_distinct (table : List (List Rat)) (q : Nat) :
    ((optimizeDecoupled table q).map (fun e => (e.pos, e.obj))).Nodup :=
  optimizeDecoupled_keys_nodup table q

/-- **Non-increasing acquisition order.** -/
theorem decoupled_nonincreasing (table : List (List Rat)) (q : Nat) :
    ((optimizeDecoupled table q).map (·.val)).Pairwise (· ≥ ·) := by
  rw [List.pairwise_map]; exact optimizeDecoupled_pairwise table q

/-- **Batch size**: `q` pairs, or all cells if there are fewer. -/
theorem decoupled_length (table : List (List Rat)) (q : Nat) :
    (optimizeDecoupled table q).length = min q table.flatten.length :=
  optimizeDecoupled_length table q

/-- **The relation checked on the real decoupled optimiser's output is sound**: a batch accepted
by `decSpecOk` lists exactly the first `q` entries of the descending sort of all cells of the table,
its (design, objective) pairs are distinct, and each carries its own table value. -/
theorem decSpec_sound (table : List (List Rat)) (q : Nat) (sel : List Entry)
    (h : decSpecOk table q sel = true) :
    sel.map (·.val) = (table.flatten.insertionSort (· ≥ ·)).take q ∧
      (sel.map (fun e => (e.pos, e.obj))).Nodup ∧
      ∀ e ∈ sel, tableAt table e.pos e.obj = some e.val := by
  have hs := (decSpecOk_iff table q sel).mp h
  exact ⟨hs.values, hs.distinct, hs.cell⟩

/-- **The model refines that relation.** -/
theorem decSpec_model (table : List (List Rat)) (q : Nat) :
    decSpecOk table (min q table.flatten.length) (optimizeDecoupled table q) = true :=
  (decSpecOk_iff _ _ _).mpr (optimizeDecoupled_decSpec table q)

/-- **Tie-free tables determine the decoupled batch**, (design, objective) pairs included. -/
theorem decoupled_tiefree_unique (table : List (List Rat)) (q : Nat) (sel : List Entry)
    (hv : table.flatten.Nodup) (h : decSpecOk table q sel = true) :
    sel = optimizeDecoupled table q :=
  ((decSpecOk_iff table q sel).mp h).eq_model hv

example : optimizeDecoupled [[1, 3, 2], [5, 0, 3]] 3 = [⟨0, 1, 5⟩, ⟨1, 0, 3⟩, ⟨2, 1, 3⟩] := by
  decide +kernel
example : decSpecOk [[1, 3, 2], [5, 0, 3]] 3 [⟨0, 1, 5⟩, ⟨2, 1, 3⟩, ⟨1, 0, 3⟩] = true := by
  decide +kernel

/-! ## acquisition values -/

/-- `MaxDiagonalAcquisition` squared is `Σ (uᵢ − lᵢ)²`. -/
theorem diagSq_eq_sum (l u : Vec) :
    diagSq l u = ((List.zipWith (fun b a => (b - a) * (b - a)) u l)).sum := by
  simp only [diagSq, normSq, vsub]
  induction u generalizing l with
  | nil => simp
  | cons b bs ih =>
    cases l with
    | nil => simp
    | cons a as => simp [ih as]

theorem diagSq_nonneg (l u : Vec) : 0 ≤ diagSq l u := Problem.sqDist_nonneg u l

/-- **Comparing squared diagonals is comparing diagonals.**  The code compares
`‖u − l‖ = √(Σ(uᵢ−lᵢ)²)`; the model compares the exact squares; the two orders (and hence the
arg-max positions and ties) coincide. -/
theorem diag_compare_iff (l₁ u₁ l₂ u₂ : Vec) :
    (Real.sqrt (diagSq l₁ u₁ : ℝ) < Real.sqrt (diagSq l₂ u₂ : ℝ) ↔ diagSq l₁ u₁ < diagSq l₂ u₂) ∧
    (Real.sqrt (diagSq l₁ u₁ : ℝ) = Real.sqrt (diagSq l₂ u₂ : ℝ) ↔ diagSq l₁ u₁ = diagSq l₂ u₂) := by
  have h1 : (0 : ℝ) ≤ (diagSq l₁ u₁ : ℝ) := Rat.cast_nonneg.mpr (diagSq_nonneg l₁ u₁)
  have h2 : (0 : ℝ) ≤ (diagSq l₂ u₂ : ℝ) := Rat.cast_nonneg.mpr (diagSq_nonneg l₂ u₂)
  constructor
  · rw [Real.sqrt_lt_sqrt_iff h1]; exact Rat.cast_lt
  · rw [Real.sqrt_inj h1 h2]; exact Rat.cast_inj

example : diagSq [0, 0] [3, 4] = 25 := by decide +kernel

/-- `SumVarianceAcquisition` is the sum of the diagonal entries: for an `n × n` covariance whose
`i`-th diagonal entry is `d i`, the value is `d 0 + … + d (n-1)`. -/
theorem sumVariance_eq_diag_sum (cov : Mat) (d : Nat → Rat)
    (hd : ∀ i, i < cov.length → ∃ row, cov[i]? = some row ∧ row[i]? = some (d i)) :
    sumVariance cov = ((List.range cov.length).map d).sum := by
  rw [sumVariance, ← List.sum_eq_foldr]
  refine congrArg List.sum (List.map_congr_left fun i hi => ?_)
  obtain ⟨row, h1, h2⟩ := hd i (List.mem_range.mp hi)
  rw [List.getD_eq_getElem?_getD, List.getD_eq_getElem?_getD, h1, Option.getD_some, h2,
    Option.getD_some]

/-- `MaxVarianceDecoupledAcquisition` is `cov[j][j] / costs[j]` exactly when that is defined
(indices in range, non-zero cost), and `cov[j][j]` without costs. -/
theorem varianceOverCost_eq (cov : Mat) (j : Nat) (c : Vec) (r : Rat) :
    varianceOverCost cov j (some c) = some r ↔
      ∃ row v cj, cov[j]? = some row ∧ row[j]? = some v ∧ c[j]? = some cj ∧ cj ≠ 0 ∧ r = v / cj := by
  simp only [varianceOverCost]
  constructor
  · intro h
    split at h
    · cases h
    · rename_i row h1
      split at h
      · cases h
      · rename_i v h2
        split at h
        · cases h
        · rename_i cj h3
          split at h
          · cases h
          · rename_i h0
            exact ⟨row, v, cj, h1, h2, h3, h0, (Option.some.inj h).symm⟩
  · rintro ⟨row, v, cj, h1, h2, h3, h0, rfl⟩
    simp only [h1, h2, h3, if_neg h0]

example : sumVariance [[1, 2], [3, 4]] = 5 := by decide +kernel
example : varianceOverCost [[1, 2], [3, 4]] 1 (some [2, 8]) = some (1 / 2) := by decide +kernel

/-! ## evaluate-everything algorithms (PaVeBa, Auer, NaiveElimination) -/

/-- **Every active design exactly once.**  For duplicate-free `S` and `U` the round's evaluation
list contains a design exactly once if it is in `S ∪ U` and not at all otherwise. -/
theorem evaluateAll_each_once (S U : List Nat) (hS : S.Nodup) (hU : U.Nodup) (i : Nat) :
    (evaluateAll S U).count i = if i ∈ S ∨ i ∈ U then 1 else 0 := by
  have hn := evaluateAll_nodup hS hU
  by_cases h : i ∈ S ∨ i ∈ U
  · rw [if_pos h]
    exact List.count_eq_one_of_mem hn (mem_evaluateAll.mpr h)
  · rw [if_neg h]
    exact List.count_eq_zero_of_not_mem (fun hm => h (mem_evaluateAll.mp hm))

example : evaluateAll [4, 1] [1, 7] = [4, 1, 7] := by decide

/-! ## what reaches the model -/

/-- **One `evaluating()` step of a coupled GP algorithm.**  The candidates are the optimiser's
picks looked up among the active rows (so each is an active design and there are `min q n` of them),
and the model's data afterwards is the old data followed by exactly one observation per
candidate — the candidate's input row paired with the value the problem returned for it — in
candidate order. -/
theorem evaluatingStep_appends (d : Nat) (designs : List Vec) (vals : List Rat) (q : Nat)
    (observe : Vec → Vec) (data : List Obs) (hlen : vals.length = designs.length) :
    let cand := (evaluatingStep d designs vals q observe data).1
    let data' := (evaluatingStep d designs vals q observe data).2
    cand = (optimizeDiscrete vals q).filterMap (fun p => designs[p.1]?) ∧
    cand.length = min q designs.length ∧
    (∀ x ∈ cand, x ∈ designs) ∧
    data' = data ++ cand.map (fun x => ⟨x.take d, observe x⟩) := by
  simp only [evaluatingStep, gpAddSample]
  refine ⟨trivial, ?_, ?_, ?_⟩
  · -- every picked position is a position of `designs`, so no lookup fails
    have hall : ∀ p ∈ optimizeDiscrete vals q, (designs[p.1]?).isSome = true := fun p hp => by
      rw [isSome_getElem?, ← hlen]
      exact (List.getElem?_eq_some_iff.mp (optimizeDiscrete_mem hp)).1
    rw [List.length_filterMap_eq_countP, List.countP_eq_length.mpr hall, optimizeDiscrete_length,
      hlen]
  · intro x hx
    obtain ⟨p, _, hp⟩ := List.mem_filterMap.mp hx
    exact List.mem_of_getElem? hp
  · rw [List.zipWith_map_right, List.zipWith_self]

/-- **`add_sample` of the coupled GP models is an append.** -/
theorem gpAddSample_appends (d : Nat) (data : List Obs) (X Y : List Vec) :
    gpAddSample d data X Y = data ++ List.zipWith (fun x y => ⟨x.take d, y⟩) X Y := rfl

/-- **`add_sample` of the model-list GP (decoupled algorithms).**  When the call succeeds, the
number of per-objective stores is unchanged and objective `j`'s store is its old content followed
by exactly the (input row, value) pairs that were requested for objective `j`, in request order;
stores of objectives that were not requested are unchanged. -/
theorem listAddSample_appends (d : Nat) (stores : List (List (Vec × Rat))) (X : List Vec)
    (Y : List Rat) (dims : List Nat) (out : List (List (Vec × Rat)))
    (h : listAddSample d stores X Y dims = some out) (j : Nat) :
    out[j]? = stores[j]?.map (fun s =>
      s ++ (((X.zip Y).zip dims).filter (fun r => r.2 == j)).map (fun r => (r.1.1.take d, r.1.2))) := by
  rw [listAddSample_eq_some h, foldl_modify_append_of_nodup
    (fun k => (((X.zip Y).zip dims).filter (fun r => r.2 == k)).map (fun r => (r.1.1.take d, r.1.2)))
    (uniqueSorted_nodup dims)]
  congr 1
  funext s
  by_cases hj : j ∈ uniqueSorted dims
  · rw [if_pos hj]
  · -- nothing was requested for an objective that is not among `dims`
    rw [if_neg hj]
    have : ((X.zip Y).zip dims).filter (fun r => r.2 == j) = [] :=
      List.filter_eq_nil_iff.mpr fun r hr hrj =>
        hj (mem_uniqueSorted.mpr (beq_iff_eq.mp hrj ▸ (List.of_mem_zip hr).2))
    rw [this, List.map_nil, List.append_nil]

/-- **`add_sample` of the empirical model (PaVeBa, Auer).**  When the call succeeds, design `i`'s
sample list is its old content followed by exactly the observations that were handed in for design
`i`, in order; other designs' lists are unchanged. -/
theorem empAddSample_appends (samples : List (List Vec)) (indices : List Nat) (Y : List Vec)
    (out : List (List Vec)) (h : empAddSample samples indices Y = some out) (i : Nat) :
    out[i]? = samples[i]?.map (fun s =>
      s ++ ((indices.zip Y).filter (fun r => r.1 == i)).map (·.2)) := by
  rw [empAddSample_eq_some h, foldl_modify_append Prod.fst (fun r => [r.2]), ← List.map_eq_flatMap]

/-- **One round of PaVeBa / Auer reaches the model design by design.**  With duplicate-free `S`
and `U`, after `evaluating()` every active design (`S ∪ U`) has exactly one new sample — the
observation returned for *that* design — appended to its sample list, and every other design's list
is unchanged. -/
theorem evaluateAllStep_appends (S U : List Nat) (hS : S.Nodup) (hU : U.Nodup) (observe : Nat → Vec)
    (samples out : List (List Vec)) (h : evaluateAllStep S U observe samples = some out) (i : Nat) :
    out[i]? = samples[i]?.map (fun s => if i ∈ S ∨ i ∈ U then s ++ [observe i] else s) :=
  evaluateAllStep_spec hS hU observe samples out h i

/-- **One `evaluating()` step of a decoupled GP algorithm.**  The candidates are the selected
(design row, objective) pairs of `optimizeDecoupled`; when `add_sample` succeeds, objective `j`'s
store is its old content followed by exactly the candidates requested for objective `j`, each
paired with the value the problem returned for that (row, objective), in candidate order. -/
theorem evaluatingStepDecoupled_appends (d : Nat) (designs : List Vec) (table : List (List Rat))
    (q : Nat) (observe : Vec → Nat → Rat) (stores out : List (List (Vec × Rat)))
    (h : (evaluatingStepDecoupled d designs table q observe stores).2 = some out) (j : Nat) :
    let cand := (evaluatingStepDecoupled d designs table q observe stores).1
    cand = (optimizeDecoupled table q).filterMap (fun e => (designs[e.pos]?).map (fun x => (x, e.obj))) ∧
    out[j]? = stores[j]?.map (fun s =>
      s ++ (cand.filter (fun c => c.2 == j)).map (fun c => (c.1.take d, observe c.1 c.2))) := by
  simp only [evaluatingStepDecoupled] at h ⊢
  refine ⟨trivial, ?_⟩
  rw [listAddSample_appends d stores _ _ _ out h j, zip3_map]
  congr 1
  funext s
  congr 1
  rw [List.filter_map, List.map_map]
  rfl

example : evaluateAllStep [2, 0] [3, 2] (fun i => [i, i]) [[[5, 5]], [], [[6, 6]], []]
    = some [[[5, 5], [0, 0]], [], [[6, 6], [2, 2]], [[3, 3]]] := by decide +kernel

example : empAddSample [[], [[1, 1]], []] [2, 0, 2] [[5, 5], [6, 6], [7, 7]]
    = some [[[6, 6]], [[1, 1]], [[5, 5], [7, 7]]] := by decide +kernel

/-! ## EXTENSION — the Thompson-entropy acquisition (`ThompsonEntropyDecoupledAcquisition.forward`)

About `Model/Thompson.lean` (helpers: `Proofs/Thompson.lean`), the term the driver evaluates at `Float`
against the real `forward` (ops `thmask`, `thsamples`, `thprob`, `thval`).  `n` = number of Thompson
samples, `m` = number of objectives, `j` = `evaluation_index`, `mem t i` = entry `[t][i]` of the
Boolean Pareto mask.  Entropy statements are at `ℝ` (the same `RealLike` term). -/

section Thompson
open VOPy.RealLike

/-- **`itertools.combinations(range(n), r)`** enumerates exactly the strictly increasing `r`-tuples
with entries below `n` — the only index tuples the fill loop of `forward` visits. -/
theorem thompson_combinations_spec {n r : Nat} {t : List Nat} :
    t ∈ Thompson.combinations n r ↔ t.length = r ∧ t.Pairwise (· < ·) ∧ ∀ a ∈ t, a < n :=
  Thompson.mem_combinations

/-- there are `C(n, r)` of them, without repetition -/
theorem thompson_combinations_count (n r : Nat) :
    (Thompson.combinations n r).length = n.choose r ∧ (Thompson.combinations n r).Nodup :=
  ⟨Thompson.length_combinations n r, Thompson.nodup_combsFrom n r 0⟩

/-- **What the fill loop writes.**  At the `k`-th combination the mask holds exactly the `k`-th
`get_pareto_set` answer; an entry that is `True` sits at a strictly increasing index tuple and
belongs to some recorded Pareto set (every other entry of the `n^m × K` tensor stays `False`). -/
theorem thompson_fill_spec {n m : Nat} {pareto : List (List Nat)} :
    (∀ k (h1 : k < (Thompson.combinations n m).length) (h2 : k < pareto.length) (i : Nat),
        Thompson.filledMask n m pareto ((Thompson.combinations n m)[k]) i = pareto[k].contains i) ∧
    (∀ t i, Thompson.filledMask n m pareto t i = true →
        t ∈ Thompson.combinations n m ∧ ∃ P ∈ pareto, i ∈ P) :=
  ⟨fun k h1 h2 i => Thompson.filledMask_at k h1 h2 i, fun _ _ h => Thompson.filledMask_true h⟩

/-- **Probabilities are probabilities.**  With at least one Thompson sample the prior probability
(mean over all sample axes) and every posterior probability (mean over all axes but `j`) lie in
`[0, 1]` — for every mask, every objective index and every slice. -/
theorem thompson_prob_unit {n : Nat} (hn : 0 < n) (m j s : Nat) (mem : Thompson.Mask) (i : Nat) :
    (0 ≤ Thompson.priorProb n m mem i ∧ Thompson.priorProb n m mem i ≤ 1) ∧
    (0 ≤ Thompson.postProb n m j s mem i ∧ Thompson.postProb n m j s mem i ≤ 1) :=
  ⟨⟨Thompson.priorProb_nonneg n m mem i, Thompson.priorProb_le_one hn m mem i⟩,
   ⟨Thompson.postProb_nonneg n m j s mem i, Thompson.postProb_le_one hn m j s mem i⟩⟩

/-- **Consequence of averaging over the full tensor.**  Because only strictly increasing sample
combinations are filled while the mean runs over all `n^m` index tuples, the prior probability
of the code never exceeds `C(n, m) / n^m` (e.g. 0.45 for 10 samples and 2 objectives), even for a
design that is Pareto-optimal in every sample.  The proof does not use `hn`: the count
is at most `C(n, m)` for `n = 0` as well. -/
theorem thompson_prior_le_choose {n : Nat} (hn : 0 < n) (m : Nat) (pareto : List (List Nat)) (i : Nat) :
    Thompson.priorProb n m (Thompson.filledMask n m pareto) i ≤ (n.choose m : ℚ) / ((n ^ m : Nat) : ℚ) :=
  div_le_div_of_nonneg_right (Nat.cast_le.mpr (Thompson.priorCount_filled_le n m pareto i))
    (Nat.cast_nonneg _)

/-- the prior probability is the average of the `n` posterior probabilities of objective `j`.  The
proof does not use `hn`: for `n = 0` both sides are `0`. -/
theorem thompson_prior_eq_avg_post {n m j : Nat} (hn : 0 < n) (hj : j < m) (mem : Thompson.Mask) (i : Nat) :
    Thompson.priorProb n m mem i = (∑ s ∈ Finset.range n, Thompson.postProb n m j s mem i) / n :=
  Thompson.priorProb_eq_avg hj mem i

/-- **How `xlogy` is modelled.**  `xlogy 0 = 0` by the explicit guard on the exact rational, in every
carrier (at `Float`, `0 * log 0` would be NaN); over `ℝ` the guard is invisible: `xlogy p = p·log p`
for every `p` because `Real.log 0 = 0`. -/
theorem thompson_xlogy_model (α : Type) [RealLike α] (p : ℚ) :
    (Thompson.xlogy 0 : α) = RealLike.ofNat 0 ∧ (Thompson.xlogy p : ℝ) = (p : ℝ) * Real.log p :=
  ⟨by simp [Thompson.xlogy], Thompson.xlogy_real p⟩

/-- **`binary_entropy` is the binary entropy in bits**: `−(p·log p + (1−p)·log(1−p)) / log 2`,
i.e. Mathlib's `Real.binEntropy p / log 2`. -/
theorem thompson_entropy_eq (p : ℚ) :
    (Thompson.binaryEntropy p : ℝ) = -((p : ℝ) * Real.log p + (1 - (p : ℝ)) * Real.log (1 - p)) / Real.log 2 ∧
    (Thompson.binaryEntropy p : ℝ) = Real.binEntropy p / Real.log 2 := by
  refine ⟨?_, Thompson.binaryEntropy_real p⟩
  rw [Thompson.binaryEntropy_real, Real.binEntropy, Real.log_inv, Real.log_inv]
  ring

/-- **Entropy of a certain event is 0, and entropy is at most one bit**: `H(0) = H(1) = 0`,
`H(p) ≤ 1` for every `p`, `0 ≤ H(p)` for `p ∈ [0, 1]`. -/
theorem thompson_entropy_bounds :
    (Thompson.binaryEntropy 0 : ℝ) = 0 ∧ (Thompson.binaryEntropy 1 : ℝ) = 0 ∧
    (∀ p : ℚ, (Thompson.binaryEntropy p : ℝ) ≤ 1) ∧
    (∀ p : ℚ, 0 ≤ p → p ≤ 1 → (0 : ℝ) ≤ Thompson.binaryEntropy p) := by
  refine ⟨?_, ?_, Thompson.binaryEntropy_le_one, fun p h0 h1 => Thompson.binaryEntropy_nonneg h0 h1⟩
  · rw [Thompson.binaryEntropy_real]; simp
  · rw [Thompson.binaryEntropy_real]; simp

/-- **The value never exceeds the prior entropy** (the mean posterior entropy is non-negative), hence
it is at most one bit. -/
theorem thompson_gain_le_prior {n : Nat} (hn : 0 < n) (m j : Nat) (mem : Thompson.Mask) (i : Nat) :
    (Thompson.gain n m j mem i : ℝ) ≤ Thompson.binaryEntropy (Thompson.priorProb n m mem i) ∧
    (Thompson.gain n m j mem i : ℝ) ≤ 1 := by
  have h : (Thompson.gain n m j mem i : ℝ) ≤ Thompson.binaryEntropy (Thompson.priorProb n m mem i) :=
    sub_le_self _ (Thompson.meanPostEntropy_nonneg hn m j mem i)
  exact ⟨h, h.trans (Thompson.binaryEntropy_le_one _)⟩

/-- **The value is an information gain: it is never negative** (Jensen's inequality for the concave
binary entropy: the prior probability is the average of the posterior probabilities). -/
theorem thompson_gain_nonneg {n m j : Nat} (hn : 0 < n) (hj : j < m) (mem : Thompson.Mask) (i : Nat) :
    (0 : ℝ) ≤ Thompson.gain n m j mem i :=
  sub_nonneg.mpr (Thompson.meanPostEntropy_le_prior hn hj mem i)

/-- **Relabelling the designs consistently relabels the values**: the value of a design depends only
on that design's column of the mask, so for any relabelling `σ` of the designs (in particular a
permutation) the value of design `i` under the relabelled mask is the value of design `σ i` under
the original one — in every carrier (`Float` included), with or without costs. -/
theorem thompson_value_relabel {α : Type} [RealLike α] (n m j : Nat) (mem : Thompson.Mask)
    (cost : Option α) (σ : Nat → Nat) (i : Nat) :
    Thompson.value n m j (fun t i => mem t (σ i)) cost i = Thompson.value n m j mem cost (σ i) := rfl

/-- the same for the whole output of `forward` -/
theorem thompson_forward_relabel {α : Type} [RealLike α] (n m K j : Nat) (mem : Thompson.Mask)
    (cost : Option α) (σ : Nat → Nat) :
    Thompson.forward n m K j (fun t i => mem t (σ i)) cost =
      (if n = 0 ∨ m ≤ j then none
       else some ((List.range K).map (fun i => Thompson.value n m j mem cost (σ i)))) := rfl

/-- **A positive cost does not change the order within an objective**: dividing by `costs[j] > 0`
preserves every comparison between two designs' values for objective `j` (and the value is the
gain over the cost). -/
theorem thompson_cost_order (n m j : Nat) (mem : Thompson.Mask) {c : ℝ} (hc : 0 < c) (a b : Nat) :
    Thompson.value n m j mem (some c) a = Thompson.gain n m j mem a / c ∧
    (Thompson.value n m j mem (some c) a ≤ Thompson.value n m j mem (some c) b ↔
      Thompson.value n m j mem (none : Option ℝ) a ≤ Thompson.value n m j mem none b) := by
  refine ⟨rfl, ?_⟩
  show Thompson.gain n m j mem a / c ≤ Thompson.gain n m j mem b / c ↔
    Thompson.gain n m j mem a ≤ Thompson.gain n m j mem b
  exact div_le_div_iff_of_pos_right hc

/-- `forward` yields values exactly when there is at least one Thompson sample and the objective
index is in range (the code returns NaN resp. raises `IndexError` otherwise), one per design. -/
theorem thompson_forward_defined {α : Type} [RealLike α] (n m K j : Nat) (mem : Thompson.Mask)
    (cost : Option α) :
    (∃ v, Thompson.forward n m K j mem cost = some v ∧ v.length = K) ↔ 0 < n ∧ j < m := by
  unfold Thompson.forward
  by_cases h : n = 0 ∨ m ≤ j
  · simp only [h, if_true]
    constructor
    · rintro ⟨v, hv, _⟩; cases hv
    · rintro ⟨h1, h2⟩; omega
  · simp only [h, if_false]
    constructor
    · intro _; omega
    · intro _; exact ⟨_, rfl, by simp⟩

/-- non-vacuity: 2 samples, 2 objectives, one combination `(0, 1)` whose Pareto set is `{0}`:
design 0 has prior probability 1/4 (one `True` among the 4 index tuples), posterior probability 1/2
given sample 0 of objective 0 and 0 given sample 1; design 1 has probability 0 throughout -/
example : Thompson.priorProb 2 2 (Thompson.filledMask 2 2 [[0]]) 0 = 1 / 4
    ∧ Thompson.postProb 2 2 0 0 (Thompson.filledMask 2 2 [[0]]) 0 = 1 / 2
    ∧ Thompson.postProb 2 2 0 1 (Thompson.filledMask 2 2 [[0]]) 0 = 0
    ∧ Thompson.priorProb 2 2 (Thompson.filledMask 2 2 [[0]]) 1 = 0 := by decide +kernel

example : Thompson.combinations 4 2 = [[0, 1], [0, 2], [0, 3], [1, 2], [1, 3], [2, 3]] := by decide

/-- the cap of `thompson_prior_le_choose` is attained: a design in every Pareto set has prior
probability `C(3,2)/3² = 1/3` -/
example : Thompson.priorProb 3 2 (Thompson.filledMask 3 2 [[0], [0], [0]]) 0 = 1 / 3 := by decide +kernel

end Thompson


section LocatePoints
open VOPy.Problem VOPy.Locate

/-! ## `locate_points` — design points back to design indices -/

/-- **What a successful `locate_points` returns.**  If the call returns an index list, there was at
least one query row and one design, the tolerance is non-negative, the list has one index per query
row, and index `k` is a valid design whose point is THE nearest design point of `xs[k]` (first among
ties, `np.argmin`) and lies within `atol` of it (squared distance ≤ atol²). -/
theorem locate_sound (xs X : Mat) (atol : Rat) (idx : List Nat)
    (h : locate xs X atol = .ok idx) :
    xs ≠ [] ∧ X ≠ [] ∧ idx.length = xs.length ∧
    ∀ (k : Nat) (hk : k < xs.length), ∃ i, idx[k]? = some i ∧ ∃ hi : i < X.length,
      nearestFirst xs[k] X = some i ∧ 0 ≤ atol ∧ sqDist xs[k] X[i] ≤ atol * atol ∧
      ∀ (j : Nat) (hj : j < X.length), sqDist xs[k] X[i] ≤ sqDist xs[k] X[j] := by
  have hxs : xs ≠ [] := fun h0 => by rw [locate_of_eq_nil (Or.inl h0)] at h; cases h
  have hX : X ≠ [] := fun h0 => by rw [locate_of_eq_nil (Or.inr h0)] at h; cases h
  obtain ⟨ps, hlen, hrow, heq⟩ := locate_eq hxs hX atol
  rw [heq] at h
  split at h
  · cases h
  · rename_i hany
    cases h
    refine ⟨hxs, hX, by rw [List.length_map, hlen], fun k hk => ?_⟩
    obtain ⟨i, hi, hp, hn⟩ := hrow k hk
    have hnot : tooFar atol (sqDist xs[k] X[i]) = false := by
      rw [← Bool.not_eq_true]
      exact fun hfar => hany (List.any_eq_true.mpr ⟨_, List.mem_of_getElem? hp, hfar⟩)
    obtain ⟨h0, hle⟩ := (not_tooFar_iff _ _).mp hnot
    exact ⟨i, by rw [List.getElem?_map, hp]; rfl, hi, (nearestFirst_some_iff _ _ _).mpr hn, h0, hle,
      hn.2.1⟩

/-- **When `locate_points` raises.**  The `ValueError` is raised exactly when there is no query row,
no design, or some query row is farther than `atol` from EVERY design (a negative tolerance rejects
everything). -/
theorem locate_raises_iff (xs X : Mat) (atol : Rat) :
    locate xs X atol = .valueError ↔
      xs = [] ∨ X = [] ∨ ∃ x ∈ xs, ∀ r ∈ X, atol < 0 ∨ atol * atol < sqDist x r := by
  by_cases hxs : xs = []
  · exact iff_of_true (locate_of_eq_nil (Or.inl hxs) atol) (Or.inl hxs)
  by_cases hX : X = []
  · exact iff_of_true (locate_of_eq_nil (Or.inr hX) atol) (Or.inr (Or.inl hX))
  obtain ⟨ps, hlen, hrow, heq⟩ := locate_eq hxs hX atol
  rw [heq, or_iff_right hxs, or_iff_right hX]
  -- some pair of `ps` is too far iff some query row is too far from its nearest design
  have hany : ps.any (fun p => tooFar atol p.2) = true ↔
      ∃ x ∈ xs, ∀ r ∈ X, atol < 0 ∨ atol * atol < sqDist x r := by
    rw [List.any_eq_true]
    constructor
    · rintro ⟨p, hp, hfar⟩
      obtain ⟨k, hk, rfl⟩ := List.getElem_of_mem hp
      obtain ⟨i, hi, hpk, hn⟩ := hrow k (hlen ▸ hk)
      rw [List.getElem?_eq_getElem hk] at hpk
      rw [Option.some.inj hpk] at hfar
      exact ⟨_, List.getElem_mem _, (tooFar_nearest_iff hn atol).mp hfar⟩
    · rintro ⟨x, hx, hall⟩
      obtain ⟨k, hk, rfl⟩ := List.getElem_of_mem hx
      obtain ⟨i, hi, hpk, hn⟩ := hrow k hk
      exact ⟨_, List.mem_of_getElem? hpk, (tooFar_nearest_iff hn atol).mpr hall⟩
  rw [← hany]
  split
  · rename_i h; exact iff_of_true rfl h
  · rename_i h; exact iff_of_false Out.noConfusion h

/-- **Round trip on the grid.**  If the design points are pairwise distinct, all of one dimension,
every query row IS a design point and the tolerance is non-negative, then `locate_points` succeeds and
index `k` is the unique design whose point equals `xs[k]` — so handing the optimiser's chosen POINTS to
`locate_points` recovers exactly the chosen DESIGNS. -/
theorem locate_on_grid (xs X : Mat) (atol : Rat) (hat : 0 ≤ atol) (hxs : xs ≠ [])
    (hdim : ∀ r ∈ X, ∀ x ∈ xs, r.length = x.length) (hmem : ∀ x ∈ xs, x ∈ X) (hnd : X.Nodup) :
    ∃ idx, locate xs X atol = .ok idx ∧ idx.length = xs.length ∧
      ∀ (k : Nat) (hk : k < xs.length), ∃ i, idx[k]? = some i ∧ ∃ hi : i < X.length,
        X[i] = xs[k] ∧ ∀ (j : Nat) (hj : j < X.length), X[j] = xs[k] → j = i := by
  obtain ⟨x0, hx0⟩ := List.exists_mem_of_ne_nil xs hxs
  have hidx : ∀ x ∈ xs, X.idxOf x < X.length := fun x hx => List.idxOf_lt_length_iff.mpr (hmem x hx)
  -- the query rows are the points of the designs `X.idxOf x`
  have hxs' : (xs.map (X.idxOf ·)).map (fun i => X.getD i []) = xs := by
    rw [List.map_map]
    refine (List.map_congr_left fun x hx => ?_).trans (List.map_id xs)
    rw [Function.comp_apply, ← List.getElem_eq_getD (h := hidx x hx), List.getElem_idxOf, id]
  have h := locate_design_points hnd (fun r hr => hdim r hr x0 hx0) hat (is := xs.map (X.idxOf ·))
    (mt List.map_eq_nil_iff.mp hxs) (List.forall_mem_map.mpr hidx)
  rw [hxs'] at h
  refine ⟨_, h, List.length_map _, fun k hk => ?_⟩
  have hi := hidx _ (List.getElem_mem hk)
  refine ⟨_, by rw [List.getElem?_map, List.getElem?_eq_getElem hk]; rfl, hi, List.getElem_idxOf hi,
    fun j hj hjx => ?_⟩
  exact hnd.getElem_inj_iff.mp (hjx.trans (List.getElem_idxOf hi).symm)

/-- **The squared test is the distance test.**  For a squared distance `d ≥ 0` and any tolerance, the
model's exact test on squares is the code's `distance > atol` with `distance = √d`.  The proof does
not use `hd`: `Real.sqrt` of a negative number is `0`, and then both sides say `atol < 0`. -/
theorem tooFar_iff_sqrt (atol d : Rat) (hd : 0 ≤ d) :
    tooFar atol d = true ↔ (atol : ℝ) < Real.sqrt (d : ℝ) := by
  rw [tooFar_iff]
  rcases lt_or_ge atol 0 with ha | ha
  · exact iff_of_true (Or.inl ha) (lt_of_lt_of_le (Rat.cast_lt_zero.mpr ha) (Real.sqrt_nonneg _))
  · rw [Real.lt_sqrt (Rat.cast_nonneg.mpr ha), sq, or_iff_right (not_lt.mpr ha), ← Rat.cast_mul]
    exact Rat.cast_lt.symm

/-- non-vacuity: three designs, queries = design 2 then design 0 (exactly), and a point 1/8 away
from design 1 — located within `atol = 1/4`, rejected with `atol = 1/16`; no design ⇒ `ValueError` -/
example : locate [[1, 1], [0, 0]] [[0, 0], [1, 0], [1, 1]] (1/1000000) = .ok [2, 0] := by decide +kernel
example : locate [[1, 1/8]] [[0, 0], [1, 0], [1, 1]] (1/4) = .ok [1] := by decide +kernel
example : locate [[1, 1/8]] [[0, 0], [1, 0], [1, 1]] (1/16) = .valueError := by decide +kernel
example : locate [[1, 1]] [] 1 = .valueError := by decide +kernel
example : locate [] [[1, 1]] 1 = .valueError := by decide +kernel


/-- **The points the optimiser returns are located at the designs it chose.**  `evaluating()` hands the
acquisition optimiser the POINTS of the active designs (`choices[k] = X[active[k]]`), gets the chosen
points back and turns them into design indices with `locate_points`.  With pairwise distinct design
points of one dimension and a non-negative tolerance, that round trip is exact: the located indices are
the active designs at the optimiser's picked positions, in the optimiser's order — so the sample is
requested at (and booked on) the acquisition maximiser, not on a neighbour. -/
theorem evaluating_locates_picks (X : Mat) (active : List Nat) (vals : List Rat) (q : Nat) (atol : Rat)
    (d : Nat) (hat : 0 ≤ atol) (hq : 0 < q) (hne : vals ≠ []) (hlen : vals.length = active.length)
    (hact : ∀ i ∈ active, i < X.length) (hnd : X.Nodup) (hdim : ∀ r ∈ X, r.length = d) :
    locate ((optimizeDiscrete vals q).map (fun p => X.getD (active.getD p.1 0) [])) X atol =
      .ok ((optimizeDiscrete vals q).map (fun p => active.getD p.1 0)) := by
  have h := locate_design_points hnd hdim hat (atol := atol)
    (is := (optimizeDiscrete vals q).map (fun p => active.getD p.1 0))
    (fun h0 => List.ne_nil_of_length_pos (by
      rw [discrete_length]; exact Nat.lt_min.mpr ⟨hq, List.length_pos_iff.mpr hne⟩)
      (List.map_eq_nil_iff.mp h0))
    (fun i hi => by
      obtain ⟨p, hp, rfl⟩ := List.mem_map.mp hi
      have hlt : p.1 < active.length :=
        hlen ▸ (List.getElem?_eq_some_iff.mp (discrete_cells vals q p hp)).1
      rw [← List.getElem_eq_getD (h := hlt)]
      exact hact _ (List.getElem_mem hlt))
  rw [List.map_map] at h
  exact h

/-- non-vacuity: designs 3, 0, 2 active with values 1, 5, 5 (tie → first), batch 2 -/
example : locate ((optimizeDiscrete [1, 5, 5] 2).map
      (fun p => ([[0, 0], [1, 0], [1, 1], [0, 1]] : Mat).getD (([3, 0, 2] : List Nat).getD p.1 0) []))
      [[0, 0], [1, 0], [1, 1], [0, 1]] (1/1000000) = .ok [0, 2] := by decide +kernel


end LocatePoints

end VOPy.C07
