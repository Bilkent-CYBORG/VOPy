import VOPyVerif.Props.C19
import VOPyVerif.Proofs.GenAgreeC19
import VOPyVerif.Proofs.AdaptiveVh
/-!
# C19 — SOURCE AGREEMENT obligations (second tie between model and code, DESIGN §2.10)

Property theorems only, same namespace `VOPy.C19` as `Props/C19.lean`.  They say that the closing formula of
`calculate_epsilonF1_score` — how the score is put together from the count of predicted designs with gap ≤ ε,
the number of predictions and the count of uncovered missed Pareto designs — is the term regenerated from
the current Python source text (`Gen/C19.lean`), that on counts with `tp ≤ npred` it is exactly the model's
`Eval.f1Of` (the function `f1_range`, `f1_eq_one_iff`, … of `Props/C19.lean` are about), and that it lies in
`[0, 1]`.  Translated: the arithmetic of the last four statements; pinned: the definitions of `true_eps` and
`uncovered_missed_pareto_count`; modelled, not translated: `get_delta`, `get_uncovered_size`, the set
difference of the index lists.
-/
namespace VOPy.C19
open VOPy VOPy.Eval

/-- the closing formula as written in the source = `Eval.f1F` (polymorphic, `rfl`). -/
theorem source_f1_formula {α : Type} [RealLike α] (tp npred unc : Nat) :
    (Gen.C19.gen_f1 tp npred unc : α) = f1F tp npred unc :=
  GenAgree.C19.gen_f1_eq tp npred unc

/-- **The source-derived score is the model's `f1Of`.**  For counts with `tp ≤ npred` (true positives are
among the predictions) and a non-zero denominator, the real value of the source formula is the rational
`f1Of (tp, npred − tp, unc)` returns; with a zero denominator `f1Of` answers `none` (the code's `0/0 = nan`). -/
theorem source_f1_is_f1Of (tp npred unc : Nat) (h : tp ≤ npred) :
    (2 * tp + (npred - tp) + unc = 0 → f1Of (tp, npred - tp, unc) = none) ∧
    (2 * tp + (npred - tp) + unc ≠ 0 → ∃ q : Rat, f1Of (tp, npred - tp, unc) = some q ∧
      (Gen.C19.gen_f1 tp npred unc : ℝ) = (q : ℝ)) := by
  constructor
  · intro h0; simp [f1Of, h0]
  · intro h0
    refine ⟨((2 * tp : Nat) : Rat) / ((2 * tp + (npred - tp) + unc : Nat) : Rat), ?_, ?_⟩
    · unfold f1Of
      exact if_neg h0
    · -- the integer denominator of the source is the natural-number denominator of `f1Of`
      have hden : ((2 * tp : Nat) : Int) + ((npred : Int) - (tp : Int)) + (unc : Int) =
          ((2 * tp + (npred - tp) + unc : Nat) : Int) := by omega
      show (RealLike.ofNat (2 * tp) : ℝ) / (Vh.ofInt (((2 * tp : Nat) : Int) + ((npred : Int) - (tp : Int)) + (unc : Int)) : ℝ) = _
      rw [Vh.ofInt_real, RealLike.ofNat_real, hden, Int.cast_natCast, Rat.cast_div,
        Rat.cast_natCast, Rat.cast_natCast]

/-- **Range.**  With `tp ≤ npred` and a non-zero denominator the source-derived score lies in `[0, 1]`, and it
is `1` exactly when there is no false positive and no uncovered missed Pareto design. -/
theorem source_f1_range (tp npred unc : Nat) (h : tp ≤ npred) (h0 : 2 * tp + (npred - tp) + unc ≠ 0) :
    0 ≤ (Gen.C19.gen_f1 tp npred unc : ℝ) ∧ (Gen.C19.gen_f1 tp npred unc : ℝ) ≤ 1 ∧
    ((Gen.C19.gen_f1 tp npred unc : ℝ) = 1 ↔ npred = tp ∧ unc = 0) := by
  obtain ⟨q, hq, hval⟩ := (source_f1_is_f1Of tp npred unc h).2 h0
  obtain ⟨hq0, hq1⟩ := f1Of_range hq
  rw [hval]
  refine ⟨Rat.cast_nonneg.mpr hq0, (Rat.cast_le.mpr hq1).trans_eq Rat.cast_one, ?_⟩
  rw [← Rat.cast_one, Rat.cast_inj, ← Option.some_inj, ← hq, f1Of_eq_one_iff]
  show 0 < tp ∧ npred - tp = 0 ∧ unc = 0 ↔ npred = tp ∧ unc = 0
  omega

/-- non-vacuity: 3 of 4 predictions within ε, one uncovered missed Pareto design: 6/8 = 3/4 -/
example : ∃ q : Rat, f1Of (3, 4 - 3, 1) = some q ∧ (Gen.C19.gen_f1 3 4 1 : ℝ) = (q : ℝ) :=
  (source_f1_is_f1Of 3 4 1 (by norm_num)).2 (by norm_num)

end VOPy.C19
