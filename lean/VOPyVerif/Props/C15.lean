import VOPyVerif.Proofs.GPWrap
import VOPyVerif.Proofs.GPWrapAlg
import VOPyVerif.Proofs.GPWrapBridge
import VOPyVerif.Proofs.GPWrapPerm
import VOPyVerif.Proofs.GPWrapJoint
import Mathlib.Data.Rat.Star
/-!
# C15 — GP models return the exact posterior of exactly the data they hold

Property theorems only (helper lemmas: `Proofs/GPWrap*.lean`).  Four parts:

1. **state machine** (`GPWrap.run / predict`, the definitions the driver executes): `predict` reads
   `conditioned`, `update` sets `conditioned := held`; hence predictions are a function of the
   samples held at the last update, of their multiset when the posterior is permutation invariant;
   `clear; update` forgets; the train-and-freeze helpers' op sequence is up to date (and the pre-fix
   sequence iff it ends with an `update`);
2. **algebra** over Mathlib matrices (`quad A k r = kᵀA⁻¹r`): permutation invariance, block-diagonal
   structure of the model list, non-negative and antitone posterior variance, prior for no data;
3. **refinement**: whenever the executable exact posterior `GPWrap.posterior` (checked rational
   solve) answers, its answer *is* the closed form of layer 2; so layer 2 speaks about the numbers
   the driver compares with `predict()`;
4. **executable consequences** for the three model classes (`postScalar`/`mlistPost`/`indepPost`,
   `jointPost`/`corrPost`): closed forms on the data's own index types, invariance under any
   permutation of the samples (all three classes, end to end with the state machine), locality of
   the model list, prior for no data, variance `≥ 0`, variance antitone under `data ++ extra`
   (per-objective classes), and the `(N, m)`/`(N, m, m)` shapes.

Not proved (stated here once): that the untrusted Bareiss solve always *answers* for a non-singular
system (all executable theorems are conditional on `= some q`; the driver reports `X` otherwise and
the harness treats that as an infrastructure error, never as agreement); the antitone statement for
the *joint* executable posterior (proved for every positive-definite system in layer 2, and for the
per-objective executable posterior); the executable identity "joint = per objective" for the
independent model with scalar noise (layer 2: `modellist_block_diagonal`; the harness compares the
two Lean computations exactly on small cases).
-/
namespace VOPy.C15
open VOPy VOPy.GPWrap VOPy.GPWrap.Alg Matrix

variable {D B β σ : Type}

/-! ## 1. wrapper state machine -/

/-- `predict` is defined exactly when a gpytorch model exists and then is the posterior of
`conditioned` — the samples reported by `held` play no role. -/
theorem predict_reads_conditioned (post : D → β) (s : State D) :
    predict post s = if s.initialised then some (post s.conditioned) else none := rfl

/-- `update` conditions the model on what is held (and creates it if necessary); it is the only
op that changes `conditioned`. -/
theorem update_conditions_on_held (S : Store D B) (s : State D) :
    (step S s .update).conditioned = s.held ∧ (step S s .update).initialised = true ∧
    (step S s .update).held = s.held ∧
    ∀ o : Op B, o.isUpdate = false →
      (step S s o).conditioned = s.conditioned ∧ (step S s o).initialised = s.initialised :=
  ⟨rfl, rfl, rfl, step_noUpdate S s⟩

/-- **Predictions are the posterior of the data held at the last update.**  For every history:
if it contains no `update` the prediction is that of the start state; otherwise, splitting it at its
last `update`, the prediction is `post` of what was held when that update ran — later `add`s and
`clear`s are invisible. -/
theorem predict_after_history (S : Store D B) (post : D → β) (s : State D) (ops : List (Op B)) :
    ((∀ o ∈ ops, o.isUpdate = false) ∧ predict post (run S s ops) = predict post s) ∨
    ∃ pre tail, ops = pre ++ .update :: tail ∧ (∀ o ∈ tail, o.isUpdate = false) ∧
      predict post (run S s ops) = some (post (run S s pre).held) := by
  rcases split_last_update ops with h | ⟨pre, tail, rfl, ht⟩
  · obtain ⟨h1, h2⟩ := run_noUpdate S ops s h
    exact .inl ⟨h, by rw [predict, h1, h2]; rfl⟩
  · exact .inr ⟨pre, tail, rfl, ht, predict_last_update S post s pre tail ht⟩

/-- **Order and batching independence (state-machine part).**  Two multi-output histories, each
split at its last update; if the samples held at those updates are permutations of one another
(e.g. the same rows added in another order or cut into other batches) and the posterior is a
function of the multiset, the predictions coincide. -/
theorem predictions_depend_only_on_multiset (post : List σ → β)
    (hpost : ∀ l l' : List σ, l.Perm l' → post l = post l')
    (s₁ s₂ : State (List σ)) (pre₁ tail₁ pre₂ tail₂ : List (Op (List σ)))
    (h₁ : ∀ o ∈ tail₁, o.isUpdate = false) (h₂ : ∀ o ∈ tail₂, o.isUpdate = false)
    (hperm : (run (moStore σ) s₁ pre₁).held.Perm (run (moStore σ) s₂ pre₂).held) :
    predict post (run (moStore σ) s₁ (pre₁ ++ .update :: tail₁)) =
      predict post (run (moStore σ) s₂ (pre₂ ++ .update :: tail₂)) := by
  rw [predict_last_update _ _ _ _ _ h₁, predict_last_update _ _ _ _ _ h₂, hpost _ _ hperm]

/-- what a multi-output wrapper holds after `clear` and a run of `add_sample` calls: the rows of the
batches in arrival order, whatever the batching -/
theorem held_after_clear_adds (s : State (List σ)) (pre : List (Op (List σ)))
    (batches : List (List σ)) :
    (run (moStore σ) s (pre ++ .clear :: batches.map .add)).held = batches.flatten := by
  rw [run_append, run_cons, run_map_add]
  exact List.foldl_append_eq_append.trans (by rw [List.map_id']; rfl)

/-- **`clear; update` forgets.**  After `clear_data()` and `update()` (and any later ops other than
`update`) the prediction is the posterior of the empty store: the prior. -/
theorem clear_update_forgets (S : Store D B) (post : D → β) (s : State D)
    (pre tail : List (Op B)) (ht : ∀ o ∈ tail, o.isUpdate = false) :
    predict post (run S s (pre ++ .clear :: .update :: tail)) = some (post S.empty) := by
  rw [List.append_cons, predict_last_update S post s _ tail ht, run_append]
  rfl

/-- a history that ends with `update` leaves the wrapper up to date (conditioned = held) -/
theorem upToDate_of_ends_with_update [DecidableEq D] (S : Store D B) (s : State D)
    (ops : List (Op B)) : upToDate (run S s (ops ++ [.update])) = true := by
  rw [run_append]
  simp [upToDate, step]

/-- **Train-and-freeze helpers.**  The op sequence the helpers perform — add the training set,
update, clear, add the initial samples if any, update — always returns an up-to-date model
(`conditioned = held`): the model predicts from exactly the initial samples it reports (its prior
when there are none). -/
theorem helperOps_upToDate [DecidableEq D] (S : Store D B) (train : List B)
    (initial : Option B) : upToDate (run S (init S) (helperOps train initial)) = true := by
  unfold helperOps
  exact upToDate_of_ends_with_update S (init S) _

/-- **The regression the check `helper-stale-after-clear` guards (D3c).**  If the final `update()`
is performed only when `initial_sample_cnt > 0` (the helpers before the fix), the returned model
is up to date iff the sequence ends with an `update`, provided the training set is not empty: with
`initial_sample_cnt = 0` it reports no data but is conditioned on the whole training set. -/
theorem helperOpsConditional_upToDate_iff_ends_with_update [DecidableEq D] (S : Store D B)
    (train : List B) (initial : Option B) (hne : train.foldl S.add S.empty ≠ S.empty) :
    upToDate (run S (init S) (helperOpsConditional train initial)) = true ↔
      (helperOpsConditional train initial).getLast? = some .update := by
  cases initial with
  | none =>
    -- conditioned on the training set, holding nothing; the sequence ends with `clear`
    rw [run_helperOpsConditional_none, helperOpsConditional_none]
    refine iff_of_false ?_ ?_
    · simp [upToDate, hne]
    · simp
  | some b =>
    rw [helperOpsConditional_some]
    exact iff_of_true (upToDate_of_ends_with_update S (init S) _) List.getLast?_concat

/-- the state the pre-fix sequence returns for `initial_sample_cnt = 0`: nothing held, everything
the hyper-parameters were trained on still conditioned on -/
theorem helperOpsConditional_zero_initial_state (S : Store D B) (train : List B) :
    run S (init S) (helperOpsConditional train none) =
      ⟨S.empty, train.foldl S.add S.empty, true⟩ :=
  run_helperOpsConditional_none S train

/-- **Model list: an observation of objective `j` changes only objective `j`.**  Integer routing
touches list `j` only; list routing appends to every objective exactly the rows carrying its index,
in order — in particular nothing to an objective that does not occur in `dim_index`. -/
theorem mlist_add_locality (d : List (List σ)) (b : List σ) (i : Nat) :
    (∀ j, j ≠ i → (mlAdd d (.single j, b))[i]? = d[i]?) ∧
    (∀ idx : List Nat, idx.length = b.length →
      (mlAdd d (.each idx, b))[i]? = d[i]?.map (· ++ masked idx b i)) ∧
    (∀ idx : List Nat, idx.length = b.length → i ∉ idx → (mlAdd d (.each idx, b))[i]? = d[i]?) := by
  refine ⟨?_, ?_, ?_⟩
  · intro j hj
    rw [getElem?_mlAdd_single]; simp [hj]
  · intro idx hlen
    exact getElem?_mlAdd_each d idx b hlen i
  · intro idx hlen hi
    rw [getElem?_mlAdd_each d idx b hlen i, masked_of_not_mem idx b i hi]
    cases d[i]? <;> simp

/-! ## 2. algebra of the exact posterior (`quad A k r = kᵀ A⁻¹ r`) -/

section Algebra
variable {𝕜 : Type*} [Field 𝕜]
variable {n n' p : Type*} [Fintype n] [DecidableEq n] [Fintype n'] [DecidableEq n']
  [Fintype p] [DecidableEq p]

/-- **Order independence (algebra).**  Re-indexing the training rows by any bijection `e` — in
particular permuting them — simultaneously in the Gram-plus-noise matrix `A`, the cross-covariances
`k, k'` and the residual `y − m₀` leaves posterior mean and (co)variance unchanged:
`(k∘e)ᵀ (PAPᵀ)⁻¹ ((y−m₀)∘e) = kᵀ A⁻¹ (y−m₀)`. -/
theorem posterior_perm_invariant (e : n' ≃ n) (A : Matrix n n 𝕜) (k k' y m₀ : n → 𝕜) (c kss : 𝕜) :
    c + quad (A.submatrix e e) (k ∘ e) ((y - m₀) ∘ e) = c + quad A k (y - m₀) ∧
    kss - quad (A.submatrix e e) (k ∘ e) (k' ∘ e) = kss - quad A k k' := by
  rw [quad_reindex, quad_reindex]
  exact ⟨rfl, rfl⟩

/-- **Prior for empty data.**  With no training sample the posterior mean is the prior mean and the
posterior covariance the prior covariance. -/
theorem prior_for_empty_data [IsEmpty n] (A : Matrix n n 𝕜) (k k' r : n → 𝕜) (c kss : 𝕜) :
    c + quad A k r = c ∧ kss - quad A k k' = kss := by
  rw [quad_of_isEmpty, quad_of_isEmpty]
  simp

/-- **Block-diagonal structure of the model list.**  In the joint GP of independent objectives
(`A = blockDiagonal' (A_j)`, one block per objective on that objective's own inputs) the posterior
of objective `i` at any target — whose cross-covariance vanishes outside block `i` — is computed
from block `i` and objective `i`'s residuals alone; hence observations of another objective (which
change other blocks and other residual entries only) do not change it. -/
theorem modellist_block_diagonal {o : Type*} [Fintype o] [DecidableEq o] {m' : o → Type*}
    [∀ j, Fintype (m' j)] [∀ j, DecidableEq (m' j)]
    (A : ∀ j, Matrix (m' j) (m' j) 𝕜) (hA : ∀ j, IsUnit (A j).det)
    (i : o) (ki : m' i → 𝕜) (r : (Σ j, m' j) → 𝕜) :
    quad (blockDiagonal' A) (fun x => if h : x.1 = i then ki (h ▸ x.2) else 0) r =
      quad (A i) ki (fun b => r ⟨i, b⟩) := by
  unfold quad
  rw [blockDiagonal'_inv A hA]
  simp only [dotProduct]
  rw [Fintype.sum_sigma, Finset.sum_eq_single i]
  · apply Finset.sum_congr rfl
    intro a _
    rw [blockDiagonal'_mulVec, dif_pos rfl]
  · intro j _ hne
    simp only [dif_neg hne, zero_mul, Finset.sum_const_zero]
  · intro h
    exact absurd (Finset.mem_univ i) h

end Algebra

section Order
variable {R : Type*} [Field R] [PartialOrder R] [StarRing R] [StarOrderedRing R] [AddLeftMono R]
variable {n p t : Type*} [Fintype n] [DecidableEq n] [Fintype p] [DecidableEq p] [Fintype t]

/-- **Posterior variances are non-negative.**  If the joint prior Gram `[[K, B], [Bᴴ, D]]` over
training and test outputs is positive semidefinite and the noise `N` positive definite, the
posterior covariance `D − Bᴴ (K+N)⁻¹ B` is positive semidefinite; in particular every posterior
variance `D i i − kᵢᵀ (K+N)⁻¹ kᵢ` is `≥ 0`. -/
theorem posterior_variance_nonneg (Kt : Matrix n n R) (B : Matrix n t R) (Dm : Matrix t t R)
    (N : Matrix n n R) (hG : (fromBlocks Kt B Bᴴ Dm).PosSemidef) (hN : N.PosDef) :
    (Dm - Bᴴ * (Kt + N)⁻¹ * B).PosSemidef ∧ ∀ i, 0 ≤ (Dm - Bᴴ * (Kt + N)⁻¹ * B) i i := by
  have h := posterior_cov_posSemidef Kt B Dm N hG hN
  exact ⟨h, fun i => h.diag_nonneg⟩

/-- **Variances never grow with more data.**  Enlarging the training system `A` (positive
definite) by further points — `A' = [[A, b], [bᵀ, C]]` positive definite, cross-covariance
`(k, κ)` — lowers the posterior variance `k** − kᵀA⁻¹k` at any target by exactly
`wᵀ S⁻¹ w ≥ 0` (`S` the Schur complement, `w = κ − bᵀA⁻¹k`). -/
theorem posterior_variance_antitone [TrivialStar R] (A : Matrix n n R) (b : Matrix n p R)
    (C : Matrix p p R) (hA : A.PosDef) (hA' : (fromBlocks A b bᵀ C).PosDef) (k : n → R)
    (κ : p → R) (kss : R) :
    kss - quad (fromBlocks A b bᵀ C) (Sum.elim k κ) (Sum.elim k κ) ≤ kss - quad A k k ∧
    kss - quad (fromBlocks A b bᵀ C) (Sum.elim k κ) (Sum.elim k κ) =
      kss - quad A k k -
        quad (C - bᵀ * A⁻¹ * b) (κ - bᵀ *ᵥ (A⁻¹ *ᵥ k)) (κ - bᵀ *ᵥ (A⁻¹ *ᵥ k)) := by
  constructor
  · exact sub_le_sub_left (quad_le_quad_add_points A b C hA hA' k κ) kss
  · rw [quad_add_points A b C hA hA' k κ, sub_add_eq_sub_sub]

end Order

/-! ## 3. the executable exact posterior refines the closed form -/

/-- **Refinement.**  Whenever the driver's `posterior K noise k*ᵀ k** y m₀ m₀*` answers `q` (its
untrusted Bareiss solve passed the `A·z = δ·b` re-check) and `K + noise` is non-singular, then
`q.mean i = m₀* i + k*ᵢᵀ (K+noise)⁻¹ (y − m₀)` and `q.cov i j = k** i j − k*ᵢᵀ (K+noise)⁻¹ k*ⱼ`,
with shapes `t` and `t × t`. -/
theorem posterior_refines_closed_form (K noise kT kss : Mat) (y m0 m0s : Vec) (q : Post)
    (h : posterior K noise kT kss y m0 m0s = some q)
    (hdet : IsUnit (toMatN y.length y.length (madd K noise)).det) :
    q.mean.length = m0s.length ∧ q.cov.length = m0s.length ∧
    (∀ i : Fin m0s.length, q.mean.getD i 0 = m0s.getD i 0 +
      quad (toMatN y.length y.length (madd K noise)) (toVecN y.length (kT.getD i []))
        (toVecN y.length (vsub y m0))) ∧
    (∀ i j : Fin m0s.length, (q.cov.getD i []).getD j 0 = (kss.getD i []).getD j 0 -
      quad (toMatN y.length y.length (madd K noise)) (toVecN y.length (kT.getD i []))
        (toVecN y.length (kT.getD j []))) := by
  obtain ⟨hm, hc⟩ := posterior_spec _ _ K noise kT kss y m0 m0s q h rfl rfl hdet
  rw [hm, hc]
  exact ⟨List.length_ofFn, List.length_ofFn, fun i => getD_ofFn _ i 0,
    fun i j => by rw [getD_ofFn, getD_ofFn]⟩

/-- **Shapes.**  Every answer of `posterior` for `t` targets has a mean of length `t` and a
`t × t` covariance (the `(N, m)` / `(N, m, m)` shape of `predict`, per test point). -/
theorem posterior_answer_shapes (K noise kT kss : Mat) (y m0 m0s : Vec) (q : Post)
    (h : posterior K noise kT kss y m0 m0s = some q) :
    q.mean.length = m0s.length ∧ q.cov.length = m0s.length ∧
      ∀ row ∈ q.cov, row.length = m0s.length :=
  posterior_shapes K noise kT kss y m0 m0s q h

/-! ## 4. consequences for the executable model classes (what the driver answers `hist` with)

`Amat T s data = K(X,X) + s·I`, `kvec T p data = k(p, X)`, `rvec c data = y − c` are the Mathlib
views of one objective's data `(point id, value)` with kernel table `T` (`tval T a b` = entry
`(a, b)`); `jointGram T data p` is the prior Gram of the data points and the test point. -/

/-- **Closed form of the per-objective executable posterior** (model list; independent model with
scalar noise): `mean = c + k(p,X)ᵀ (K+sI)⁻¹ (y − c)`, `var = k(p,p) − k(p,X)ᵀ (K+sI)⁻¹ k(p,X)`,
shapes `1` and `1 × 1`. -/
theorem postScalar_closed_form (T : Mat) (s c : ℚ) (data : List (Nat × ℚ)) (p : Nat) (q : Post)
    (h : postScalar T s c data p = some q) (hdet : IsUnit (Amat T s data).det) :
    q.mean = [c + quad (Amat T s data) (kvec T p data) (rvec c data)] ∧
    q.cov = [[tval T p p - quad (Amat T s data) (kvec T p data) (kvec T p data)]] :=
  postScalar_spec T s c data p q h hdet

/-- **Order independence, executable.**  The per-objective exact posterior is the same for any
two orderings of the same multiset of samples (whenever both exact solves answer and the system is
non-singular). -/
theorem postScalar_multiset_invariant (T : Mat) (s c : ℚ) (data data' : List (Nat × ℚ)) (p : Nat)
    (q q' : Post) (hperm : data.Perm data') (h : postScalar T s c data p = some q)
    (h' : postScalar T s c data' p = some q') (hdet : IsUnit (Amat T s data').det) :
    q.mean = q'.mean ∧ q.cov = q'.cov :=
  postScalar_perm T s c data data' p q q' hperm h h' hdet

/-- **Model list, executable: predictions depend only on each objective's multiset of samples.** -/
theorem mlistPost_multiset_invariant (cfg : Cfg) (data data' : List (List (Nat × ℚ))) (p : Nat)
    (q q' : Post) (hperm : List.Forall₂ List.Perm data data')
    (h : mlistPost cfg data p = some q) (h' : mlistPost cfg data' p = some q')
    (hdet : ∀ s, cfg.scalarNoise = some s → ∀ j (hj : j < cfg.tables.length) (hj' : j < data'.length),
      IsUnit (Amat cfg.tables[j] s data'[j]).det) :
    q.mean = q'.mean ∧ q.cov = q'.cov := by
  obtain ⟨s, ps, hs, -, hd, -, hps, rfl⟩ := mlistPost_eq_some cfg data p q h
  obtain ⟨s', ps', hs', -, hd', -, hps', rfl⟩ := mlistPost_eq_some cfg data' p q' h'
  obtain rfl : s = s' := Option.some.inj (hs.symm.trans hs')
  refine assembleDiag_mapM_congr _ _ _ _ ps ps' hps hps' ?_ ?_
  · rw [List.length_zip, List.length_zip, List.length_zip, List.length_zip, hd, hd']
  · intro i hi hi' q1 q2 e1 e2
    rw [List.getElem_zip, List.getElem_zip] at e1 e2
    exact postScalar_perm _ s _ _ _ p q1 q2 ((List.forall₂_iff_get.mp hperm).2 i _ _) e1 e2
      (hdet s hs i _ _)

/-- **Independent model with scalar noise, executable: predictions depend only on the multiset of
samples.** -/
theorem indepPost_multiset_invariant (cfg : Cfg) (s : ℚ) (hs : cfg.scalarNoise = some s)
    (data data' : List (Nat × Vec)) (p : Nat) (q q' : Post) (hperm : data.Perm data')
    (h : indepPost cfg data p = some q) (h' : indepPost cfg data' p = some q')
    (hdet : ∀ j (hj : j < cfg.tables.length),
      IsUnit (Amat cfg.tables[j] s (data'.map (fun d => (d.1, d.2[j]?.getD 0)))).det) :
    q.mean = q'.mean ∧ q.cov = q'.cov := by
  obtain ⟨-, ps, hps, rfl⟩ := indepPost_eq_some cfg s hs data p q h
  obtain ⟨-, ps', hps', rfl⟩ := indepPost_eq_some cfg s hs data' p q' h'
  refine assembleDiag_mapM_congr _ _ _ _ ps ps' hps hps' rfl ?_
  intro i hi hi' q1 q2 e1 e2
  rw [List.getElem_zipIdx, Nat.zero_add] at e1 e2
  exact postScalar_perm _ s 0 _ _ p q1 q2 (hperm.map fun d : Nat × Vec => (d.1, d.2[i]?.getD 0))
    e1 e2 (hdet i (List.length_zipIdx ▸ hi))

/-- **End to end, model list.**  Two histories of the model-list wrapper, each split at its last
update: if every objective held the same multiset of samples at those updates, the executable
predictions (mean and covariance) coincide — whatever the order, the batching and the `dim_index`
style of the `add_sample` calls, and whatever was added or cleared afterwards without `update`. -/
theorem mlist_wrapper_predictions_depend_only_on_multisets (cfg : Cfg) (m p : Nat)
    (s₁ s₂ : State (List (List (Nat × ℚ))))
    (pre₁ tail₁ pre₂ tail₂ : List (Op (Route × List (Nat × ℚ))))
    (h₁ : ∀ o ∈ tail₁, o.isUpdate = false) (h₂ : ∀ o ∈ tail₂, o.isUpdate = false)
    (hperm : List.Forall₂ List.Perm (run (mlStore _ m) s₁ pre₁).held (run (mlStore _ m) s₂ pre₂).held)
    (q q' : Post)
    (hq : predict (fun d => mlistPost cfg d p) (run (mlStore _ m) s₁ (pre₁ ++ .update :: tail₁)) =
      some (some q))
    (hq' : predict (fun d => mlistPost cfg d p) (run (mlStore _ m) s₂ (pre₂ ++ .update :: tail₂)) =
      some (some q'))
    (hdet : ∀ s, cfg.scalarNoise = some s → ∀ j (hj : j < cfg.tables.length)
      (hj' : j < (run (mlStore _ m) s₂ pre₂).held.length),
      IsUnit (Amat cfg.tables[j] s (run (mlStore _ m) s₂ pre₂).held[j]).det) :
    q.mean = q'.mean ∧ q.cov = q'.cov := by
  rw [predict_last_update _ _ _ _ _ h₁] at hq
  rw [predict_last_update _ _ _ _ _ h₂] at hq'
  exact mlistPost_multiset_invariant cfg _ _ p q q' hperm (Option.some.inj hq)
    (Option.some.inj hq') hdet

/-- **Locality, executable.**  In the model list, objective `i`'s predicted mean and variance are
determined by objective `i`'s own samples: changing the data of other objectives (e.g. an
observation routed to objective `j ≠ i`, see `mlist_add_locality`) leaves them unchanged. -/
theorem mlistPost_objective_locality (cfg : Cfg) (data data' : List (List (Nat × ℚ))) (p i : Nat)
    (q q' : Post) (hi : data[i]? = data'[i]?)
    (h : mlistPost cfg data p = some q) (h' : mlistPost cfg data' p = some q') :
    q.mean[i]? = q'.mean[i]? ∧ (q.cov[i]?.bind (·[i]?)) = (q'.cov[i]?.bind (·[i]?)) := by
  obtain ⟨s, ps, hs, hT, hd, hc, hps, rfl⟩ := mlistPost_eq_some cfg data p q h
  obtain ⟨s', ps', hs', -, hd', -, hps', rfl⟩ := mlistPost_eq_some cfg data' p q' h'
  obtain rfl : s = s' := Option.some.inj (hs.symm.trans hs')
  refine assembleDiag_entry_congr ps ps' i ?_ ?_
  · rw [mapM_option_getElem? hps, mapM_option_getElem? hps']
    simp only [List.zip_eq_zipWith, List.getElem?_zipWith, hi]
  · rw [mapM_option_length hps, mapM_option_length hps', List.length_zip,
      List.length_zip, List.length_zip, List.length_zip, hd, hd']

/-- **End to end, independent model (scalar noise).**  Two histories of the multi-output wrapper,
each split at its last update: if the rows held at those updates are permutations of one another,
the executable predictions coincide. -/
theorem indep_wrapper_predictions_depend_only_on_multiset (cfg : Cfg) (s : ℚ)
    (hs : cfg.scalarNoise = some s) (p : Nat) (s₁ s₂ : State (List (Nat × Vec)))
    (pre₁ tail₁ pre₂ tail₂ : List (Op (List (Nat × Vec))))
    (h₁ : ∀ o ∈ tail₁, o.isUpdate = false) (h₂ : ∀ o ∈ tail₂, o.isUpdate = false)
    (hperm : (run (moStore _) s₁ pre₁).held.Perm (run (moStore _) s₂ pre₂).held)
    (q q' : Post)
    (hq : predict (fun d => indepPost cfg d p) (run (moStore _) s₁ (pre₁ ++ .update :: tail₁)) =
      some (some q))
    (hq' : predict (fun d => indepPost cfg d p) (run (moStore _) s₂ (pre₂ ++ .update :: tail₂)) =
      some (some q'))
    (hdet : ∀ j (hj : j < cfg.tables.length), IsUnit (Amat cfg.tables[j] s
      ((run (moStore _) s₂ pre₂).held.map (fun d => (d.1, d.2[j]?.getD 0)))).det) :
    q.mean = q'.mean ∧ q.cov = q'.cov := by
  rw [predict_last_update _ _ _ _ _ h₁] at hq
  rw [predict_last_update _ _ _ _ _ h₂] at hq'
  exact indepPost_multiset_invariant cfg s hs _ _ p q q' hperm (Option.some.inj hq)
    (Option.some.inj hq') hdet

/-- **Closed form of the joint executable posterior** (correlated model; independent model with a
noise matrix), over the index type (sample position × task): system matrix
`AJ = K_joint + I_N ⊗ Σ`, `mean_j = k_jᵀ AJ⁻¹ y`, `cov_ij = k(p,i;p,j) − k_iᵀ AJ⁻¹ k_j`. -/
theorem jointPost_closed_form (m : Nat) (kfun : Nat → Nat → Nat → Nat → Option ℚ) (Sg : Mat)
    (data : List (Nat × Vec)) (p : Nat) (q : Post)
    (h : jointPost m kfun Sg data p = some q) (hdet : IsUnit (AJ m kfun Sg data).det) :
    (∀ j : Fin m, q.mean.getD j 0 = quad (AJ m kfun Sg data) (kJ m kfun data p j) (yJ m data)) ∧
    (∀ i j : Fin m, (q.cov.getD i []).getD j 0 = (kfun p i p j).getD 0 -
      quad (AJ m kfun Sg data) (kJ m kfun data p i) (kJ m kfun data p j)) := by
  obtain ⟨hm, hc⟩ := jointPost_spec m kfun Sg data p q h hdet
  rw [hm, hc]
  exact ⟨fun j => getD_ofFn _ j 0, fun i j => by rw [getD_ofFn, getD_ofFn]⟩

/-- **Correlated model, executable: predictions depend only on the multiset of samples** (mean and
the full `m × m` covariance at every test point). -/
theorem corrPost_multiset_invariant (cfg : Cfg) (Sg : Mat) (hSg : cfg.taskNoise = some Sg)
    (data data' : List (Nat × Vec)) (p : Nat) (q q' : Post) (hperm : data.Perm data')
    (h : corrPost cfg data p = some q) (h' : corrPost cfg data' p = some q')
    (hdet : IsUnit (AJ cfg.m (corrK cfg) Sg data').det) : q.mean = q'.mean ∧ q.cov = q'.cov := by
  obtain ⟨Sg₁, h₁, h⟩ := corrPost_eq_some cfg data p q h
  obtain ⟨Sg₂, h₂, h'⟩ := corrPost_eq_some cfg data' p q' h'
  obtain rfl := Option.some.inj (h₁.symm.trans hSg)
  obtain rfl := Option.some.inj (h₂.symm.trans hSg)
  exact jointPost_perm cfg.m (corrK cfg) _ data data' p q q' hperm h h' hdet

/-- **Independent model with a full noise matrix, executable** (gpytorch conditions jointly):
predictions depend only on the multiset of samples. -/
theorem indepPost_matrix_noise_multiset_invariant (cfg : Cfg) (Sg : Mat)
    (hs : cfg.scalarNoise = none) (hSg : cfg.taskNoise = some Sg)
    (data data' : List (Nat × Vec)) (p : Nat) (q q' : Post) (hperm : data.Perm data')
    (h : indepPost cfg data p = some q) (h' : indepPost cfg data' p = some q')
    (hdet : IsUnit (AJ cfg.m (indepK cfg) Sg data').det) : q.mean = q'.mean ∧ q.cov = q'.cov := by
  obtain ⟨Sg₁, h₁, h⟩ := indepPost_matrix_eq_some cfg hs data p q h
  obtain ⟨Sg₂, h₂, h'⟩ := indepPost_matrix_eq_some cfg hs data' p q' h'
  obtain rfl := Option.some.inj (h₁.symm.trans hSg)
  obtain rfl := Option.some.inj (h₂.symm.trans hSg)
  exact jointPost_perm cfg.m (indepK cfg) _ data data' p q q' hperm h h' hdet

/-- **End to end, correlated model.**  Two histories of the multi-output wrapper, each split at
its last update: if the rows held at those updates are permutations of one another, the executable
predictions of the correlated model coincide. -/
theorem corr_wrapper_predictions_depend_only_on_multiset (cfg : Cfg) (Sg : Mat)
    (hSg : cfg.taskNoise = some Sg) (p : Nat) (s₁ s₂ : State (List (Nat × Vec)))
    (pre₁ tail₁ pre₂ tail₂ : List (Op (List (Nat × Vec))))
    (h₁ : ∀ o ∈ tail₁, o.isUpdate = false) (h₂ : ∀ o ∈ tail₂, o.isUpdate = false)
    (hperm : (run (moStore _) s₁ pre₁).held.Perm (run (moStore _) s₂ pre₂).held)
    (q q' : Post)
    (hq : predict (fun d => corrPost cfg d p) (run (moStore _) s₁ (pre₁ ++ .update :: tail₁)) =
      some (some q))
    (hq' : predict (fun d => corrPost cfg d p) (run (moStore _) s₂ (pre₂ ++ .update :: tail₂)) =
      some (some q'))
    (hdet : IsUnit (AJ cfg.m (corrK cfg) Sg (run (moStore _) s₂ pre₂).held).det) :
    q.mean = q'.mean ∧ q.cov = q'.cov := by
  rw [predict_last_update _ _ _ _ _ h₁] at hq
  rw [predict_last_update _ _ _ _ _ h₂] at hq'
  exact corrPost_multiset_invariant cfg Sg hSg _ _ p q q' hperm (Option.some.inj hq)
    (Option.some.inj hq') hdet

/-- **Variance ≥ 0, joint executable posterior.**  If the prior Gram is positive semidefinite on
the training and test outputs involved and the noise part `I_N ⊗ Σ` is positive definite, every
predicted variance of the correlated model (independent model with a noise matrix) is `≥ 0`. -/
theorem jointPost_variance_nonneg (m : Nat) (kfun : Nat → Nat → Nat → Nat → Option ℚ) (Sg : Mat)
    (data : List (Nat × Vec)) (p : Nat) (q : Post)
    (h : jointPost m kfun Sg data p = some q) (hG : (jointGramJ m kfun data p).PosSemidef)
    (hN : (NJ m Sg data).PosDef) : ∀ i : Fin m, 0 ≤ (q.cov.getD i []).getD i 0 := by
  have hA : AJ m kfun Sg data = (jointGramJ m kfun data p).toBlocks₁₁ + NJ m Sg data := rfl
  have hpd : (AJ m kfun Sg data).PosDef := hA ▸ hN.posSemidef_add (hG.submatrix Sum.inl)
  obtain ⟨-, hc⟩ := jointPost_spec m kfun Sg data p q h
    ((Matrix.isUnit_iff_isUnit_det _).mp hpd.isUnit)
  intro i
  rw [hc, getD_ofFn, getD_ofFn, hA]
  exact sub_nonneg.mpr (quad_le_diag (jointGramJ m kfun data p) _ hG hN i)

/-- **Shapes of `predict`.**  For each of the three model classes every executable prediction at a
test point has a mean of length `m` and an `m × m` covariance; predicting at `N` test points gives
`N` of them — the `(N, m)` and `(N, m, m)` arrays, for every `N` including `N = 1`. -/
theorem predict_shapes (cfg : Cfg) (p : Nat) (q : Post) :
    (∀ data, indepPost cfg data p = some q →
      q.mean.length = cfg.m ∧ q.cov.length = cfg.m ∧ ∀ row ∈ q.cov, row.length = cfg.m) ∧
    (∀ data, corrPost cfg data p = some q →
      q.mean.length = cfg.m ∧ q.cov.length = cfg.m ∧ ∀ row ∈ q.cov, row.length = cfg.m) ∧
    (∀ data, mlistPost cfg data p = some q →
      q.mean.length = cfg.m ∧ q.cov.length = cfg.m ∧ ∀ row ∈ q.cov, row.length = cfg.m) :=
  ⟨fun data => indepPost_shapes cfg data p q, fun data => corrPost_shapes cfg data p q,
    fun data => mlistPost_shapes cfg data p q⟩

/-- one answer per test point, each the class's posterior at that point -/
theorem predictAt_shapes {Dt : Type} (post : Dt → Nat → Option Post) (data : Dt) (ps : List Nat)
    (qs : List Post) (h : predictAt post data ps = some qs) :
    qs.length = ps.length ∧ ∀ q ∈ qs, ∃ p ∈ ps, post data p = some q := by
  have hl := mapM_option_length h
  refine ⟨hl, fun q hq => ?_⟩
  obtain ⟨i, hi, rfl⟩ := List.mem_iff_getElem.mp hq
  exact ⟨ps[i]'(hl ▸ hi), List.getElem_mem _, mapM_option_getElem h (hl ▸ hi) hi⟩

/-- **Prior for empty data, executable.**  With no sample the per-objective posterior exists (the
exact solve of the empty system passes its check) and is the prior: mean constant `c`, variance
`k(p,p)`. -/
theorem postScalar_prior_for_empty_data (T : Mat) (s c v : ℚ) (p : Nat)
    (hv : lookup T p p = some v) : postScalar T s c [] p = some ⟨[c], [[v]], none⟩ := by
  have h1 : solveMany [] [[], []] = some (1, [[], []], none) := by decide +kernel
  have hd : dimsOk [] [] [[]] [[v]] [] [] [c] = true := rfl
  have hp : posterior [] [] [[]] [[v]] [] [] [c] = some ⟨[c], [[v]], none⟩ := by
    simp only [posterior, hd, madd, vsub, h1, List.zipWith_cons_cons, List.zipWith_nil_right, dot,
      zero_div, add_zero, sub_zero]
    rfl
  simp only [postScalar, gram, List.map_nil, List.mapM_nil, List.mapM_cons, hv, Option.pure_def,
    Option.bind_eq_bind, Option.bind_some]
  exact hp

/-- **Variance ≥ 0, executable.**  If the kernel table is positive semidefinite on the data points
and the test point, and the noise variance is positive, the executable posterior variance is
non-negative. -/
theorem postScalar_variance_nonneg (T : Mat) (s c : ℚ) (data : List (Nat × ℚ)) (p : Nat) (q : Post)
    (h : postScalar T s c data p = some q) (hs : 0 < s) (hG : (jointGram T data p).PosSemidef) :
    ∃ v, q.cov = [[v]] ∧ 0 ≤ v := by
  obtain ⟨-, hc⟩ := postScalar_spec T s c data p q h
    ((Matrix.isUnit_iff_isUnit_det _).mp (Amat_posDef T s data p hs hG).isUnit)
  refine ⟨_, hc, sub_nonneg.mpr ?_⟩
  rw [Amat_eq T s data p]
  exact quad_le_diag (jointGram T data p) _ hG (Matrix.PosDef.diagonal fun _ => hs) 0

/-- **Variance never grows with more data, executable.**  `add_sample(extra); update()` turns the
conditioned list `data` into `data ++ extra`; the executable posterior variance at any test point
does not increase. -/
theorem postScalar_variance_antitone (T : Mat) (s c : ℚ) (data extra : List (Nat × ℚ)) (p : Nat)
    (q q' : Post) (h : postScalar T s c data p = some q)
    (h' : postScalar T s c (data ++ extra) p = some q') (hs : 0 < s)
    (hG : (jointGram T (data ++ extra) p).PosSemidef) :
    ∃ v v', q.cov = [[v]] ∧ q'.cov = [[v']] ∧ v' ≤ v := by
  -- positions of `data` inside `data ++ extra`
  let f : Fin data.length → Fin (data ++ extra).length :=
    Fin.castLE (List.length_append ▸ Nat.le_add_right ..)
  have hf : Function.Injective f := Fin.castLE_injective _
  have he (i : Fin data.length) : data.get i = (data ++ extra).get (f i) :=
    (List.getElem_append_left i.2).symm
  have hpd' := Amat_posDef T s (data ++ extra) p hs hG
  have hpd := Amat_posDef_of_injective T s f he hf hpd'
  obtain ⟨-, hc⟩ := postScalar_spec T s c data p q h
    ((Matrix.isUnit_iff_isUnit_det _).mp hpd.isUnit)
  obtain ⟨-, hc'⟩ := postScalar_spec T s c (data ++ extra) p q' h'
    ((Matrix.isUnit_iff_isUnit_det _).mp hpd'.isUnit)
  exact ⟨_, _, hc, hc', sub_le_sub_left (quad_Amat_le_of_injective T s p f he hf hpd') _⟩

/-! ## non-vacuity -/

/-- the correlated model on a 2-task, 2-point joint table (index `pid·2 + task`), two samples in
either order, test point 2: both orders answer, with the same mean and 2×2 covariance -/
example :
    let G : Mat := [[2, 1, 1, 1/2, 1/2, 1/4], [1, 2, 1/2, 1, 1/4, 1/2], [1, 1/2, 2, 1, 1, 1/2],
      [1/2, 1, 1, 2, 1/2, 1], [1/2, 1/4, 1, 1/2, 2, 1], [1/4, 1/2, 1/2, 1, 1, 2]]
    let cfg : Cfg := { m := 2, noise := [[1/4, 1/8], [1/8, 1/2]], consts := [0, 0], tables := [G] }
    (corrPost cfg [(0, [1, 2]), (1, [0, -1])] 2).map (fun q => (q.mean, q.cov)) =
      (corrPost cfg [(1, [0, -1]), (0, [1, 2])] 2).map (fun q => (q.mean, q.cov)) ∧
    (corrPost cfg [(0, [1, 2]), (1, [0, -1])] 2).isSome = true := by
  decide +kernel

/-- a 2×2 kernel table, two samples at points 0 and 1 in either order, test point 2: both orders
answer, with the same numbers -/
example :
    let T : Mat := [[1, 1/2, 1/4], [1/2, 1, 1/2], [1/4, 1/2, 1]]
    (postScalar T (1/4) (1/2) [(0, 1), (1, 2)] 2).map (fun q => (q.mean, q.cov)) =
      (postScalar T (1/4) (1/2) [(1, 2), (0, 1)] 2).map (fun q => (q.mean, q.cov)) ∧
    (postScalar T (1/4) (1/2) [(0, 1), (1, 2)] 2).isSome = true := by
  decide +kernel


/-- the pre-fix sequence on concrete data: stale with 0 initial samples, fine with ≥ 1; the
helpers' sequence fine in both cases -/
example :
    upToDate (run (moStore Nat) (init (moStore Nat)) (helperOpsConditional [[1, 2, 3]] none)) = false ∧
    upToDate (run (moStore Nat) (init (moStore Nat)) (helperOpsConditional [[1, 2, 3]] (some [2]))) = true ∧
    upToDate (run (moStore Nat) (init (moStore Nat)) (helperOps [[1, 2, 3]] none)) = true ∧
    (run (moStore Nat) (init (moStore Nat)) (helperOps [[1, 2, 3]] none)).conditioned = [] ∧
    (run (moStore Nat) (init (moStore Nat)) (helperOpsConditional [[1, 2, 3]] none)).conditioned =
      [1, 2, 3] := by
  decide

/-- list routing of the model list: rows go to the objective they name, order kept -/
example : mlAdd [[], [7], []] (.each [2, 0, 2], [10, 11, 12]) = [[11], [7], [10, 12]] := by decide

/-- the exact solver on a 2-sample, one-target problem: `K = [[1, 1/2], [1/2, 1]]`, noise `1/4 I`,
`k* = (1/2, 1/4)`, `k** = 1`, `y = (1, 2)`, constant mean `1/2`. -/
example : (posterior [[1, 1/2], [1/2, 1]] (scalarMat 2 (1/4)) [[1/2, 1/4]] [[1]] [1, 2]
    [1/2, 1/2] [1/2]).map (fun q => (q.mean, q.cov)) = some ([16/21], [[67/84]]) := by
  decide +kernel

/-- no data: the prior -/
example : (posterior [] [] [[]] [[3]] [] [] [1/2]).map (fun q => (q.mean, q.cov)) =
    some ([1/2], [[3]]) := by decide +kernel

/-- hypotheses of the two order theorems are satisfiable over `ℚ` with genuinely correlated
points: `A = [2]`, one added point with `b = [1]`, `C = [2]`; `[[2,1],[1,2]] = I + 𝟙𝟙ᵀ` is positive
definite. -/
example : ∃ (A b C : Matrix (Fin 1) (Fin 1) ℚ),
    A.PosDef ∧ (fromBlocks A b bᵀ C).PosDef ∧ b ≠ 0 := by
  refine ⟨2, 1, 2, Matrix.PosDef.ofNat 2, ?_, one_ne_zero⟩
  have h : fromBlocks (2 : Matrix (Fin 1) (Fin 1) ℚ) (1 : Matrix (Fin 1) (Fin 1) ℚ)
      (1 : Matrix (Fin 1) (Fin 1) ℚ)ᵀ (2 : Matrix (Fin 1) (Fin 1) ℚ) =
      1 + vecMulVec (fun _ => (1 : ℚ)) (star fun _ => (1 : ℚ)) := by
    ext i j
    rcases i with i | i <;> rcases j with j | j <;>
      simp [vecMulVec, Matrix.ofNat_apply, Subsingleton.elim i j] <;> norm_num
  rw [h]
  exact Matrix.PosDef.one.add_posSemidef (posSemidef_vecMulVec_self_star _)

end VOPy.C15
