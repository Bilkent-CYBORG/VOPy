import VOPyVerif.Props.C20
import VOPyVerif.Proofs.GenAgreeC20
import VOPyVerif.Proofs.RealInst
/-!
# C20 — SOURCE AGREEMENT obligations (second tie between model and code, DESIGN §2.10)

Property theorems only, same namespace `VOPy.C20` as `Props/C20.lean` (whose theorems are about the
hand-written model and do not depend on anything generated).  The theorems here say that the column
formulas of the model's `normalize` / `unnormalize` are the ones regenerated from the current Python
source text (`Gen/C20.lean`, written by `harness/translate.py` on every `./check C20`; agreement lemmas in
`Proofs/GenAgreeC20.lean`), and transfer the mutual-inverse law to the generated terms.  Own module, so a
source edit the translator reads differently makes exactly these obligations fail while the model
theorems of `Props/C20.lean` stay discharged.
-/
namespace VOPy.C20
open VOPy VOPy.Problem

/-- `normalize`'s column formula as written in the source = `normalizeColF` (polymorphic, `rfl`). -/
theorem source_normalizeCol {α : Type} [RealLike α] (lo hi x : α) :
    Gen.C20.gen_normalizeCol lo hi x = normalizeColF lo hi x :=
  GenAgree.C20.gen_normalizeCol_eq lo hi x

/-- `unnormalize`'s column formula as written in the source = `unnormalizeColF` (polymorphic, `rfl`). -/
theorem source_unnormalizeCol {α : Type} [RealLike α] (lo hi x : α) :
    Gen.C20.gen_unnormalizeCol lo hi x = unnormalizeColF lo hi x :=
  GenAgree.C20.gen_unnormalizeCol_eq lo hi x

/-- **The source-derived terms are the model's rational column maps.**  At `ℝ`, on rational data, the
generated terms take exactly the values of `normalizeCol` / `unnormalizeCol` — the functions
`unnormalize_normalize` / `normalize_unnormalize` of `Props/C20.lean` are proved about. -/
theorem source_cols_cast (lo hi x : Rat) :
    Gen.C20.gen_normalizeCol (lo : ℝ) (hi : ℝ) (x : ℝ) = ((normalizeCol lo hi x : Rat) : ℝ) ∧
    Gen.C20.gen_unnormalizeCol (lo : ℝ) (hi : ℝ) (x : ℝ) = ((unnormalizeCol lo hi x : Rat) : ℝ) := by
  constructor
  · show ((x : ℝ) - lo) / ((hi : ℝ) - lo) = _
    rw [normalizeCol, Rat.cast_div, Rat.cast_sub, Rat.cast_sub]
  · show (x : ℝ) * ((hi : ℝ) - lo) + lo = _
    rw [unnormalizeCol, Rat.cast_add, Rat.cast_mul, Rat.cast_sub]

/-- **Mutual inverses, for the source-derived terms, over ℝ.**  With `upper ≠ lower` the two expressions
written in `vopy/utils/utils.py` undo each other in both orders, for every real entry. -/
theorem source_normalize_roundtrip (lo hi x : ℝ) (h : lo ≠ hi) :
    Gen.C20.gen_unnormalizeCol lo hi (Gen.C20.gen_normalizeCol lo hi x) = x ∧
    Gen.C20.gen_normalizeCol lo hi (Gen.C20.gen_unnormalizeCol lo hi x) = x := by
  have hne : hi - lo ≠ 0 := sub_ne_zero.mpr (Ne.symm h)
  constructor
  · show (x - lo) / (hi - lo) * (hi - lo) + lo = x
    rw [div_mul_cancel₀ _ hne, sub_add_cancel]
  · show (x * (hi - lo) + lo - lo) / (hi - lo) = x
    rw [add_sub_cancel_right, mul_div_cancel_right₀ _ hne]

/-- non-vacuity: bounds (−2, 6), entry 1 ↦ 3/8 ↦ 1 -/
example : Gen.C20.gen_unnormalizeCol (-2 : ℝ) 6 (Gen.C20.gen_normalizeCol (-2 : ℝ) 6 1) = 1 :=
  (source_normalize_roundtrip (-2) 6 1 (by norm_num)).1

end VOPy.C20
