import VOPyVerif.Proofs.Empirical
import VOPyVerif.Proofs.EmpiricalInvariance
import VOPyVerif.Proofs.EmpiricalRunning
/-!
# C16 — the empirical model reports per-design running statistics of all samples

Property theorems only (helper lemmas: `Proofs/Empirical.lean`, `EmpiricalInvariance.lean`,
`EmpiricalRunning.lean`).  They are about the executable
model `Empirical.add / clear / update / predict / run` (`Model/Empirical.lean`) that the driver
replays against the real `EmpiricalMeanVarModel`.

Vocabulary (defined next to the model, looking only at the list of calls): `heldFor count d ops` =
the samples added for design `d` since the last `clear_data()` of the history `ops`, in arrival order;
`flagsAfter` = the value of the two public flags after a history; `WF m count ops` = every
`add_sample` of the history is either well-formed (valid design numbers `0 ≤ i < count`, rows that are
`m`-vectors, as many indices as rows, at least one) or stopped by the guard at the top of the method.
`meanOf` / `varOf` are the statistics `update()` stores (`np.mean(axis=0)` or zeros;
`np.diag(np.var(axis=0))` for ≥ 2 samples, else `noise_var·I`); `mean_spec` / `var_spec` below spell
them out entry by entry.
-/
namespace VOPy.C16
open VOPy VOPy.Empirical

/-- **Main theorem (statistics after any history).**  Take any history that contains an `update()`:
`pre`, then the last `update()`, then `post` (any calls except `update`; its adds may even be
ill-formed).  For every list `I` of valid design numbers, `predict` succeeds and reports, for each
`i ∈ I` (in the order of `I`):
* if means are tracked now: `meanOf` of exactly the samples added for `i` since the last clear, as of
  the last update (`heldFor count i pre`) — the arithmetic mean, or the zero vector when there are
  none; otherwise the zero vector;
* if variances are tracked now: `varOf` of the same samples — the diagonal matrix of per-objective
  population variances when there are at least two, else `noise·I`; otherwise the identity.
"Tracked now" requires that the flag was also on at the last update (the stored attribute is `None`
otherwise and the real `predict` raises `TypeError`). -/
theorem predict_after_history {m count : Nat} (noise : Rat) (tm0 tv0 : Bool) (hm : 0 < m)
    (pre post : List Op) (hwf : WF m count pre) (hpost : ∀ o ∈ post, o.isUpdate = false)
    (I : List Nat) (hI : ∀ i ∈ I, i < count)
    (hM : (flagsAfter (tm0, tv0) (pre ++ .update :: post)).1 = true → (flagsAfter (tm0, tv0) pre).1 = true)
    (hV : (flagsAfter (tm0, tv0) (pre ++ .update :: post)).2 = true → (flagsAfter (tm0, tv0) pre).2 = true) :
    predict (run (init m count noise tm0 tv0) (pre ++ .update :: post)) (I.map (fun (i : Nat) => (i : Int))) =
      .ok (I.map (fun i => if (flagsAfter (tm0, tv0) (pre ++ .update :: post)).1
                           then meanOf m (heldFor count i pre) else zeros m),
           I.map (fun i => if (flagsAfter (tm0, tv0) (pre ++ .update :: post)).2
                           then varOf m noise (heldFor count i pre) else diagOf m (fun _ => 1))) := by
  obtain ⟨hmeans, hvars⟩ := run_update_stats noise tm0 tv0 hm pre post hwf hpost
  have hf := run_flags (init m count noise tm0 tv0) (pre ++ .update :: post)
  have e1 : (flagsAfter (tm0, tv0) (pre ++ .update :: post)).1 = _ := congrArg Prod.fst hf.symm
  have e2 : (flagsAfter (tm0, tv0) (pre ++ .update :: post)).2 = _ := congrArg Prod.snd hf.symm
  rw [e1] at hM ⊢
  rw [e2] at hV ⊢
  rw [predict_of_stats _ count I hI _ _ (fun h => by rw [hmeans, if_pos (hM h)])
    (fun h => by rw [hvars, if_pos (hV h)]), (run_params _ _).1]
  rfl

/-- non-vacuity: two designs, three interleaved batches, a clear in the middle, a rejected add, a
stale add after the last update, and the Auer-style flag toggle -/
example :
    predict (run (init 2 2 (1/4) true true)
      [.add [0, 1] [[9, 9], [9, 9]], .clear, .add [1, 0, 1] [[1, 2], [3, 4], [5, 6]],
       .add [2] [[7, 7]], .add [1] [[3, 1]], .update, .add [0] [[100, 100]],
       .setFlags true false, .setFlags true true]) [0, 1]
      = .ok ([[3, 4], [3, 3]], [[[1/4, 0], [0, 1/4]], [[8/3, 0], [0, 14/3]]]) := by
  decide +kernel

/-- **What `meanOf` is.**  For a non-empty sample list every entry `j < m` of the reported mean is the
sum of the `j`-th coordinates divided by the number of samples; for an empty list (design never
sampled) it is the zero vector. -/
theorem mean_spec (m : Nat) (S : List Vec) :
    (S ≠ [] → meanOf m S = (List.range m).map (fun j => (S.map (fun y => y.getD j 0)).sum / (S.length : Rat))) ∧
    (S = [] → meanOf m S = List.replicate m 0) := by
  constructor
  · intro h
    rw [meanOf, if_pos (List.length_pos_iff.mpr h)]
    simp only [mean, colOf, List.length_map]
  · rintro rfl
    rfl

/-- **What `varOf` is.**  With at least two samples the reported covariance is diagonal with, on the
diagonal, the population variance (divisor `n`, not `n − 1`) of each objective:
`Σ (y_j − ȳ_j)² / n`; with fewer than two samples it is `noise·I`.  (`diagOf m f` has `f i` at `(i, i)`
and `0` elsewhere.) -/
theorem var_spec (m : Nat) (noise : Rat) (S : List Vec) :
    (2 ≤ S.length → varOf m noise S = diagOf m (fun j =>
        let c := S.map (fun y => y.getD j 0)
        let μ := c.sum / (S.length : Rat)
        (c.map (fun x => (x - μ) * (x - μ))).sum / (S.length : Rat))) ∧
    (S.length < 2 → varOf m noise S = diagOf m (fun _ => noise)) ∧
    (∀ f : Nat → Rat, ∀ i j, i < m → j < m →
        ((diagOf m f)[i]?.bind (·[j]?)) = some (if i = j then f i else 0)) := by
  refine ⟨?_, ?_, fun f i j hi hj => diagOf_entry m f hi hj⟩
  · intro h
    rw [varOf, if_pos (show S.length > 1 from h)]
    simp only [popVar, mean, colOf, List.length_map]
  · intro h
    rw [varOf, if_neg (show ¬ S.length > 1 by omega)]

/-- The population variance is the mean of squares minus the squared mean (König–Huygens) and is
never negative. -/
theorem popVar_alt (c : List Rat) (hc : c ≠ []) :
    popVar c = mean (c.map (fun x => x * x)) - mean c * mean c ∧ 0 ≤ popVar c :=
  ⟨popVar_eq_meanSq_sub c hc, popVar_nonneg c⟩

/-- **Order / batching / interleaving independence, general form.**  Two histories (each with a last
update, well-formed before it) whose held samples form the same multiset for every design
(`List.Perm`), with the same flags now and at the last update, give identical predictions for every
list of valid designs. -/
theorem predict_perm_invariant {m count : Nat} (noise : Rat) (tm0 tv0 : Bool) (hm : 0 < m)
    (pre₁ post₁ pre₂ post₂ : List Op) (hwf₁ : WF m count pre₁) (hwf₂ : WF m count pre₂)
    (hpost₁ : ∀ o ∈ post₁, o.isUpdate = false) (hpost₂ : ∀ o ∈ post₂, o.isUpdate = false)
    (hperm : ∀ d < count, (heldFor count d pre₁).Perm (heldFor count d pre₂))
    (hnow : flagsAfter (tm0, tv0) (pre₁ ++ .update :: post₁) = flagsAfter (tm0, tv0) (pre₂ ++ .update :: post₂))
    (hM₁ : (flagsAfter (tm0, tv0) (pre₁ ++ .update :: post₁)).1 = true → (flagsAfter (tm0, tv0) pre₁).1 = true)
    (hV₁ : (flagsAfter (tm0, tv0) (pre₁ ++ .update :: post₁)).2 = true → (flagsAfter (tm0, tv0) pre₁).2 = true)
    (hM₂ : (flagsAfter (tm0, tv0) (pre₂ ++ .update :: post₂)).1 = true → (flagsAfter (tm0, tv0) pre₂).1 = true)
    (hV₂ : (flagsAfter (tm0, tv0) (pre₂ ++ .update :: post₂)).2 = true → (flagsAfter (tm0, tv0) pre₂).2 = true)
    (I : List Nat) (hI : ∀ i ∈ I, i < count) :
    predict (run (init m count noise tm0 tv0) (pre₁ ++ .update :: post₁)) (I.map (fun (i : Nat) => (i : Int))) =
    predict (run (init m count noise tm0 tv0) (pre₂ ++ .update :: post₂)) (I.map (fun (i : Nat) => (i : Int))) := by
  rw [predict_after_history noise tm0 tv0 hm pre₁ post₁ hwf₁ hpost₁ I hI hM₁ hV₁,
    predict_after_history noise tm0 tv0 hm pre₂ post₂ hwf₂ hpost₂ I hI hM₂ hV₂, hnow]
  apply report_congr
  · intro i hi
    rw [meanOf_perm m (hperm i (hI i hi))]
  · intro i hi
    rw [varOf_perm m noise (hperm i (hI i hi))]

/-- **Re-batching.**  Any two lists of well-formed batches whose flattened `(design, sample)` pair
lists are permutations of each other — the same samples cut into different batches, batches in a
different order, designs interleaved differently — followed by `update()`, give identical
predictions for every list of valid designs; and that prediction is the mean / variance of the
design's samples among all pairs. -/
theorem rebatch_invariant {m count : Nat} (noise : Rat) (tm tv : Bool) (hm : 0 < m)
    (A B : List (List Nat × List Vec))
    (hA : ∀ b ∈ A, CleanBatch m count b) (hB : ∀ b ∈ B, CleanBatch m count b)
    (hperm : (A.flatMap (fun b => b.1.zip b.2)).Perm (B.flatMap (fun b => b.1.zip b.2)))
    (I : List Nat) (hI : ∀ i ∈ I, i < count) :
    predict (run (init m count noise tm tv) (A.map addOp ++ [.update])) (I.map (fun (i : Nat) => (i : Int))) =
      predict (run (init m count noise tm tv) (B.map addOp ++ [.update])) (I.map (fun (i : Nat) => (i : Int))) ∧
    predict (run (init m count noise tm tv) (A.map addOp ++ [.update])) (I.map (fun (i : Nat) => (i : Int))) =
      .ok (I.map (fun i => if tm then meanOf m (samplesFor i (A.flatMap (fun b => b.1.zip b.2))) else zeros m),
           I.map (fun i => if tv then varOf m noise (samplesFor i (A.flatMap (fun b => b.1.zip b.2)))
                           else diagOf m (fun _ => 1))) := by
  have hf0 := flagsAfter_batches (tm, tv)
  have hf : ∀ X : List (List Nat × List Vec), flagsAfter (tm, tv) (X.map addOp ++ [.update]) = (tm, tv) :=
    fun X => by rw [flagsAfter_append, hf0]; rfl
  have hM : ∀ X : List (List Nat × List Vec), (flagsAfter (tm, tv) (X.map addOp ++ [.update])).1 = true →
      (flagsAfter (tm, tv) (X.map addOp)).1 = true := fun X => by rw [hf, hf0]; exact id
  have hV : ∀ X : List (List Nat × List Vec), (flagsAfter (tm, tv) (X.map addOp ++ [.update])).2 = true →
      (flagsAfter (tm, tv) (X.map addOp)).2 = true := fun X => by rw [hf, hf0]; exact id
  have hnil : ∀ o ∈ ([] : List Op), o.isUpdate = false := fun _ h => (List.not_mem_nil h).elim
  constructor
  · exact predict_perm_invariant noise tm tv hm (A.map addOp) [] (B.map addOp) []
      (WF_batches A hA) (WF_batches B hB) hnil hnil
      (fun d _ => by
        rw [heldFor_batches d A hA, heldFor_batches d B hB]
        exact samplesFor_perm d hperm)
      (by rw [hf, hf]) (hM A) (hV A) (hM B) (hV B) I hI
  · rw [predict_after_history noise tm tv hm (A.map addOp) [] (WF_batches A hA) hnil I hI (hM A) (hV A), hf]
    exact report_congr (fun i _ => by rw [heldFor_batches i A hA]) (fun i _ => by rw [heldFor_batches i A hA])

/-- non-vacuity: the same five samples as one batch and as three re-ordered batches -/
example :
    predict (run (init 1 2 1 true true)
      ([([0, 1, 0, 1, 0], [[1], [2], [3], [4], [8]])].map addOp ++ [.update])) [0, 1] =
    predict (run (init 1 2 1 true true)
      ([([1, 0], [[4], [8]]), ([0], [[1]]), ([0, 1], [[3], [2]])].map addOp ++ [.update])) [0, 1] := by
  -- each side is evaluated against the common report: deciding the equation between the two
  -- unevaluated sides is many times slower to check
  trans .ok ([[4], [3]], [[[26/3]], [[1]]])
  · decide +kernel
  · decide +kernel

/-- **Unsampled designs.**  A design with no sample since the last clear (as of the last update) is
reported with the zero mean and covariance `noise·I`. -/
theorem unsampled_zero_mean {m count : Nat} (noise : Rat) (hm : 0 < m)
    (pre post : List Op) (hwf : WF m count pre) (hpost : ∀ o ∈ post, o.isUpdate = false)
    (i : Nat) (hi : i < count) (hnone : heldFor count i pre = [])
    (hnow : flagsAfter (true, true) (pre ++ .update :: post) = (true, true))
    (hupd : flagsAfter (true, true) pre = (true, true)) :
    predict (run (init m count noise true true) (pre ++ .update :: post)) [(i : Int)] =
      .ok ([List.replicate m 0], [diagOf m (fun _ => noise)]) := by
  have := predict_after_history noise true true hm pre post hwf hpost [i] (by simpa using hi)
    (by rw [hupd]; intro; rfl) (by rw [hupd]; intro; rfl)
  simp only [List.map_cons, List.map_nil, hnow, hnone, if_true] at this
  rw [this]
  simp [meanOf, varOf, zeros]

/-- **Untracked statistics.**  Whatever the object holds (even before any update, and for any index
list), with both flags off `predict` reports zero means and identity covariances; with only one
flag off the corresponding half is reported that way (see `predict_after_history`). -/
theorem untracked_zero_identity (st : State) (idx : List Int)
    (hM : st.trackMeans = false) (hV : st.trackVars = false) :
    predict st idx = .ok (idx.map (fun _ => List.replicate st.m 0), idx.map (fun _ => diagOf st.m (fun _ => 1))) := by
  simp [predict, hM, hV, zeros]

/-- **Rejection.**  `add_sample` raises `ValueError` and leaves the object exactly as it was when the
numbers of indices and rows differ, when there are no indices, or when some index is at or beyond
the design count — and only then does the guard stop the call (`guardOk_iff`). -/
theorem add_rejects (st : State) (idx : List Int) (Y : List Vec)
    (h : idx.length ≠ Y.length ∨ idx = [] ∨ ∃ i ∈ idx, (st.count : Int) ≤ i) :
    add st idx Y = (st, some .valueError) := by
  apply add_rejected
  cases hg : guardOk st.count idx Y.length with
  | false => rfl
  | true =>
    obtain ⟨h1, h2, h3⟩ := (guardOk_iff _ _ _).1 hg
    rcases h with h | h | ⟨i, hi, h⟩
    · exact absurd h1 h
    · exact absurd h h2
    · have := h3 i hi; omega

/-- **Accepted adds append per design.**  A well-formed batch (natural design numbers) is accepted and
appends to every design's store exactly that design's samples of the batch, in batch order (zip
pairing of indices with rows); nothing else changes. -/
theorem add_accepts (st : State) (hm : 0 < st.m) (hlen : st.samples.length = st.count)
    (b : List Nat × List Vec) (hb : CleanBatch st.m st.count b) :
    add st (b.1.map (fun (i : Nat) => (i : Int))) b.2 =
      ({ st with samples := (st.samples.mapIdx (fun d s => s ++ samplesFor d (b.1.zip b.2))) }, none) := by
  have h := add_clean hm hlen (addOp_clean hb)
  have e := addOp_pairs hb
  simp only [addOp] at e
  rw [e] at h
  exact h

/-- **Rejected adds can be ignored.**  Deleting from a history every `add_sample` that the guard
stops does not change the final state (hence no later prediction). -/
theorem rejected_adds_ignored (st : State) (ops : List Op) :
    run st ops = run st (ops.filter (fun o => !o.rejected st.count)) :=
  run_filter_rejected st ops

end VOPy.C16

/-! # INVARIANCE — shifting / scaling the samples

The statement behind the large-offset stream of the harness: the reported statistics are *exactly*
equivariant — means move with the data, variances see only deviations.  Any loss of accuracy at large
offsets in an implementation (e.g. a one-pass `E[x²] − E[x]²` formula) is therefore a floating-point
artefact, not something the specification allows.  `Op.affine a c` replaces every sample row `y` of
every `add_sample` of a history by `affRow a c y = a·y + c` (`c` holds one constant per objective). -/
namespace VOPy.C16
open VOPy VOPy.Empirical

/-- **Affine equivariance after any history.**  Under the hypotheses of `predict_after_history`, for
any factor `a` and any vector `c` of one constant per objective: after the history in which every
sample value `y` was replaced by `a·y + c`, `predict` reports for each design `i` of `I`
* mean: `a·mean + c` of the original held samples if the design holds at least one sample (as of the
  last update), and the zero vector if it holds none — the zero vector of an unsampled design does
  *not* move;
* covariance: `a²` times the original covariance if the design holds at least two samples, and the
  configured `noise·I` otherwise (the `< 2` samples branch does not see the data at all);
the untracked defaults (zero vector, identity) as before. -/
theorem predict_affine_history {m count : Nat} (noise : Rat) (tm0 tv0 : Bool) (hm : 0 < m)
    (a : Rat) (c : Vec) (hc : c.length = m)
    (pre post : List Op) (hwf : WF m count pre) (hpost : ∀ o ∈ post, o.isUpdate = false)
    (I : List Nat) (hI : ∀ i ∈ I, i < count)
    (hM : (flagsAfter (tm0, tv0) (pre ++ .update :: post)).1 = true → (flagsAfter (tm0, tv0) pre).1 = true)
    (hV : (flagsAfter (tm0, tv0) (pre ++ .update :: post)).2 = true → (flagsAfter (tm0, tv0) pre).2 = true) :
    predict (run (init m count noise tm0 tv0) ((pre ++ .update :: post).map (Op.affine a c)))
        (I.map (fun (i : Nat) => (i : Int))) =
      .ok (I.map (fun i => if (flagsAfter (tm0, tv0) (pre ++ .update :: post)).1
                           then (if heldFor count i pre = [] then zeros m
                                 else affRow a c (meanOf m (heldFor count i pre)))
                           else zeros m),
           I.map (fun i => if (flagsAfter (tm0, tv0) (pre ++ .update :: post)).2
                           then (if 1 < (heldFor count i pre).length
                                 then (varOf m noise (heldFor count i pre)).map (smul (a * a))
                                 else diagOf m (fun _ => noise))
                           else diagOf m (fun _ => 1))) := by
  subst hc
  have hfl := flagsAfter_affine a c (tm0, tv0)
  rw [← hfl (pre ++ .update :: post), ← hfl pre, map_affine_update] at hM hV
  rw [← hfl (pre ++ .update :: post), map_affine_update,
    predict_after_history noise tm0 tv0 hm _ _ (WF_affine a c count pre hwf) (noUpdate_affine a c hpost)
      I hI hM hV]
  refine report_congr (fun i _ => ?_) (fun i _ => ?_)
  · rw [heldFor_affine, meanOf_affine a c _ (heldFor_rows i pre hwf)]
  · rw [heldFor_affine, varOf_affine a c noise _ (heldFor_rows i pre hwf)]

/-- **Shift invariance** (`a = 1`): adding the constant `c_d` to every sample value of objective `d`
adds `c` to the reported mean of every sampled design and leaves **every reported covariance exactly
unchanged** — including the `noise·I` of designs with fewer than two samples. -/
theorem predict_shift_history {m count : Nat} (noise : Rat) (tm0 tv0 : Bool) (hm : 0 < m)
    (c : Vec) (hc : c.length = m)
    (pre post : List Op) (hwf : WF m count pre) (hpost : ∀ o ∈ post, o.isUpdate = false)
    (I : List Nat) (hI : ∀ i ∈ I, i < count)
    (hM : (flagsAfter (tm0, tv0) (pre ++ .update :: post)).1 = true → (flagsAfter (tm0, tv0) pre).1 = true)
    (hV : (flagsAfter (tm0, tv0) (pre ++ .update :: post)).2 = true → (flagsAfter (tm0, tv0) pre).2 = true) :
    predict (run (init m count noise tm0 tv0) ((pre ++ .update :: post).map (Op.affine 1 c)))
        (I.map (fun (i : Nat) => (i : Int))) =
      .ok (I.map (fun i => if (flagsAfter (tm0, tv0) (pre ++ .update :: post)).1
                           then (if heldFor count i pre = [] then zeros m
                                 else vadd (meanOf m (heldFor count i pre)) c)
                           else zeros m),
           I.map (fun i => if (flagsAfter (tm0, tv0) (pre ++ .update :: post)).2
                           then varOf m noise (heldFor count i pre) else diagOf m (fun _ => 1))) := by
  rw [predict_affine_history noise tm0 tv0 hm 1 c hc pre post hwf hpost I hI hM hV]
  apply report_congr
  · intro i _
    simp only [affRow_one_shift]
  · intro i _
    have e : (smul 1 : Vec → Vec) = id := by funext v; simp [smul]
    by_cases h1 : 1 < (heldFor count i pre).length
    · simp [h1, e]
    · simp [h1, varOf]

/-- **Scaling** (`c = 0`): multiplying every sample value by `a` multiplies every reported mean by `a`
and every data-dependent covariance by `a²` (designs with fewer than two samples keep `noise·I`). -/
theorem predict_scale_history {m count : Nat} (noise : Rat) (tm0 tv0 : Bool) (hm : 0 < m)
    (a : Rat)
    (pre post : List Op) (hwf : WF m count pre) (hpost : ∀ o ∈ post, o.isUpdate = false)
    (I : List Nat) (hI : ∀ i ∈ I, i < count)
    (hM : (flagsAfter (tm0, tv0) (pre ++ .update :: post)).1 = true → (flagsAfter (tm0, tv0) pre).1 = true)
    (hV : (flagsAfter (tm0, tv0) (pre ++ .update :: post)).2 = true → (flagsAfter (tm0, tv0) pre).2 = true) :
    predict (run (init m count noise tm0 tv0) ((pre ++ .update :: post).map (Op.affine a (zeros m))))
        (I.map (fun (i : Nat) => (i : Int))) =
      .ok (I.map (fun i => if (flagsAfter (tm0, tv0) (pre ++ .update :: post)).1
                           then smul a (meanOf m (heldFor count i pre)) else zeros m),
           I.map (fun i => if (flagsAfter (tm0, tv0) (pre ++ .update :: post)).2
                           then (if 1 < (heldFor count i pre).length
                                 then (varOf m noise (heldFor count i pre)).map (smul (a * a))
                                 else diagOf m (fun _ => noise))
                           else diagOf m (fun _ => 1))) := by
  rw [predict_affine_history noise tm0 tv0 hm a (zeros m) (by simp [zeros]) pre post hwf hpost I hI hM hV]
  refine report_congr (fun i _ => ?_) (fun _ _ => rfl)
  have hlen : (meanOf m (heldFor count i pre)).length = m := by
    simp only [meanOf]; split <;> simp [zeros]
  by_cases h0 : heldFor count i pre = []
  · simp [h0, meanOf, zeros, smul]
  · simp only [h0, if_false, affRow_scale a m _ hlen]

/-- the per-design statements the three theorems rest on: for samples that are `m`-vectors,
`mean(a·y + c) = a·mean(y) + c` (none: zero vector) and `Var(a·y + c) = a²·Var(y)` (fewer than two:
`noise·I`) — `c` has one entry per objective. -/
theorem stats_affine (a : Rat) (c : Vec) (noise : Rat) (S : List Vec) (hS : ∀ y ∈ S, y.length = c.length) :
    meanOf c.length (S.map (affRow a c)) =
      (if S = [] then zeros c.length else affRow a c (meanOf c.length S)) ∧
    varOf c.length noise (S.map (affRow a c)) =
      (if 1 < S.length then (varOf c.length noise S).map (smul (a * a)) else varOf c.length noise S) :=
  ⟨meanOf_affine a c S hS, by
    rw [varOf_affine a c noise S hS]
    split
    · rfl
    · rw [varOf, if_neg ‹_›]⟩

/-! ### non-vacuity: offset `2^20`, spread `2^-10` -/

/-- design 0 receives `2^20 + k·2^-10` (k = 1, 3) in objective 0 and `−2^20 ± 2^-10` in objective 1;
design 1 a single sample; design 2 none.  The variances `(2^-10)²` are reported exactly, the single
sample gives `noise·I`, the unsampled design the zero vector. -/
example :
    predict (run (init 2 3 (1/4) true true)
      [.add [0, 0, 1] [[1048576 + 1/1024, -1048576 - 1/1024], [1048576 + 3/1024, -1048576 + 1/1024],
                       [1048576, -1048576]], .update]) [0, 1, 2]
      = .ok ([[1048576 + 2/1024, -1048576], [1048576, -1048576], [0, 0]],
             [[[1/1048576, 0], [0, 1/1048576]], [[1/4, 0], [0, 1/4]], [[1/4, 0], [0, 1/4]]]) := by
  decide +kernel

/-- the same result through the shift by `c = (2^20, −2^20)` of a history with values of size `2^-10`
(evaluated), and the hypotheses of `predict_shift_history` hold for it -/
example :
    predict (run (init 2 3 (1/4) true true)
      (([.add [0, 0, 1] [[1/1024, -1/1024], [3/1024, 1/1024], [0, 0]], .update] : List Op).map
        (Op.affine 1 [1048576, -1048576]))) [0, 1, 2]
      = .ok ([[1048576 + 2/1024, -1048576], [1048576, -1048576], [0, 0]],
             [[[1/1048576, 0], [0, 1/1048576]], [[1/4, 0], [0, 1/4]], [[1/4, 0], [0, 1/4]]]) ∧
    WF 2 3 [.add [0, 0, 1] [[1/1024, -1/1024], [3/1024, 1/1024], [0, 0]]] := by
  constructor
  · decide +kernel
  · intro o ho
    simp only [List.mem_singleton] at ho
    subst ho
    exact Or.inl (by decide +kernel)

end VOPy.C16

/-! # RUNNING STATISTICS — the batch formulas are what an incremental accumulator holds

`update()` recomputes `np.mean` / `np.var` over all stored samples.  The theorems below show that the
numbers it reports obey the one-sample-at-a-time (Welford) recurrences and stay inside the range of the
samples, so "per-design running statistics of all samples" holds literally: nothing is forgotten,
nothing is weighted differently, and no value outside the data can be reported.  They quantify over
every sample list and every new sample (helper lemmas: `Proofs/EmpiricalRunning.lean`). -/
namespace VOPy.C16
open VOPy VOPy.Empirical

/-- **Running mean.**  When one more sample `y` arrives for a design holding the samples `S`, every
entry `j < m` of the reported mean moves by `(y_j − old mean_j)/(n+1)`, `n = |S|` — also for the first
sample (`n = 0`, old "mean" the zero vector of an unsampled design). -/
theorem running_mean (m : Nat) (S : List Vec) (y : Vec) (j : Nat) (hj : j < m) :
    (meanOf m (S ++ [y])).getD j 0 =
      (meanOf m S).getD j 0 + (y.getD j 0 - (meanOf m S).getD j 0) / ((S.length : Rat) + 1) := by
  rw [meanOf_getD hj, meanOf_getD hj, colOf_snoc, mean_snoc, colOf_length]

/-- **Running variance (Welford).**  With `n = |S| ≥ 2` samples held and one more sample `y`, the
diagonal entry `j` of the reported covariance satisfies
`(n+1)·var' = n·var + (y_j − mean_j)·(y_j − mean'_j)` (entries read from the reported matrices and
means). -/
theorem running_variance (m : Nat) (noise : Rat) (S : List Vec) (y : Vec) (j : Nat) (hj : j < m)
    (hS : 2 ≤ S.length) :
    ((S.length : Rat) + 1) * (((varOf m noise (S ++ [y]))[j]?.bind (·[j]?)).getD 0) =
      (S.length : Rat) * (((varOf m noise S)[j]?.bind (·[j]?)).getD 0)
        + (y.getD j 0 - (meanOf m S).getD j 0) * (y.getD j 0 - (meanOf m (S ++ [y])).getD j 0) := by
  have h1' : 1 < (S ++ [y]).length := by rw [List.length_append]; omega
  rw [varOf_entry hj noise h1', varOf_entry hj noise hS, meanOf_getD hj, meanOf_getD hj, colOf_snoc,
    ← colOf_length j S]
  exact sumSqDev_snoc (colOf j S) (y.getD j 0)

/-- **The reported mean stays inside the data.**  For a design holding at least one sample, every
entry `j < m` of the reported mean lies between any lower and upper bound of the `j`-th coordinates of
its samples (in particular between their minimum and maximum). -/
theorem mean_within_samples (m : Nat) (S : List Vec) (hS : S ≠ []) (j : Nat) (hj : j < m) (lo hi : Rat)
    (h : ∀ y ∈ S, lo ≤ y.getD j 0 ∧ y.getD j 0 ≤ hi) :
    lo ≤ (meanOf m S).getD j 0 ∧ (meanOf m S).getD j 0 ≤ hi := by
  have hne : colOf j S ≠ [] := by simpa [colOf] using hS
  rw [meanOf_getD hj]
  exact ⟨mean_ge_of_forall_ge _ _ hne (List.forall_mem_map.2 fun y hy => (h y hy).1),
    mean_le_of_forall_le _ _ hne (List.forall_mem_map.2 fun y hy => (h y hy).2)⟩

/-- **Repeated identical samples.**  A design that received the same vector `y` `n ≥ 2` times reports
mean `y` (entry by entry) and variance exactly `0` on the diagonal — never the `noise·I` fallback,
never a negative number. -/
theorem identical_samples (m : Nat) (noise : Rat) (y : Vec) (n : Nat) (hn : 2 ≤ n) (j : Nat) (hj : j < m) :
    (meanOf m (List.replicate n y)).getD j 0 = y.getD j 0 ∧
    ((varOf m noise (List.replicate n y))[j]?.bind (·[j]?)).getD 0 = 0 := by
  have h1 : 1 < (List.replicate n y).length := by rw [List.length_replicate]; omega
  have hcol : colOf j (List.replicate n y) = List.replicate n (y.getD j 0) := List.map_replicate
  rw [meanOf_getD hj, varOf_entry hj noise h1, hcol, mean_replicate (by omega), popVar_const]
  exact ⟨rfl, rfl⟩

/-- non-vacuity: three samples `(1,5),(3,5),(8,5)` then a fourth `(0,1)`; the recurrences hold on the
evaluated reports and the means lie within the sample range -/
example :
    meanOf 2 [[1, 5], [3, 5], [8, 5]] = [4, 5] ∧ meanOf 2 [[1, 5], [3, 5], [8, 5], [0, 1]] = [3, 4] ∧
    varOf 2 (1/4) [[1, 5], [3, 5], [8, 5]] = [[26/3, 0], [0, 0]] ∧
    varOf 2 (1/4) [[1, 5], [3, 5], [8, 5], [0, 1]] = [[19/2, 0], [0, 3]] ∧
    ((3 : Rat) + 1) * (19/2) = 3 * (26/3) + (0 - 4) * (0 - 3) := by
  refine ⟨by decide +kernel, by decide +kernel, by decide +kernel, by decide +kernel, by norm_num⟩

end VOPy.C16
