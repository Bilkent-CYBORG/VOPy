import VOPyVerif.Proofs.Pareto
import VOPyVerif.Proofs.ParetoDominates
import VOPyVerif.Proofs.ParetoInvariance
/-!
# C13 — Pareto-set extraction is exact for every finite set and cone

Property theorems only (helper lemmas live in `Proofs/Pareto.lean`, `Proofs/ParetoDominates.lean`; the laws of
`dominates` in `Proofs/ConeOrderRat.lean`).
They are about the executable model `Pareto.fast` / `Pareto.naive` and the decidable relations
`Pareto.specOk` / `Pareto.naiveSpecOk` that the driver runs against
`PolyhedralConeOrder.get_pareto_set(_naive)`.

* `fast_spec`, `fast_indices`, `specOk_fast`, `specOk_sound` — the fast routine, any preorder.
* `naive_mem_iff`, `naive_copies`, `naive_cover`, `naive_values_eq_fast`, `naiveSpecOk_naive` — the
  naive routine with `eqv` = equality and a partial order (pointed cone).
* `dominates_fast_spec`, `dominates_specOk_fast`, `dominates_naive` — the same statements for the
  relation the driver actually uses, `VOPy.dominates W` for *any* matrix `W`, on lists of vectors of
  one common length (there `dominates W` is reflexive and transitive).
-/
namespace VOPy.C13
open VOPy VOPy.Pareto

variable {α : Type}

/-- **Fast routine, any preorder.**  For every finite list of elements and every reflexive,
transitive relation: the kept (index, element) pairs are a sublist of the indexed input (so the
returned indices are valid, distinct and increasing), kept elements are pairwise unrelated (an
antichain: in particular equal values are represented once), every input is dominated by a kept
element, and no kept element is strictly dominated by any input. -/
theorem fast_spec (dom : α → α → Bool)
    (hrefl : ∀ a, dom a a = true)
    (htrans : ∀ a b c, dom a b = true → dom b c = true → dom a c = true)
    (xs : List α) :
    let R := loop dom [] (indexed xs)
    R.Sublist (indexed xs) ∧
    (∀ e ∈ R, ∀ f ∈ R, e ≠ f → dom e.2 f.2 = false) ∧
    (∀ x ∈ xs, ∃ f ∈ R, dom f.2 x = true) ∧
    (∀ e ∈ R, ∀ x ∈ xs, dom x e.2 = true → dom e.2 x = true) :=
  fast_pairs_on dom xs (PreorderOn.of_global hrefl htrans xs)

/-- non-vacuity: the six-point example of the design notes under the componentwise order -/
example : fast (dominates (identMat 2)) [[1,2],[2,1],[0,0],[2,1],[3,0],[1,1]] = [0,1,4] := by
  decide +kernel

/-- **Returned indices** (no hypothesis on the relation at all): the index list of the fast routine
is strictly increasing — hence duplicate-free — and every entry is a valid position of the input. -/
theorem fast_indices (dom : α → α → Bool) (xs : List α) :
    (fast dom xs).Pairwise (· < ·) ∧ ∀ i ∈ fast dom xs, i < xs.length :=
  (of_sublist_range (fast_sublist_range dom xs)).symm

/-- **The model satisfies the relation (R) the harness evaluates on the implementation's output.**
For a reflexive transitive relation `specOk dom xs (fast dom xs)` is `true`. -/
theorem specOk_fast (dom : α → α → Bool)
    (hrefl : ∀ a, dom a a = true)
    (htrans : ∀ a b c, dom a b = true → dom b c = true → dom a c = true)
    (xs : List α) : specOk dom xs (fast dom xs) = true :=
  (specOk_iff dom xs _).mpr (fast_isParetoIdx_on dom xs (PreorderOn.of_global hrefl htrans xs))

/-- **Soundness of the decidable relation (R).**  Whenever `specOk dom xs idx` evaluates to `true`
(for *any* index list, e.g. the one returned by the Python code) the Prop-level Pareto
specification holds: indices valid and strictly increasing; kept elements pairwise unrelated;
every input dominated by a kept element; no kept element strictly dominated by an input.
(The converse holds as well: `Pareto.specOk_iff`.) -/
theorem specOk_sound (dom : α → α → Bool) (xs : List α) (idx : List Nat)
    (h : specOk dom xs idx = true) :
    (∀ i ∈ idx, i < xs.length) ∧
    idx.Pairwise (· < ·) ∧
    (∀ i ∈ idx, ∀ j ∈ idx, i ≠ j → ∀ a b, xs[i]? = some a → xs[j]? = some b → dom a b = false) ∧
    (∀ x ∈ xs, ∃ i ∈ idx, ∃ a, xs[i]? = some a ∧ dom a x = true) ∧
    (∀ i ∈ idx, ∀ a, xs[i]? = some a → ∀ x ∈ xs, dom x a = true → dom a x = true) := by
  have := (specOk_iff dom xs idx).mp h
  exact ⟨this.valid, this.incr, this.anti, this.cover, this.maximal⟩

example : specOk (dominates (identMat 2)) [[1,2],[2,1],[0,0],[2,1],[3,0],[1,1]] [0,1,4] = true := by
  decide +kernel
/-- the relation is not trivially true: keeping the duplicate `[2,1]` twice is rejected -/
example : specOk (dominates (identMat 2)) [[1,2],[2,1],[0,0],[2,1],[3,0],[1,1]] [0,1,3,4] = false := by
  decide +kernel

/-! ### the naive routine (`eqv` = equality, partial order = pointed cone) -/

/-- **Naive routine: kept ⇔ not dominated by a different value.**  With `eqv` deciding equality,
index `i` is returned iff it is a valid position and no input element of a *different* value
dominates `xs[i]` (no hypothesis on `dom`). -/
theorem naive_mem_iff (eqv dom : α → α → Bool) (heqv : ∀ a b, eqv a b = true ↔ a = b)
    (xs : List α) (i : Nat) :
    i ∈ naive eqv dom xs ↔ ∃ a, xs[i]? = some a ∧ ∀ o ∈ xs, o ≠ a → dom o a = false := by
  rw [mem_naive_iff]
  exact exists_congr fun a => and_congr_right fun _ => forall₂_congr fun o _ =>
    imp_congr_left ((eqv_eq_false_iff heqv).trans ne_comm)

/-- **All copies of a kept value are kept** by the naive routine, and its index list is strictly
increasing with valid entries. -/
theorem naive_copies (eqv dom : α → α → Bool) (xs : List α) :
    (∀ i ∈ naive eqv dom xs, ∀ j a, xs[i]? = some a → xs[j]? = some a → j ∈ naive eqv dom xs) ∧
    (naive eqv dom xs).Pairwise (· < ·) ∧ ∀ i ∈ naive eqv dom xs, i < xs.length := by
  refine ⟨?_, (of_sublist_range (naive_sublist_range eqv dom xs)).symm⟩
  intro i hi j a hia hja
  rw [mem_naive_iff] at hi ⊢
  obtain ⟨b, hb, hk⟩ := hi
  rw [hia] at hb
  rw [← Option.some.inj hb] at hk
  exact ⟨a, hja, hk⟩

/-- **Covering for the naive routine** (finite maximality): for a reflexive, transitive,
antisymmetric relation (a pointed cone) every input is dominated by an element the naive routine
keeps. -/
theorem naive_cover (eqv dom : α → α → Bool) (heqv : ∀ a b, eqv a b = true ↔ a = b)
    (hrefl : ∀ a, dom a a = true)
    (htrans : ∀ a b c, dom a b = true → dom b c = true → dom a c = true)
    (hanti : ∀ a b, dom a b = true → dom b a = true → a = b)
    (xs : List α) :
    ∀ x ∈ xs, ∃ i ∈ naive eqv dom xs, ∃ a, xs[i]? = some a ∧ dom a x = true :=
  naive_cover_on eqv dom xs heqv (PreorderOn.of_global hrefl htrans xs)
    (fun a _ b _ => hanti a b)

/-- **Naive and fast keep the same values** for a partial order: a value occurs among the elements
kept by `naive` iff it occurs among those kept by `fast` (naive keeps all its copies, fast one). -/
theorem naive_values_eq_fast (eqv dom : α → α → Bool) (heqv : ∀ a b, eqv a b = true ↔ a = b)
    (hrefl : ∀ a, dom a a = true)
    (htrans : ∀ a b c, dom a b = true → dom b c = true → dom a c = true)
    (hanti : ∀ a b, dom a b = true → dom b a = true → a = b)
    (xs : List α) (v : α) :
    (∃ i ∈ naive eqv dom xs, xs[i]? = some v) ↔ (∃ i ∈ fast dom xs, xs[i]? = some v) :=
  naive_values_eq_fast_on eqv dom xs heqv (PreorderOn.of_global hrefl htrans xs)
    (fun a _ b _ => hanti a b) v

/-- **The naive model satisfies its relation** `naiveSpecOk` (any `eqv`, any `dom`): this is the
relation the harness evaluates on `get_pareto_set_naive`'s output. -/
theorem naiveSpecOk_naive (eqv dom : α → α → Bool) (xs : List α) :
    naiveSpecOk eqv dom xs (naive eqv dom xs) = true :=
  Pareto.naiveSpecOk_naive eqv dom xs

example : naive (fun a b => decide (a = b)) (dominates (identMat 2))
    [[1,2],[2,1],[0,0],[2,1],[3,0],[1,1]] = [0,1,3,4] := by
  decide +kernel

/-! ### instantiation at the cone order `VOPy.dominates W` the driver runs -/

/-- **`dominates W` is a preorder on vectors of one length**: reflexive for all vectors, transitive
for vectors of equal length — for any matrix `W` (any number of facets, `K > m` included). -/
theorem dominates_preorder (W : Mat) :
    (∀ a, dominates W a a = true) ∧
    (∀ a b c : Vec, a.length = b.length → b.length = c.length →
      dominates W a b = true → dominates W b c = true → dominates W a c = true) :=
  ⟨dominates_refl W, dominates_trans W⟩

/-- **Fast routine under a polyhedral cone order.**  For any cone matrix `W` and any finite list of
vectors of one common length `m`, `Pareto.fast (dominates W)` — exactly the function the driver
evaluates — returns valid, strictly increasing indices of pairwise non-dominating vectors such that
every input is dominated by a kept vector and no kept vector is strictly dominated. -/
theorem dominates_fast_spec (W : Mat) (m : Nat) (xs : List Vec) (hlen : ∀ x ∈ xs, x.length = m) :
    let idx := fast (dominates W) xs
    (∀ i ∈ idx, i < xs.length) ∧
    idx.Pairwise (· < ·) ∧
    (∀ i ∈ idx, ∀ j ∈ idx, i ≠ j → ∀ a b, xs[i]? = some a → xs[j]? = some b →
      dominates W a b = false) ∧
    (∀ x ∈ xs, ∃ i ∈ idx, ∃ a, xs[i]? = some a ∧ dominates W a x = true) ∧
    (∀ i ∈ idx, ∀ a, xs[i]? = some a → ∀ x ∈ xs, dominates W x a = true →
      dominates W a x = true) := by
  have := fast_isParetoIdx_on (dominates W) xs (dominates_preorderOn W m xs hlen)
  exact ⟨this.valid, this.incr, this.anti, this.cover, this.maximal⟩

/-- the relation (R) holds for the model under every cone order -/
theorem dominates_specOk_fast (W : Mat) (m : Nat) (xs : List Vec)
    (hlen : ∀ x ∈ xs, x.length = m) : specOk (dominates W) xs (fast (dominates W) xs) = true :=
  (specOk_iff _ xs _).mpr (fast_isParetoIdx_on _ xs (dominates_preorderOn W m xs hlen))

/-- **Naive routine under a pointed polyhedral cone order.**  If `dominates W` is antisymmetric on
the input vectors (pointed cone) and `eqv` decides equality, then every input is dominated by a
vector the naive routine keeps, and the naive and fast routines keep the same values. -/
theorem dominates_naive (W : Mat) (m : Nat) (xs : List Vec) (hlen : ∀ x ∈ xs, x.length = m)
    (eqv : Vec → Vec → Bool) (heqv : ∀ a b, eqv a b = true ↔ a = b)
    (hpointed : ∀ a ∈ xs, ∀ b ∈ xs, dominates W a b = true → dominates W b a = true → a = b) :
    (∀ x ∈ xs, ∃ i ∈ naive eqv (dominates W) xs, ∃ a, xs[i]? = some a ∧ dominates W a x = true) ∧
    (∀ v, (∃ i ∈ naive eqv (dominates W) xs, xs[i]? = some v) ↔
      (∃ i ∈ fast (dominates W) xs, xs[i]? = some v)) :=
  ⟨naive_cover_on eqv _ xs heqv (dominates_preorderOn W m xs hlen) hpointed,
   naive_values_eq_fast_on eqv _ xs heqv (dominates_preorderOn W m xs hlen) hpointed⟩

/-- non-vacuity of the pointedness hypothesis: the componentwise order on a concrete list -/
example : ∀ a ∈ ([[1,2],[2,1],[0,0],[2,1]] : List Vec), ∀ b ∈ ([[1,2],[2,1],[0,0],[2,1]] : List Vec),
    dominates (identMat 2) a b = true → dominates (identMat 2) b a = true → a = b := by
  decide +kernel

end VOPy.C13

/-! # INVARIANCE — the routines depend on differences only

The metamorphic checks of the harness ("translated / rescaled inputs give the identical index list")
rely on the model having exactly these invariances, for every input.  All statements are equalities
of the returned **index lists** (what the harness compares), for any cone matrix `W`, any finite list
(duplicates included); the length hypotheses are the ones under which `vadd` does not truncate. -/
namespace VOPy.C13
open VOPy VOPy.Pareto

variable {α β : Type}

/-- **General form.**  If `f` carries the relation used on the members of `xs` to the relation used on
their images (`dom' (f a) (f b) = dom a b` for `a, b ∈ xs`), the fast routine returns the same index
list on `xs.map f` (with `dom'`) as on `xs` (with `dom`); likewise the naive routine when `f` also
preserves its `eqv`.  No order axioms are needed. -/
theorem pareto_map_congr (eqv dom : α → α → Bool) (eqv' dom' : β → β → Bool) (f : α → β) (xs : List α)
    (hd : ∀ a ∈ xs, ∀ b ∈ xs, dom' (f a) (f b) = dom a b) :
    fast dom' (xs.map f) = fast dom xs ∧
    ((∀ a ∈ xs, ∀ b ∈ xs, eqv' (f a) (f b) = eqv a b) →
      naive eqv' dom' (xs.map f) = naive eqv dom xs) :=
  ⟨fast_map_congr dom dom' f xs hd, fun he => naive_map_congr eqv dom eqv' dom' f xs hd he⟩

/-- **Translation invariance (fast routine).**  For any cone matrix `W` and any list of vectors of the
length of `t`: translating every point by `t` does not change the returned index list. -/
theorem fast_translate (W : Mat) (t : Vec) (xs : List Vec) (hlen : ∀ x ∈ xs, x.length = t.length) :
    fast (dominates W) (xs.map (fun x => vadd x t)) = fast (dominates W) xs :=
  fast_map_congr _ _ _ xs (fun a ha b hb => dominates_translate W a b t (hlen a ha) (hlen b hb))

/-- **Positive scaling invariance (fast routine)**: `c > 0`, no hypothesis on lengths. -/
theorem fast_scale (W : Mat) (c : Rat) (hc : 0 < c) (xs : List Vec) :
    fast (dominates W) (xs.map (smul c)) = fast (dominates W) xs :=
  fast_map_congr _ _ _ xs (fun a _ b _ => dominates_scale W c hc a b)

/-- **Translation / scaling invariance (naive routine).**  With an `eqv` that is itself translation
(resp. scaling) invariant on the input — in particular exact equality — the naive routine returns the
same index list.  (`np.allclose`, which the code uses, is *relative* to the values and is not
translation invariant: see the example below.) -/
theorem naive_translate (W : Mat) (t : Vec) (xs : List Vec) (hlen : ∀ x ∈ xs, x.length = t.length)
    (eqv : Vec → Vec → Bool)
    (he : ∀ a ∈ xs, ∀ b ∈ xs, eqv (vadd a t) (vadd b t) = eqv a b) :
    naive eqv (dominates W) (xs.map (fun x => vadd x t)) = naive eqv (dominates W) xs :=
  naive_map_congr eqv _ eqv _ _ xs
    (fun a ha b hb => dominates_translate W a b t (hlen a ha) (hlen b hb)) he

theorem naive_scale (W : Mat) (c : Rat) (hc : 0 < c) (xs : List Vec) (eqv : Vec → Vec → Bool)
    (he : ∀ a ∈ xs, ∀ b ∈ xs, eqv (smul c a) (smul c b) = eqv a b) :
    naive eqv (dominates W) (xs.map (smul c)) = naive eqv (dominates W) xs :=
  naive_map_congr eqv _ eqv _ _ xs (fun a _ b _ => dominates_scale W c hc a b) he

/-- the naive routine with exact equality as `eqv` is translation and scaling invariant -/
theorem naive_eq_translate_scale (W : Mat) (t : Vec) (c : Rat) (hc : 0 < c) (xs : List Vec)
    (hlen : ∀ x ∈ xs, x.length = t.length) :
    naive (fun a b => decide (a = b)) (dominates W) (xs.map (fun x => vadd x t)) =
      naive (fun a b => decide (a = b)) (dominates W) xs ∧
    naive (fun a b => decide (a = b)) (dominates W) (xs.map (smul c)) =
      naive (fun a b => decide (a = b)) (dominates W) xs := by
  refine ⟨naive_translate W t xs hlen _ (fun a ha b hb => ?_), naive_scale W c hc xs _ (fun a _ b _ => ?_)⟩
  · rw [decide_eq_decide]; exact vadd_right_cancel_iff a b t (hlen a ha) (hlen b hb)
  · rw [decide_eq_decide]; exact smul_left_cancel_iff c (ne_of_gt hc) a b

/-- **Invariance under the presentation of the cone.**  Multiplying the rows of `W` by positive factors
(`rowScale cs W`, one factor per row) or replacing `W` by any matrix with the same set of rows (a row
permutation, repeated rows) changes neither routine's index list — for any `eqv`. -/
theorem pareto_cone_presentation (W : Mat) (xs : List Vec) (eqv : Vec → Vec → Bool) :
    (∀ cs : Vec, cs.length = W.length → (∀ c ∈ cs, 0 < c) →
      fast (dominates (rowScale cs W)) xs = fast (dominates W) xs ∧
      naive eqv (dominates (rowScale cs W)) xs = naive eqv (dominates W) xs) ∧
    (∀ W' : Mat, (∀ w, w ∈ W' ↔ w ∈ W) →
      fast (dominates W') xs = fast (dominates W) xs ∧
      naive eqv (dominates W') xs = naive eqv (dominates W) xs) := by
  constructor
  · intro cs hl hp
    have h : dominates (rowScale cs W) = dominates W := by
      funext a b; exact dominates_rowScale cs W hl hp a b
    rw [h]; exact ⟨rfl, rfl⟩
  · intro W' hW
    have h : dominates W' = dominates W := by
      funext a b; exact dominates_of_same_rows W W' hW a b
    rw [h]; exact ⟨rfl, rfl⟩

/-- row permutations in particular -/
theorem pareto_rowPerm (W W' : Mat) (h : W'.Perm W) (xs : List Vec) (eqv : Vec → Vec → Bool) :
    fast (dominates W') xs = fast (dominates W) xs ∧
    naive eqv (dominates W') xs = naive eqv (dominates W) xs :=
  (pareto_cone_presentation W xs eqv).2 W' (fun _ => h.mem_iff)

/-! ### non-vacuity: offset `2^20`, gaps `2^-10` -/

/-- six points with gaps of `2^-10`, as they are and translated by `(2^20, −2^20)`: same index list
`[0, 1, 4]` (a duplicate at positions 1 and 3, kept once by the fast routine) -/
example :
    fast (dominates (identMat 2))
      [[1/1024, 2/1024], [2/1024, 1/1024], [0, 0], [2/1024, 1/1024], [3/1024, 0], [1/1024, 1/1024]] = [0, 1, 4] ∧
    fast (dominates (identMat 2))
      ([[1/1024, 2/1024], [2/1024, 1/1024], [0, 0], [2/1024, 1/1024], [3/1024, 0], [1/1024, 1/1024]].map
        (fun x => vadd x [1048576, -1048576])) = [0, 1, 4] := by
  decide +kernel

/-- … as an instance of the theorem (non-orthant cone, scaling by `2^20` as well) -/
example :
    fast (dominates [[2, -1], [-1, 2]])
      (([[1/1024, 2/1024], [2/1024, 1/1024], [0, 0]] : List Vec).map (fun x => vadd x [1048576, -1048576])) =
    fast (dominates [[2, -1], [-1, 2]]) [[1/1024, 2/1024], [2/1024, 1/1024], [0, 0]] ∧
    fast (dominates [[2, -1], [-1, 2]])
      (([[1/1024, 2/1024], [2/1024, 1/1024], [0, 0]] : List Vec).map (smul 1048576)) =
    fast (dominates [[2, -1], [-1, 2]]) [[1/1024, 2/1024], [2/1024, 1/1024], [0, 0]] :=
  ⟨fast_translate _ _ _ (by decide), fast_scale _ _ (by norm_num) _⟩

/-- **`np.allclose` is not translation invariant** (the `eqv` hypothesis of `naive_translate` cannot be
dropped): with `eqv a b := |a − b| ≤ 1e-8 + 1e-5·|b|` entrywise, the points `(0,0)` and `(2^-10, 2^-10)`
are different values and the dominated one is dropped, but after translation by `2^20` they are
"close", so the naive routine keeps both. -/
example :
    let eqv : Vec → Vec → Bool := fun a b =>
      (List.zipWith (fun x y => decide ((if x - y < 0 then y - x else x - y) ≤
        (1 : Rat) / 100000000 + (1 : Rat) / 100000 * (if y < 0 then -y else y))) a b).all id
    naive eqv (dominates (identMat 2)) [[0, 0], [1/1024, 1/1024]] = [1] ∧
    naive eqv (dominates (identMat 2))
      ([[0, 0], [1/1024, 1/1024]].map (fun x => vadd x [1048576, 1048576])) = [0, 1] := by
  decide +kernel

end VOPy.C13

/-! # EXACTNESS — the relation (R) determines the answer

`specOk` is the relation the harness evaluates on the index list returned by the real
`get_pareto_set`.  The theorems below show that (R) leaves no freedom beyond the choice of a
representative among mutually dominating (for a pointed cone: equal) elements — so "the code's output
satisfies (R)" means "the code returned *the* Pareto set", for every finite input. -/
namespace VOPy.C13
open VOPy VOPy.Pareto

variable {α : Type}

/-- **Uniqueness up to equivalent representatives** (no hypothesis on the relation).  If two index
lists both satisfy (R) for the same input, every element kept by the first is matched by an element
kept by the second that dominates it and is dominated by it. -/
theorem specOk_unique_up_to_equiv (dom : α → α → Bool) (xs : List α) (idx₁ idx₂ : List Nat)
    (h₁ : specOk dom xs idx₁ = true) (h₂ : specOk dom xs idx₂ = true) :
    ∀ i ∈ idx₁, ∀ a, xs[i]? = some a →
      ∃ j ∈ idx₂, ∃ b, xs[j]? = some b ∧ dom a b = true ∧ dom b a = true := by
  have H₁ := (specOk_iff dom xs idx₁).mp h₁
  have H₂ := (specOk_iff dom xs idx₂).mp h₂
  intro i hi a ha
  have hax : a ∈ xs := List.mem_of_getElem? ha
  obtain ⟨j, hj, b, hb, hba⟩ := H₂.cover a hax
  have hbx : b ∈ xs := List.mem_of_getElem? hb
  exact ⟨j, hj, b, hb, H₁.maximal i hi a ha b hbx hba, hba⟩

/-- **The kept values are unique for a partial order** (antisymmetric on the input, e.g. a pointed
cone): any two index lists satisfying (R) keep exactly the same set of values.  In particular the
values kept by the real code (whenever its output passes (R)) are the values kept by the model. -/
theorem specOk_values_unique (dom : α → α → Bool) (xs : List α) (idx₁ idx₂ : List Nat)
    (hanti : ∀ a ∈ xs, ∀ b ∈ xs, dom a b = true → dom b a = true → a = b)
    (h₁ : specOk dom xs idx₁ = true) (h₂ : specOk dom xs idx₂ = true) (v : α) :
    (∃ i ∈ idx₁, xs[i]? = some v) ↔ (∃ j ∈ idx₂, xs[j]? = some v) := by
  constructor
  · rintro ⟨i, hi, hv⟩
    obtain ⟨j, hj, b, hb, hab, hba⟩ := specOk_unique_up_to_equiv dom xs idx₁ idx₂ h₁ h₂ i hi v hv
    have : v = b := hanti v (List.mem_of_getElem? hv) b (List.mem_of_getElem? hb) hab hba
    exact ⟨j, hj, this ▸ hb⟩
  · rintro ⟨i, hi, hv⟩
    obtain ⟨j, hj, b, hb, hab, hba⟩ := specOk_unique_up_to_equiv dom xs idx₂ idx₁ h₂ h₁ i hi v hv
    have : v = b := hanti v (List.mem_of_getElem? hv) b (List.mem_of_getElem? hb) hab hba
    exact ⟨j, hj, this ▸ hb⟩

/-- **Anything passing (R) keeps the model's values.**  For a reflexive, transitive, antisymmetric
relation, an index list accepted by (R) keeps exactly the values `Pareto.fast` keeps. -/
theorem specOk_values_eq_fast (dom : α → α → Bool)
    (hrefl : ∀ a, dom a a = true)
    (htrans : ∀ a b c, dom a b = true → dom b c = true → dom a c = true)
    (hanti : ∀ a b, dom a b = true → dom b a = true → a = b)
    (xs : List α) (idx : List Nat) (h : specOk dom xs idx = true) (v : α) :
    (∃ i ∈ idx, xs[i]? = some v) ↔ (∃ j ∈ fast dom xs, xs[j]? = some v) :=
  specOk_values_unique dom xs idx (fast dom xs) (fun a _ b _ => hanti a b) h
    (specOk_fast dom hrefl htrans xs) v

/-- non-vacuity: with a duplicated optimum two different index lists pass (R) — `[0,1,4]` and
`[0,3,4]` keep different positions but the same values -/
example :
    specOk (dominates (identMat 2)) [[1,2],[2,1],[0,0],[2,1],[3,0],[1,1]] [0,1,4] = true ∧
    specOk (dominates (identMat 2)) [[1,2],[2,1],[0,0],[2,1],[3,0],[1,1]] [0,3,4] = true := by
  constructor <;> decide +kernel

end VOPy.C13
