import VOPyVerif.Proofs.RunSpec
import VOPyVerif.Proofs.RunAD
import VOPyVerif.Proofs.RunCover
/-!
# C06 — runs are monotone, terminate cleanly, and account for every sample

Property theorems only (helper lemmas: `Steps.Trans` in `Proofs/Steps.lean`, `Proofs/RunStep.lean`, `RunInv.lean`,
`RunSpec.lean`, `RunAD.lean`, `RunCover.lean`).  They are about the executable state machine `Run.step` / `Run.run`
(`Model/Run.lean`, one family per algorithm class, mirrors `run_one_step()`), which the driver
replays on the recorded environment of every real run, and about the decidable relation
`Run.specOk` that the driver evaluates on the attributes of the real object before and after every
real call.

All statements quantify over **every** configuration `c`, **every** finite sequence of
environments (oracle answers of any geometry, any acquisition picks, any refinement answers) and —
through `run_append` — every prefix of every run.  `es₁ ++ es₂` reads "the run continued".

* invariants: `invariant_disjoint_useful`, `sets_within_designs`, `ad_sets_are_nodes`, `S_antitone`, `P_monotone`, `never_returns`,
  `ad_nodes_and_candidates`, `ad_never_returns`, `ad_P_modulo_children`,
  `ad_P_monotone_from_constructor`, `ad_P_monotone_modulo_children`
* termination flag: `done_iff_S_empty`, `done_iff_partial`, `done_iff_naive`,
  `done_iff_decoupled`, `done_is_fixpoint`, `finished_stays_finished`, `naive_terminates`
* counters: `round_step`, `round_counts_active_calls`, `accounting`, `requests_le_cap`,
  `requests_eq_cap_evalAll`, `batch_is_clamped_batch_size`
* relation (R): `specOk_step`, `specOk_sound_done`, `specOk_sound_active`, `specOk_sound_requests`,
  `specOk_sound_sets`, `specOk_sound_ad`
-/
namespace VOPy.C06
open VOPy VOPy.Steps VOPy.Run

/-! ### concrete instances used by the non-vacuity examples -/

/-- an environment in which every geometry test answers "covered", nothing else -/
def envQuiet : Env :=
  { isDom := fun _ _ => false, isCov := fun _ _ => true, pessDom := fun _ _ => false,
    centre := fun _ => [], width := fun _ => [], picks := [], refineTest := false, pareto := [] }

/-- PaVeBa on three designs -/
def cfgPaveba : Cfg :=
  { alg := .paveba, K := 3, m := 2, batch := 1, costs := none, budget := none, L := 0, eps := 0,
    maxDepth := 0, branch := 0 }

/-- round 1: design 0 is dominated by design 1; round 2: nobody is covered any more -/
def envsPaveba : List Env :=
  [{ envQuiet with isDom := fun i j => i == 0 && j == 1 },
   { envQuiet with isCov := fun _ _ => false },
   envQuiet]

/-- PaVeBaPartialGP, two designs, batch 2, costs (1, 1/2), budget 2 -/
def cfgPartial : Cfg :=
  { alg := .pavebaPartial, K := 2, m := 2, batch := 2, costs := some [1, 1/2], budget := some 2,
    L := 0, eps := 0, maxDepth := 0, branch := 0 }

def envsPartial : List Env :=
  [{ envQuiet with picks := [(0, 0), (1, 1)] }, { envQuiet with picks := [(0, 1), (1, 1), (0, 0)] },
   { envQuiet with picks := [(0, 0)] }]

/-- VOGP_AD over a one-dimensional domain (2 children per refinement), maximum depth 2 -/
def cfgAD : Cfg :=
  { alg := .vogpAD, K := 0, m := 2, batch := 1, costs := none, budget := none, L := 0, eps := 0,
    maxDepth := 2, branch := 2 }

/-- round 1: the root is refined; round 2: child 2 is sampled; round 3: nothing is covered → P -/
def envsAD : List Env :=
  [{ envQuiet with picks := [(0, 0)], refineTest := true },
   { envQuiet with picks := [(2, 0)], refineTest := true },
   { envQuiet with isCov := fun _ _ => false }]

/-- NaiveElimination with `L = 2` on three designs -/
def cfgNaive : Cfg :=
  { alg := .naive, K := 3, m := 2, batch := 1, costs := none, budget := none, L := 2, eps := 0,
    maxDepth := 0, branch := 0 }

/-! ### invariants -/

/-- **`S ∩ P = ∅` and `U ⊆ P` at every point of every run.**  For every elimination algorithm
(all but NaiveElimination and DecoupledGP), starting from the state the constructor leaves, after
any sequence of calls with any oracle answers / picks: `S` and `P` are duplicate free and disjoint,
and every useful design is a member of `P`. -/
theorem invariant_disjoint_useful (c : Cfg) (hel : c.alg.elim = true) (es : List Env) :
    (run c (init c) es).1.S.Nodup ∧ (run c (init c) es).1.P.Nodup ∧
    (∀ i ∈ (run c (init c) es).1.S, i ∉ (run c (init c) es).1.P) ∧
    (∀ i ∈ (run c (init c) es).1.U, i ∈ (run c (init c) es).1.P) :=
  let w := wf_run c (init c) es (wf_init c) hel
  ⟨w.nodupS, w.nodupP, w.disj, w.useful⟩

/-- **`S` and `P` only ever contain designs of the problem** (fixed-design elimination algorithms):
every index in `S ∪ P` at any point of any run from the constructor is below the number of
designs `K`. -/
theorem sets_within_designs (c : Cfg) (hel : c.alg.elim = true) (hne : c.alg ≠ .vogpAD)
    (es : List Env) :
    (∀ i ∈ (run c (init c) es).1.S, i < c.K) ∧ (∀ i ∈ (run c (init c) es).1.P, i < c.K) := by
  have T := run_trans c (init c) es (wf_init c) hel hne
  exact ⟨fun i hi => mem_init_S hne (T.sub.subset hi),
    fun i hi => (T.from_ i hi).elim (fun h => nomatch h) (mem_init_S hne)⟩

/-- **VOGP_AD: `S` and `P` only ever contain existing nodes** — every index in `S ∪ P` at any
point of any run from the constructor is below the number of nodes created so far. -/
theorem ad_sets_are_nodes (c : Cfg) (hc : c.alg = .vogpAD) (es : List Env) :
    ∀ i, i ∈ (run c (init c) es).1.S ∨ i ∈ (run c (init c) es).1.P →
      i < (run c (init c) es).1.depths.length :=
  (wf_run c (init c) es (wf_init c) (by rw [hc]; rfl)).bound hc

example : (run cfgPaveba (init cfgPaveba) envsPaveba).1.S = [] ∧
    (run cfgPaveba (init cfgPaveba) envsPaveba).1.P = [1, 2] ∧
    (run cfgPaveba (init cfgPaveba) (envsPaveba.take 1)).1.S = [1, 2] := by decide +kernel

/-- **`S` only shrinks** (fixed-design elimination algorithms: PaVeBa family, Auer, VOGP, ε-PAL).
From any well-formed state — in particular any state reached from the constructor — the
candidate list after the continued run `es₁ ++ es₂` is a sublist of the candidate list after the
prefix `es₁`. -/
theorem S_antitone (c : Cfg) (hel : c.alg.elim = true) (hne : c.alg ≠ .vogpAD) (s : State)
    (hw : WF c s) (es1 es2 : List Env) :
    (run c s (es1 ++ es2)).1.S.Sublist (run c s es1).1.S := by
  rw [run_append]
  exact (run_trans c _ es2 (wf_run c s es1 hw hel) hel hne).sub

/-- **`P` only grows, and only by former candidates** (fixed-design elimination algorithms):
every member of `P` after the prefix `es₁` is still a member after `es₁ ++ es₂`, and every member
after `es₁ ++ es₂` was a member of `P` or of `S` after `es₁`. -/
theorem P_monotone (c : Cfg) (hel : c.alg.elim = true) (hne : c.alg ≠ .vogpAD) (s : State)
    (hw : WF c s) (es1 es2 : List Env) :
    (∀ i ∈ (run c s es1).1.P, i ∈ (run c s (es1 ++ es2)).1.P) ∧
    (∀ i ∈ (run c s (es1 ++ es2)).1.P, i ∈ (run c s es1).1.P ∨ i ∈ (run c s es1).1.S) := by
  rw [run_append]
  have T := run_trans c _ es2 (wf_run c s es1 hw hel) hel hne
  exact ⟨T.keep, T.from_⟩

/-- **A design that left `S` never returns** (fixed-design elimination algorithms). -/
theorem never_returns (c : Cfg) (hel : c.alg.elim = true) (hne : c.alg ≠ .vogpAD) (s : State)
    (hw : WF c s) (es1 es2 : List Env) (i : Nat) (h : i ∉ (run c s es1).1.S) :
    i ∉ (run c s (es1 ++ es2)).1.S :=
  fun hi => h ((S_antitone c hel hne s hw es1 es2).subset hi)

example : WF cfgPaveba (init cfgPaveba) := wf_init _

/-- **VOGP_AD: nodes are never forgotten, and candidates are old candidates or new nodes.**
After `es₁ ++ es₂` the depth table extends the one after `es₁`, and every candidate is a candidate
after `es₁` or a node created later (index ≥ the number of nodes after `es₁`). -/
theorem ad_nodes_and_candidates (c : Cfg) (hc : c.alg = .vogpAD) (s : State) (hw : WF c s)
    (es1 es2 : List Env) :
    (∃ t, (run c s (es1 ++ es2)).1.depths = (run c s es1).1.depths ++ t) ∧
    (∀ i ∈ (run c s (es1 ++ es2)).1.S,
      i ∈ (run c s es1).1.S ∨ (run c s es1).1.depths.length ≤ i) := by
  have hel : c.alg.elim = true := by rw [hc]; rfl
  rw [run_append]
  exact ad_run c _ es2 (wf_run c s es1 hw hel) hc

/-- **VOGP_AD: a node that left `S` never returns.**  An existing node (index below the number of
nodes after `es₁`) that is not a candidate after `es₁` is not a candidate after `es₁ ++ es₂`. -/
theorem ad_never_returns (c : Cfg) (hc : c.alg = .vogpAD) (s : State) (hw : WF c s)
    (es1 es2 : List Env) (i : Nat) (hi : i < (run c s es1).1.depths.length)
    (h : i ∉ (run c s es1).1.S) : i ∉ (run c s (es1 ++ es2)).1.S := by
  intro hin
  rcases (ad_nodes_and_candidates c hc s hw es1 es2).2 i hin with h1 | h1
  · exact h h1
  · omega

/-- **VOGP_AD: `P` grows up to replacing a refined node by its children.**  In one call on a
well-formed state every member `p` of `P` stays a member, or it is the node refined in this call,
it is not a candidate afterwards, and *all* its children (`branch` fresh nodes) are members of
`P`. -/
theorem ad_P_modulo_children (c : Cfg) (hc : c.alg = .vogpAD) (s : State) (hw : WF c s) (e : Env) :
    ∀ p ∈ s.P, p ∈ (step c s e).1.P ∨
      ((step c s e).2.refined = some p ∧ p ∉ (step c s e).1.S ∧
        ∀ k ∈ childIds c s.depths.length, k ∈ (step c s e).1.P) :=
  (ad_step c s e hw hc).2.2

/-- **VOGP_AD from the constructor: `P` only grows — literally — and only candidates are ever
refined.**  In every state reachable from the constructor all members of `P` sit at the maximum
depth (ε-covering is gated on all candidates having reached it), so the refinement test never fires
for them: members of `P` after the prefix `es₁` are members after `es₁ ++ es₂`, and no call of the
continuation refines a node that was in `P` after `es₁`. -/
theorem ad_P_monotone_from_constructor (c : Cfg) (hc : c.alg = .vogpAD) (es1 es2 : List Env) :
    (∀ p ∈ (run c (init c) es1).1.P, depthOf (run c (init c) es1).1 p = c.maxDepth) ∧
    (∀ p ∈ (run c (init c) es1).1.P, p ∈ (run c (init c) (es1 ++ es2)).1.P) ∧
    (∀ o ∈ (run c (run c (init c) es1).1 es2).2, ∀ d, o.refined = some d →
      d ∉ (run c (init c) es1).1.P) := by
  have hel : c.alg.elim = true := by rw [hc]; rfl
  have I1 := (ad_run_inv c (init c) es1 hc (wf_init c) (adInv_init c)).1
  have hw1 := wf_run c (init c) es1 (wf_init c) hel
  obtain ⟨_, k, r⟩ := ad_run_inv c _ es2 hc hw1 I1
  rw [run_append]
  exact ⟨I1.pdepth, k, r⟩

/-- **VOGP_AD, whole runs: `P` is monotone up to replacing a refined node by its children**, stated
with the tree recorded in `State.parent`.  `Covers s p` = "`p ∈ P`, or `p` has been refined and every
child of `p` is covered".  From any well-formed state with a consistent tree (`TreeInv`: one parent
entry per node, refined nodes are in neither set — the constructor's state is one) every member of
`P` after the prefix `es₁` is covered after `es₁ ++ es₂`, whatever was refined in between. -/
theorem ad_P_monotone_modulo_children (c : Cfg) (hc : c.alg = .vogpAD) (hbr : 0 < c.branch)
    (s : State) (hw : WF c s) (ht : TreeInv s) (es1 es2 : List Env) :
    ∀ p ∈ (run c s es1).1.P, Covers (run c s (es1 ++ es2)).1 p := by
  have hel : c.alg.elim = true := by rw [hc]; rfl
  intro p hp
  rw [run_append]
  obtain ⟨t1, _⟩ := cover_run c s es1 hc hbr hw ht
  exact (cover_run c _ es2 hc hbr (wf_run c s es1 hw hel) t1).2 p (Covers.here hp)

/-- a state in which a member of `P` is below the maximum depth (not reachable from the
constructor, reachable by assignment): root refined, child 1 a candidate, child 2 in `P` -/
def stForced : State :=
  { S := [1], P := [2], U := [], round := 1, sampleCount := 0, totalCost := 0, latch := false,
    depths := [1, 2, 2], parent := [0, 0, 0] }

example : WF { cfgAD with maxDepth := 3 } stForced ∧ TreeInv stForced := by
  refine ⟨⟨by decide, by decide, by decide, by decide, fun _ i hi => ?_, fun _ => rfl⟩,
    ⟨rfl, ?_⟩⟩
  · have : i = 1 ∨ i = 2 := by simpa [stForced] using hi
    rcases this with h | h <;> subst h <;> decide
  intro k p ⟨_, hk⟩
  -- every entry of the parent table is the root
  have : p ∈ [0, 0, 0] := List.mem_of_getElem? hk
  obtain rfl : p = 0 := by simpa using this
  decide

/-- in that state the member 2 of `P` is picked and refined: its children 3, 4 replace it in `P` -/
example :
    (step { cfgAD with maxDepth := 3 } stForced
      { envQuiet with picks := [(2, 0)], refineTest := true }).1.P = [3, 4] ∧
    (step { cfgAD with maxDepth := 3 } stForced
      { envQuiet with picks := [(2, 0)], refineTest := true }).2.refined = some 2 ∧
    (step { cfgAD with maxDepth := 3 } stForced
      { envQuiet with picks := [(2, 0)], refineTest := true }).1.parent = [0, 0, 0, 2, 2] := by
  decide +kernel

example : (run cfgAD (init cfgAD) envsAD).1.S = [] ∧ (run cfgAD (init cfgAD) envsAD).1.P = [1, 2] ∧
    (run cfgAD (init cfgAD) envsAD).1.depths = [1, 2, 2] ∧
    (run cfgAD (init cfgAD) envsAD).1.sampleCount = 1 ∧
    ((run cfgAD (init cfgAD) envsAD).2.map (·.refined)) = [some 0, none, none] := by decide +kernel

/-! ### the returned flag -/

/-- **PaVeBa, PaVeBaGP, Auer, VOGP, ε-PAL, VOGP_AD: a call reports completion exactly when no
candidates remain** in the state it leaves. -/
theorem done_iff_S_empty (c : Cfg) (hel : c.alg.elim = true) (hp : c.alg ≠ .pavebaPartial)
    (s : State) (e : Env) : (step c s e).2.done = true ↔ (step c s e).1.S = [] := by
  rw [step_done_flag]
  unfold isDone
  split
  · rename_i hc; rw [hc] at hel; cases hel
  · rename_i hc; rw [hc] at hel; cases hel
  · rename_i hc; exact absurd hc hp
  · exact List.isEmpty_iff

/-- **PaVeBaPartialGP: completion ⇔ no candidates remain or the cost budget is reached.** -/
theorem done_iff_partial (c : Cfg) (hc : c.alg = .pavebaPartial) (s : State) (e : Env) :
    (step c s e).2.done = true ↔
      ((step c s e).1.S = [] ∨ ∃ b, c.budget = some b ∧ b ≤ (step c s e).1.totalCost) := by
  rw [step_done_flag]
  unfold isDone budgetReached
  cases hb : c.budget <;> simp [hc, List.isEmpty_iff]

/-- **NaiveElimination: completion ⇔ the fixed number of sampling rounds is used up.** -/
theorem done_iff_naive (c : Cfg) (hc : c.alg = .naive) (s : State) (e : Env) :
    (step c s e).2.done = true ↔ (step c s e).1.round = c.L := by
  rw [step_done_flag]
  simp [isDone, hc]

/-- **DecoupledGP: completion ⇔ the cost budget is reached.** -/
theorem done_iff_decoupled (c : Cfg) (hc : c.alg = .decoupled) (s : State) (e : Env) :
    (step c s e).2.done = true ↔ ∃ b, c.budget = some b ∧ b ≤ (step c s e).1.totalCost := by
  rw [step_done_flag]
  unfold isDone budgetReached
  cases hb : c.budget <;> simp [hc]

example : ((run cfgPartial (init cfgPartial) envsPartial).2.map (·.done)) = [false, true, true] ∧
    (run cfgPartial (init cfgPartial) envsPartial).1.totalCost = 5/2 ∧
    (run cfgPartial (init cfgPartial) envsPartial).1.S = [0, 1] ∧
    (run cfgPartial (init cfgPartial) envsPartial).1.sampleCount = 4 := by decide +kernel

/-- **Steps after completion change nothing and take no samples.**  If the termination test holds
for a state, every call returns that very state, reports completion and requests no evaluation —
for any number of further calls. -/
theorem done_is_fixpoint (c : Cfg) (s : State) (h : isDone c s = true) (es : List Env) :
    run c s es = (s, List.replicate es.length doneOut) ∧ doneOut.req = [] ∧ doneOut.done = true :=
  ⟨run_of_done c s es h, rfl, rfl⟩

/-- **Once a call has reported completion, the run is frozen**: every later call (with whatever
environment) returns the same state and requests nothing. -/
theorem finished_stays_finished (c : Cfg) (s : State) (e : Env) (h : (step c s e).2.done = true)
    (es : List Env) :
    run c (step c s e).1 es = ((step c s e).1, List.replicate es.length doneOut) :=
  run_of_done c _ es (by rw [← step_done_flag]; exact h)

/-- **NaiveElimination terminates after exactly `L` rounds with `K·L` samples**: after `n` calls
from the constructor's state the round counter is `min L n`, the sample counter `K · min L n`, and
the `n`-th call reports completion iff `n ≥ L` (`n ≥ 1`). -/
theorem naive_terminates (c : Cfg) (hc : c.alg = .naive) (es : List Env) :
    (run c (init c) es).1.round = min c.L es.length ∧
    (run c (init c) es).1.sampleCount = c.K * min c.L es.length := by
  have h := naive_run c hc (init c) es (Nat.zero_le _)
  have h0 : (init c).round = 0 := rfl
  have h1 : (init c).sampleCount = 0 := rfl
  rw [h0, h1, Nat.zero_add, Nat.mul_zero, Nat.add_zero, Nat.zero_add] at h
  exact ⟨h.1, by rw [h.2, h.1]⟩

example : (run cfgNaive (init cfgNaive) [envQuiet, envQuiet, envQuiet]).1.sampleCount = 6 ∧
    ((run cfgNaive (init cfgNaive) [envQuiet, envQuiet, envQuiet]).2.map (·.done)) =
      [false, true, true] := by decide +kernel

/-! ### counters -/

/-- **The round counter advances by exactly one per active call and not at all afterwards.** -/
theorem round_step (c : Cfg) (s : State) (e : Env) :
    (step c s e).1.round = if isDone c s then s.round else s.round + 1 :=
  step_round c s e

/-- **Round counter = number of calls that found the run unfinished**, over every run prefix. -/
theorem round_counts_active_calls (c : Cfg) (es : List Env) :
    (run c (init c) es).1.round = activeCalls c (init c) es := by
  have := run_round c (init c) es
  have h0 : (init c).round = 0 := rfl
  rw [h0, Nat.zero_add] at this
  exact this

/-- **Every sample and every unit of cost is accounted for**: after any run prefix from the
constructor's state, `sample_count` is the number of evaluations requested from the problem so far
and `total_cost` is the sum of `costs[objective]` over these requests. -/
theorem accounting (c : Cfg) (es : List Env) :
    (run c (init c) es).1.sampleCount = (allReqs (run c (init c) es).2).length ∧
    (run c (init c) es).1.totalCost = reqsCost c (allReqs (run c (init c) es).2) := by
  obtain ⟨h1, h2⟩ := run_account c (init c) es
  have h0 : (init c).sampleCount = 0 := rfl
  have h3 : (init c).totalCost = 0 := rfl
  rw [h0, Nat.zero_add] at h1
  rw [h3, Rat.zero_add] at h2
  exact ⟨h1, h2⟩

/-- **A call never requests more than its batch**: the number of requested evaluations is at most
`Out.cap` — `|active|` for PaVeBa / Auer / NaiveElimination, `min(batch, |active|)` for the batched
algorithms (`min(batch, m·|active|)` (design, objective) pairs for the decoupled problems), `1` for
VOGP_AD, `0` once finished.  (The harness additionally demands *equality* from the implementation,
which is what a batch of size `batch_size` clamped to the active set means.) -/
theorem requests_le_cap (c : Cfg) (s : State) (e : Env) :
    (step c s e).2.req.length ≤ (step c s e).2.cap := by
  cases h : isDone c s
  · rw [step_of_not_done e h]; exact req_le_cap c s e
  · rw [step_of_done e h]; simp [doneOut]

/-- **PaVeBa, Auer, NaiveElimination sample every active design**: an active call requests exactly
`cap = |active|` evaluations. -/
theorem requests_eq_cap_evalAll (c : Cfg) (s : State) (e : Env) (h : c.alg.evalAll = true)
    (hd : isDone c s = false) : (step c s e).2.req.length = (step c s e).2.cap := by
  rw [step_of_not_done e hd]; exact req_eq_cap_evalAll c s e h

/-- **A batch is `batch_size` clamped to what the active set offers — no fewer.**  The two batch
selections of the model return exactly `min(batch, |active|)` (decoupled: `min(batch, m·|active|)`)
requests whenever the environment offers at least that many valid picks (designs of the active set,
objective indices `< m`), and all of the valid picks otherwise. -/
theorem batch_is_clamped_batch_size (c : Cfg) (act : List Nat) (picks : List (Nat × Nat)) :
    (cappedC c act picks).length =
      min (min c.batch act.length) (picks.filter (fun p => act.contains p.1)).length ∧
    (cappedD c act picks).length =
      min (min c.batch (c.m * act.length))
        (picks.filter (fun p => act.contains p.1 && decide (p.2 < c.m))).length :=
  ⟨cappedC_length c act picks, cappedD_length c act picks⟩

example : (run cfgPartial (init cfgPartial) envsPartial).2.map (·.cap) = [2, 2, 0] := by
  decide +kernel

example : allReqs (run cfgPartial (init cfgPartial) envsPartial).2 =
    [(0, some 0), (1, some 1), (0, some 1), (1, some 1)] := by decide +kernel

/-! ### relation (R) evaluated on the implementation -/

/-- **The model satisfies relation (R)**: on every well-formed state (every state reachable from
the constructor is one) and for every environment, what `Run.step` produces passes `Run.specOk` —
the relation the driver evaluates on the attributes of the real object before / after every real
`run_one_step()` call.  (`VOGP_AD` accepts `batch_size = 1` only.) -/
theorem specOk_step (c : Cfg) (s : State) (e : Env) (hw : WF c s)
    (hb : c.alg = .vogpAD → c.batch = 1) :
    specOk c s (step c s e).1 (step c s e).2 = true :=
  Run.specOk_step c s e hw hb

example : specOk cfgPaveba (init cfgPaveba) (step cfgPaveba (init cfgPaveba) envQuiet).1
    (step cfgPaveba (init cfgPaveba) envQuiet).2 = true := by decide +kernel
/-- the relation is not trivially true: a call that forgets to advance the round counter fails it -/
example : specOk cfgPaveba (init cfgPaveba)
    { (step cfgPaveba (init cfgPaveba) envQuiet).1 with round := 0 }
    (step cfgPaveba (init cfgPaveba) envQuiet).2 = false := by decide +kernel

/-- **Soundness of (R), finished run.**  If the termination test held before the call and
`specOk` accepts the observed call, then the call changed nothing (sets compared as sets), reported
completion and requested no evaluation. -/
theorem specOk_sound_done {c : Cfg} {s s' : State} {o : Out} (h : specOk c s s' o = true)
    (hd : isDone c s = true) :
    (∀ i, i ∈ s.S ↔ i ∈ s'.S) ∧ (∀ i, i ∈ s.P ↔ i ∈ s'.P) ∧ (∀ i, i ∈ s.U ↔ i ∈ s'.U) ∧
    s'.round = s.round ∧ s'.sampleCount = s.sampleCount ∧ s'.totalCost = s.totalCost ∧
    s'.latch = s.latch ∧ s'.depths = s.depths ∧ o.done = true ∧ o.req = [] ∧ o.refined = none := by
  obtain ⟨hs, hdone, hreq, href⟩ := (specOk_done_iff hd).mp h
  simp only [sameState, Bool.and_eq_true, sameSet_iff, beq_iff_eq, decide_eq_true_eq] at hs
  obtain ⟨⟨⟨⟨⟨⟨⟨hS, hP⟩, hU⟩, hr⟩, hsc⟩, hc⟩, hl⟩, hdp⟩ := hs
  exact ⟨hS, hP, hU, hr.symm, hsc.symm, hc.symm, hl.symm, hdp.symm, hdone, hreq, href⟩

/-- **Soundness of (R), active call.**  If the run was unfinished and `specOk` accepts the observed
call: the round counter advanced by one, the sample counter by the number of requested
evaluations, the cost by their summed per-objective costs, the returned flag is the termination
test on the new state, and (elimination algorithms) `S ∩ P = ∅`, `U ⊆ P` afterwards. -/
theorem specOk_sound_active {c : Cfg} {s s' : State} {o : Out} (h : specOk c s s' o = true)
    (hd : isDone c s = false) :
    s'.round = s.round + 1 ∧ s'.sampleCount = s.sampleCount + o.req.length ∧
    s'.totalCost = s.totalCost + reqsCost c o.req ∧ o.done = isDone c s' ∧
    (c.alg.elim = true → (∀ i ∈ s'.S, i ∉ s'.P) ∧ (∀ i ∈ s'.U, i ∈ s'.P)) := by
  obtain ⟨⟨h1, h2, h3, h4⟩, _, h6⟩ := (specOk_active_iff hd).mp h
  exact ⟨h1, h2, h3, h4, fun hel => by rw [if_pos hel] at h6; exact h6.1⟩

/-- **Soundness of (R), requests.**  In an accepted active call every requested evaluation concerns
a design of the active set of that call (`A = S ∪ U` at the start for the PaVeBa family, `S` for
Auer, `W = S ∪ P` after the decision phases — and nothing at all once `S` is empty — for VOGP /
ε-PAL / VOGP_AD, all designs for NaiveElimination and DecoupledGP); PaVeBa, Auer and
NaiveElimination request every active design; the batched algorithms request at most `batch_size`
evaluations. -/
theorem specOk_sound_requests {c : Cfg} {s s' : State} {o : Out} (h : specOk c s s' o = true)
    (hd : isDone c s = false) :
    (∀ r ∈ o.req, r.1 ∈ activeAt c s s') ∧
    (c.alg.evalAll = true → o.req.length = (activeAt c s s').length ∧
      ∀ d ∈ activeAt c s s', ∃ r ∈ o.req, r.1 = d) ∧
    (c.alg.evalAll = false → o.req.length ≤ c.batch) := by
  have h5 := ((specOk_active_iff hd).mp h).2.1
  unfold reqsOk at h5
  simp only [Bool.and_eq_true, List.all_eq_true, List.contains_eq_mem, decide_eq_true_eq] at h5
  refine ⟨h5.1, fun he => ?_, fun he => ?_⟩
  · simp only [he, if_true, Bool.and_eq_true, beq_iff_eq, List.all_eq_true, List.any_eq_true] at h5
    exact h5.2.1
  · simp only [he, Bool.false_eq_true, if_false, Bool.and_eq_true, decide_eq_true_eq] at h5
    exact Nat.le_trans h5.2.1 (Nat.min_le_left _ _)

/-- **Soundness of (R), set transitions of the fixed-design elimination algorithms**: accepted
calls shrink `S`, keep every member of `P`, and add to `P` only former candidates. -/
theorem specOk_sound_sets {c : Cfg} {s s' : State} {o : Out} (h : specOk c s s' o = true)
    (hd : isDone c s = false) (hel : c.alg.elim = true) (hne : c.alg ≠ .vogpAD) :
    (∀ i ∈ s'.S, i ∈ s.S) ∧ (∀ i ∈ s.P, i ∈ s'.P) ∧ (∀ i ∈ s'.P, i ∈ s.P ∨ i ∈ s.S) := by
  have h6 := ((specOk_active_iff hd).mp h).2.2
  rw [if_pos hel, if_neg hne] at h6
  exact setsOk_iff.mp h6.2.2

/-- **Soundness of (R), VOGP_AD**: accepted calls leave as candidates only old candidates or nodes
created in this call; a member of `P` stays unless it is the refined node, whose children are then
all in `P`; a refined node was below the maximum depth, is in neither set afterwards, and no
evaluation was requested in that call. -/
theorem specOk_sound_ad {c : Cfg} {s s' : State} {o : Out} (h : specOk c s s' o = true)
    (hd : isDone c s = false) (hc : c.alg = .vogpAD) :
    (∀ i ∈ s'.S, i ∈ s.S ∨ s.depths.length ≤ i) ∧
    (∀ p ∈ s.P, p ∈ s'.P ∨ (o.refined = some p ∧ ∀ k ∈ childIds c s.depths.length, k ∈ s'.P)) ∧
    (∀ d, o.refined = some d → d ∉ s'.S ∧ d ∉ s'.P ∧ depthOf s d < c.maxDepth ∧ o.req = []) := by
  have h6 := ((specOk_active_iff hd).mp h).2.2
  rw [if_pos (by rw [hc]; rfl), if_pos hc] at h6
  cases hr : o.refined with
  | none =>
    obtain ⟨h1, h2, _⟩ := setsOk_iff.mp ((adSetsOk_none hr).mp h6.2).2
    exact ⟨fun i hi => Or.inl (h1 i hi), fun p hp => Or.inl (h2 p hp), fun _ hd' => nomatch hd'⟩
  | some d =>
    obtain ⟨hq, R⟩ := (adSetsOk_some hr).mp h6.2
    refine ⟨fun i hi => (R.S_from i hi).imp id (fun h1 => ((mem_childIds c _ i).mp h1).1),
      fun p hp => (R.P_keep p hp).imp id (fun (h1 : p = d) => ⟨h1 ▸ rfl, R.kidsP (h1 ▸ hp)⟩), ?_⟩
    rintro d' ⟨⟩
    exact ⟨R.notS, R.notP, R.depth_lt, hq⟩

end VOPy.C06
