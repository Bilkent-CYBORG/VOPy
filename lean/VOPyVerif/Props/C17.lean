import VOPyVerif.Proofs.ConeConst
import VOPyVerif.Proofs.ConeConstExist
import VOPyVerif.Proofs.ConeConstTheta
import VOPyVerif.Proofs.ConeConstBridge
/-!
# C17 — cone constants α, u*, d₁ and β are the optima they are defined as

Property theorems only.  Definitions (in `Proofs/ConeConst.lean`, over any real inner product
space `E`, the cone given by a finite list `ws` of facet normals):

* `InCone ws x`   : `∀ w ∈ ws, 0 ≤ ⟪w, x⟫`;   `Feas1 ws z` : `∀ w ∈ ws, 1 ≤ ⟪w, z⟫`;
* `alpha ws c`    : `sSup {⟪c, x⟫ | InCone ws x, ‖x‖ ≤ 1}`    (VOPy: `c = w_n`, `utils.get_alpha`);
* `d1 ws`         : `sInf {‖z‖ | Feas1 ws z}`;   `IsMinNorm ws z*` : feasible of minimum norm
                     (VOPy: `compute_u_star` returns `u* = z*/‖z*‖`, `d₁ = ‖z*‖`);
* `comb lam ws`   : `Σ_i λ_i • w_i` (`Wᵀλ`).

Concrete layer (`Proofs/ConeConstBridge.lean`): `toE m v` reads a rational list as a point of
`EuclideanSpace ℝ (Fin m)`, `facets m W` is the list of rows of the rational matrix `W` there, and the
checkers `alphaLo`, `alphaHi`, `d1Hi`, `d1Lo`, `ustarCert` of `Model/ConeConst.lean` are exactly the
functions the driver evaluates on the certificates proposed by the harness.

`coneBeta` is the `RealLike` term mirroring `ConeTheta2D.beta` (run at `Float` by the driver).
-/
namespace VOPy.C17
open VOPy VOPy.ConeConst
open scoped RealInnerProductSpace
open Real

variable {E : Type*} [NormedAddCommGroup E] [InnerProductSpace ℝ E]

/-! ### weak duality -/

/-- **Weak duality for α.**  For every `x` of the cone with `‖x‖ ≤ 1` and every non-negative
multiplier list `λ`: `⟪c, x⟫ ≤ ‖c + Σ λ_i w_i‖` (with `c = w_n`: `w_n·x ≤ ‖w_n + Wᵀλ‖`). -/
theorem alpha_weak_duality (ws : List E) (c x : E) (lam : List ℝ)
    (hx : ∀ w ∈ ws, 0 ≤ ⟪w, x⟫) (hn : ‖x‖ ≤ 1) (hl : ∀ l ∈ lam, 0 ≤ l) :
    ⟪c, x⟫ ≤ ‖c + comb lam ws‖ :=
  ConeConst.alpha_weak_duality ws c x lam hx hn hl

/-- **Weak duality for d₁.**  For every feasible `z` (`⟪w, z⟫ ≥ 1` on every facet) and every
non-negative multiplier list (at most one multiplier per facet): `Σλ ≤ ‖z‖ · ‖Σ λ_i w_i‖`. -/
theorem d1_weak_duality (ws : List E) (z : E) (lam : List ℝ)
    (hz : ∀ w ∈ ws, 1 ≤ ⟪w, z⟫) (hl : ∀ l ∈ lam, 0 ≤ l) (hlen : lam.length ≤ ws.length) :
    lam.sum ≤ ‖z‖ * ‖comb lam ws‖ :=
  ConeConst.d1_weak_duality ws z lam hz hl hlen

/-! ### α and d₁ are the optima; certified intervals -/

/-- **α is the optimum it is defined as**: the least upper bound of `⟪c, x⟫` over the unit-ball
part of the cone (the set of values is non-empty and bounded, so the supremum is a genuine one),
and any primal/dual certificate pair encloses it: `⟪c, x⟫ ≤ α ≤ ‖c + Σ λ_i w_i‖`. -/
theorem alpha_certified_interval (ws : List E) (c x : E) (lam : List ℝ)
    (hx : InCone ws x) (hn : ‖x‖ ≤ 1) (hl : NonnegL lam) :
    IsLUB (alphaSet ws c) (alpha ws c) ∧
    ⟪c, x⟫ ≤ alpha ws c ∧ alpha ws c ≤ ‖c + comb lam ws‖ :=
  ⟨isLUB_alpha ws c, le_alpha ws c x hx hn, alpha_le ws c lam hl⟩

/-- **α is a maximum.**  In finite dimension (in particular in `ℝ^m`) the supremum is attained: there
is a point of the cone in the unit ball whose `c`-value is `α` and dominates that of every other such
point — "α_n equals the maximum of the n-th facet functional over unit-norm vectors of the cone". -/
theorem alpha_is_maximum [FiniteDimensional ℝ E] (ws : List E) (c : E) :
    ∃ x, InCone ws x ∧ ‖x‖ ≤ 1 ∧ ⟪c, x⟫ = alpha ws c ∧
      ∀ y, InCone ws y → ‖y‖ ≤ 1 → ⟪c, y⟫ ≤ ⟪c, x⟫ := by
  obtain ⟨x, hx, hn, he⟩ := alpha_attained ws c
  exact ⟨x, hx, hn, he, fun y hy hyn => he ▸ le_alpha ws c y hy hyn⟩

/-- **d₁ is the optimum it is defined as**: for a feasible problem with minimum-norm point `z*`,
`d₁ = ‖z*‖`, and any primal/dual certificate pair with `Σ λ_i w_i ≠ 0` encloses it:
`Σλ / ‖Σ λ_i w_i‖ ≤ d₁ ≤ ‖z‖`. -/
theorem d1_certified_interval (ws : List E) (z : E) (lam : List ℝ)
    (hz : Feas1 ws z) (hl : NonnegL lam) (hlen : lam.length ≤ ws.length)
    (hq : 0 < ‖comb lam ws‖) :
    lam.sum / ‖comb lam ws‖ ≤ d1 ws ∧ d1 ws ≤ ‖z‖ ∧
    ∀ zs, IsMinNorm ws zs → d1 ws = ‖zs‖ :=
  ⟨le_d1 ws _ ⟨z, hz⟩ fun z' hz' => dual_le_norm ws z' lam hz' hl hlen hq, d1_le ws z hz,
    d1_eq_of_isMinNorm ws⟩

/-! ### the minimum-norm point and u* -/

/-- **Strong-convexity stability.**  If `z*` is the minimum-norm feasible point, every feasible
`z` satisfies `‖z − z*‖² ≤ ‖z‖² − ‖z*‖²` — so a feasible point whose norm is within `ε` of optimal
lies within `√(2‖z‖ε)` of `z*`, which pins down `u* = z*/‖z*‖`. -/
theorem minNorm_stability (ws : List E) (zs z : E)
    (hs : Feas1 ws zs ∧ ∀ z', Feas1 ws z' → ‖zs‖ ≤ ‖z'‖) (hz : Feas1 ws z) :
    ‖z - zs‖ ^ 2 ≤ ‖z‖ ^ 2 - ‖zs‖ ^ 2 :=
  ConeConst.minNorm_stability (convex_feas1 ws) hs.1 hs.2 hz

/-- **Existence and uniqueness of `z*`** in a complete space (e.g. `ℝ^m`): a feasible `d₁` problem
has exactly one minimum-norm point, so `u*` and `d₁` are well defined. -/
theorem minNorm_exists_unique [CompleteSpace E] (ws : List E) (hf : ∃ z, Feas1 ws z) :
    ∃ zs, IsMinNorm ws zs ∧ ∀ z', IsMinNorm ws z' → z' = zs := by
  obtain ⟨zs, hzs⟩ := exists_isMinNorm ws hf
  exact ⟨zs, hzs, fun z' hz' => minNorm_unique ws z' zs hz' hzs⟩

/-- **`u* ∈ C`.**  For a cone with at least one facet, `u* = z*/‖z*‖` is a unit vector and lies in
the cone — indeed strictly inside: `⟪w, u*⟫ ≥ 1/‖z*‖ = 1/d₁ > 0` on every facet. -/
theorem ustar_in_cone (ws : List E) (zs : E) (hs : IsMinNorm ws zs) (hne : ws ≠ []) :
    ‖(1 / ‖zs‖) • zs‖ = 1 ∧ InCone ws ((1 / ‖zs‖) • zs) ∧
      ∀ w ∈ ws, 1 / ‖zs‖ ≤ ⟪w, (1 / ‖zs‖) • zs⟫ :=
  ustar_mem_cone ws zs hs hne

/-- **A near-optimal certified point pins down `u*`.**  With a feasible `z`, multipliers `λ ≥ 0`
(`Σ λ_i w_i ≠ 0`), the dual value `D² = (Σλ)²/‖Σ λ_i w_i‖²`, numbers `g ≥ 0`, `g² ≥ ‖z‖² − D²`,
`0 < lo`, `lo² ≤ D²`, and any non-zero point `zc` with `‖zc − z‖ ≤ e`: the minimum-norm point `z*`
satisfies `lo ≤ ‖z*‖`, `‖z − z*‖ ≤ g`, and the unit directions of `zc` and `z*` differ by at most
`2(e + g)/lo`. -/
theorem ustar_pinned (ws : List E) (z zs zc : E) (lam : List ℝ) (e g lo : ℝ)
    (hz : Feas1 ws z) (hl : NonnegL lam) (hlen : lam.length ≤ ws.length)
    (hq : 0 < ‖comb lam ws‖) (hs : IsMinNorm ws zs) (hc : zc ≠ 0)
    (he : ‖zc - z‖ ≤ e) (hg0 : 0 ≤ g)
    (hg : ‖z‖ ^ 2 - lam.sum ^ 2 / ‖comb lam ws‖ ^ 2 ≤ g ^ 2)
    (hlo0 : 0 < lo) (hlo : lo ^ 2 ≤ lam.sum ^ 2 / ‖comb lam ws‖ ^ 2) :
    lo ≤ ‖zs‖ ∧ ‖z - zs‖ ≤ g ∧
      ‖(1 / ‖zc‖) • zc - (1 / ‖zs‖) • zs‖ ≤ 2 * (e + g) / lo :=
  ustar_certificate ws z zs zc lam e g lo hz hl hlen hq hs hc he hg0 hg hlo0 hlo

/-! ### the 2-D θ-cone: α and β in closed form -/

/-- **α of the 2-D θ-cone.**  For unit normals `w₁, w₂` with `⟪w₁, w₂⟫ = −cos θ` and every
`θ ∈ (0, π)`: `α₁ = α₂ = sin θ` if `θ ≤ π/2` and `= 1` if `θ ≥ π/2` (explicit primal/dual witnesses:
`x = (w₁ + cos θ·w₂)/sin θ`, `λ = (0, cos θ)`, resp. `x = w₁`, `λ = 0`). -/
theorem alpha_theta2D (w1 w2 : E) (θ : ℝ) (h1 : ‖w1‖ = 1) (h2 : ‖w2‖ = 1)
    (h12 : ⟪w1, w2⟫ = -cos θ) (h0 : 0 < θ) (hπ : θ < π) :
    alpha [w1, w2] w1 = (if θ ≤ π / 2 then sin θ else 1) ∧
    alpha [w1, w2] w2 = (if θ ≤ π / 2 then sin θ else 1) :=
  alpha_theta w1 w2 θ h1 h2 h12 h0 hπ

/-- the supremum defining α of the θ-cone is attained (it is a maximum) -/
theorem alpha_theta2D_attained (w1 w2 : E) (θ : ℝ) (h1 : ‖w1‖ = 1) (h2 : ‖w2‖ = 1)
    (h12 : ⟪w1, w2⟫ = -cos θ) (h0 : 0 < θ) (hπ : θ < π) :
    IsGreatest (alphaSet [w1, w2] w1) (if θ ≤ π / 2 then sin θ else 1) := by
  by_cases hle : θ ≤ π / 2
  · rw [if_pos hle]; exact (alpha_theta_acute w1 w2 θ h1 h2 h12 h0 hle).2
  · rw [if_neg hle]
    exact (alpha_theta_obtuse w1 w2 θ h1 h12 (le_of_lt (not_le.mp hle)) hπ).2

/-- **β of the 2-D θ-cone.**  The `RealLike` term `coneBeta` (the one the driver evaluates at `Float`
against `ConeTheta2D.beta`), at `ℝ` and for every opening angle `deg ∈ (0°, 180°)`, equals `1/sin θ`
for acute and `1` for right or obtuse cones (`θ = deg/180·π`), and it is the reciprocal of `α₁` and of
`α₂` of the cone with unit normals at `⟪w₁, w₂⟫ = −cos θ`. -/
theorem beta_theta2D (w1 w2 : E) (deg : ℝ) (hd0 : 0 < deg) (hd1 : deg < 180) (h1 : ‖w1‖ = 1)
    (h2 : ‖w2‖ = 1) (h12 : ⟪w1, w2⟫ = -cos (deg / 180 * π)) :
    coneBeta deg = (if deg < 90 then 1 / sin (deg / 180 * π) else 1) ∧
    coneBeta deg = 1 / alpha [w1, w2] w1 ∧ coneBeta deg = 1 / alpha [w1, w2] w2 :=
  coneBeta_eq w1 w2 deg hd0 hd1 h1 h2 h12

/-- **The cone of `get_2d_w`.**  The closed form of `get_2d_w(deg)` (proved equal to the `RealLike` term
mirroring the code in C12: rows `(−sin(π/4 − θ/2), cos(π/4 − θ/2))`, `(sin(π/4 + θ/2), −cos(π/4 + θ/2))`,
`θ = deg/180·π`) consists of unit normals of `ℝ²` with inner product `−cos θ`; hence for every
`deg ∈ (0°, 180°)` its `α₁ = α₂` is `sin θ` (`deg ≤ 90`) resp. `1`, and `coneBeta deg = 1/α`. -/
theorem alpha_beta_get2dW_closed (deg : ℝ) (hd0 : 0 < deg) (hd1 : deg < 180) :
    let θ := deg / 180 * π
    let w1 : EuclideanSpace ℝ (Fin 2) := !₂[-sin (π / 4 - θ / 2), cos (π / 4 - θ / 2)]
    let w2 : EuclideanSpace ℝ (Fin 2) := !₂[sin (π / 4 + θ / 2), -cos (π / 4 + θ / 2)]
    alpha [w1, w2] w1 = (if θ ≤ π / 2 then sin θ else 1) ∧
    alpha [w1, w2] w2 = (if θ ≤ π / 2 then sin θ else 1) ∧
    coneBeta deg = 1 / alpha [w1, w2] w1 ∧ coneBeta deg = 1 / alpha [w1, w2] w2 := by
  intro θ w1 w2
  obtain ⟨h0, hπ⟩ := rad_pos_lt_pi hd0 hd1
  have h1 : ‖w1‖ = 1 := norm_vec2_eq_one (by rw [neg_sq, sin_sq_add_cos_sq])
  have h2 : ‖w2‖ = 1 := norm_vec2_eq_one (by rw [neg_sq, sin_sq_add_cos_sq])
  have h12 : ⟪w1, w2⟫ = -cos θ := by
    have hc : cos θ = cos ((π / 4 + θ / 2) - (π / 4 - θ / 2)) := by congr 1; ring
    rw [hc, cos_sub]
    exact (inner_vec2 _ _ _ _).trans (by ring)
  obtain ⟨a1, a2⟩ := alpha_theta w1 w2 θ h1 h2 h12 h0 hπ
  obtain ⟨_, b1, b2⟩ := coneBeta_eq w1 w2 deg hd0 hd1 h1 h2 h12
  exact ⟨a1, a2, b1, b2⟩

/-- non-vacuity: for every angle there are unit vectors of `ℝ²` with `⟪w₁, w₂⟫ = −cos θ` -/
example (θ : ℝ) : ∃ w1 w2 : EuclideanSpace ℝ (Fin 2),
    ‖w1‖ = 1 ∧ ‖w2‖ = 1 ∧ ⟪w1, w2⟫ = -cos θ := by
  refine ⟨!₂[1, 0], !₂[-cos θ, sin θ], norm_vec2_eq_one (by norm_num),
    norm_vec2_eq_one (by rw [neg_sq, cos_sq_add_sin_sq]), ?_⟩
  rw [inner_vec2, one_mul, zero_mul, add_zero]

/-! ### soundness of the certificate checkers the driver runs -/

/-- **Checker soundness, α.**  If the driver's `alphaLo W n x` answers `lo` and `alphaHi W n λ` answers
`hi` (rational proposals `x`, `λ` from the harness), then row `n` exists and the *real* optimum
`α_n = sup {w_n·x | Wx ≥ 0, ‖x‖ ≤ 1}` over `ℝ^m` lies in `[lo, hi]`. -/
theorem alpha_checker_sound (W : Mat) (n : ℕ) (x lam : Vec) (lo hi : Rat)
    (hlo : alphaLo W n x = some lo) (hhi : alphaHi W n lam = some hi) :
    ∃ wn, W[n]? = some wn ∧
      ((lo : ℚ) : ℝ) ≤ alpha (facets (dimOf W) W) (toE (dimOf W) wn) ∧
      alpha (facets (dimOf W) W) (toE (dimOf W) wn) ≤ ((hi : ℚ) : ℝ) := by
  obtain ⟨wn, hw, h1⟩ := alphaLo_sound W n x lo hlo
  obtain ⟨wn', hw', h2⟩ := alphaHi_sound W n lam hi hhi
  rw [hw] at hw'
  obtain rfl : wn = wn' := Option.some.inj hw'
  exact ⟨wn, hw, h1, h2⟩

/-- **Checker soundness, d₁.**  If `d1Hi W z` answers `hi` and `d1Lo W λ` answers `lo`, the real
problem `min {‖z‖ | Wz ≥ 𝟙}` over `ℝ^m` is feasible and its optimal value `d₁` lies in `[lo, hi]`. -/
theorem d1_checker_sound (W : Mat) (z lam : Vec) (lo hi : Rat)
    (hhi : d1Hi W z = some hi) (hlo : d1Lo W lam = some lo) :
    (∃ z', Feas1 (facets (dimOf W) W) z') ∧
      ((lo : ℚ) : ℝ) ≤ d1 (facets (dimOf W) W) ∧ d1 (facets (dimOf W) W) ≤ ((hi : ℚ) : ℝ) := by
  obtain ⟨hf, h2⟩ := d1Hi_sound W z hi hhi
  exact ⟨⟨_, hf⟩, le_d1 _ _ ⟨_, hf⟩ (fun z' hz' => d1Lo_sound W lam lo hlo z' hz'), h2⟩

/-- **Checker soundness, u\*.**  If `ustarCert W u d z λ` answers `c = (g, e, lo)` for the
implementation's output `(u, d)`, then for the minimum-norm point `z*` of the real problem over `ℝ^m`
(it exists and is unique): `lo ≤ ‖z*‖ = d₁`, the proposal `z` is within `g` of `z*`, and the unit
direction of `u` is within `dirBound c = 2(e+g)/lo` of `u* = z*/‖z*‖`. -/
theorem ustar_checker_sound (W : Mat) (u : Vec) (d : Rat) (z lam : Vec) (c : Rat × Rat × Rat)
    (h : ustarCert W u d z lam = some c) :
    ∃ zs : EuclideanSpace ℝ (Fin (dimOf W)), IsMinNorm (facets (dimOf W) W) zs ∧
      d1 (facets (dimOf W) W) = ‖zs‖ ∧ ((c.2.2 : ℚ) : ℝ) ≤ ‖zs‖ ∧
      ‖toE (dimOf W) z - zs‖ ≤ ((c.1 : ℚ) : ℝ) ∧
      ‖(1 / ‖toE (dimOf W) u‖) • toE (dimOf W) u - (1 / ‖zs‖) • zs‖ ≤ ((dirBound c : ℚ) : ℝ) := by
  have hfeas : ∃ z', Feas1 (facets (dimOf W) W) z' :=
    ⟨toE (dimOf W) z, ustarCert_feasible W u d z lam c h⟩
  obtain ⟨zs, hzs⟩ := exists_isMinNorm _ hfeas
  obtain ⟨h1, h2, h3⟩ := ustarCert_sound W u d z lam c h zs hzs
  exact ⟨zs, hzs, d1_eq_of_isMinNorm _ zs hzs, h1, h2, h3⟩

/-- non-vacuity of the checkers: the orthant in `ℝ²` — `α₁ ∈ [1, 1 + 2⁻¹⁰⁰]` from `x = e₁`, `λ = 0`;
`d₁ ≤ ‖(1,1)‖` from `z = (1,1)` -/
example : alphaLo [[1, 0], [0, 1]] 0 [1, 0] = some 1 := by decide +kernel
example : (alphaHi [[1, 0], [0, 1]] 0 [0, 0]).isSome = true := by decide +kernel
example : (d1Hi [[1, 0], [0, 1]] [1, 1]).isSome = true := by decide +kernel
example : (d1Lo [[1, 0], [0, 1]] [1, 1]).isSome = true := by decide +kernel
/-- an infeasible proposal is rejected -/
example : alphaLo [[1, 0], [0, 1]] 0 [1, -1] = none := by decide +kernel

/-- the `u*` certificate accepts a feasible/dual pair for the orthant and rejects an infeasible `z` -/
example : (ustarCert [[1, 0], [0, 1]] [3/5, 4/5] 2 [1, 1] [1, 1]).isSome = true := by decide +kernel
example : ustarCert [[1, 0], [0, 1]] [3/5, 4/5] 2 [1, 1/2] [1, 1] = none := by decide +kernel

end VOPy.C17
