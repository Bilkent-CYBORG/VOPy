import VOPyVerif.Proofs.AccuracyRegions
import VOPyVerif.Proofs.AccuracyAuerGeom
import VOPyVerif.Proofs.IntegrationRect
import VOPyVerif.Proofs.StepsCongr
/-!
# C01 — valid confidence regions imply an ε-accurate Pareto set (PaVeBa family, Auer)

Property theorems only.  They are about the executable set transitions `Steps.pavebaRound` /
`Steps.auerRound` iterated by `Accuracy.pavebaRun` / `Accuracy.auerRun`, and about the executable
conclusions `Accuracy.accA`, `accB`, `accT` that the driver evaluates on the final `P` of a real run.

The chain is explicit:

  valid regions (+ the oracles deciding the semantic ∀∀ / ∃∃ predicates: C09 / C10)
    ⇒ per-round oracle soundness at the true means   (`paveba_roundSound_of_valid_regions`)
    ⇒ invariant over rounds                          (`paveba_invariant`)
    ⇒ conclusions at termination                     (`paveba_final_accurate`, `…_of_valid_regions`)
    ⇒ gap ≤ ε in the property's units                (`paveba_ellipsoid_final_accurate`,
                                                       `paveba_rect_final_accurate` with its side condition).

* `region_domination_strict_order`, `box_regions_nondegenerate` — the acyclicity hypothesis holds for
  non-empty, non-degenerate regions; boxes of positive size are non-degenerate.
* `inBox_spec`, `inEll_spec`, `auer_premise_uniform_is_box` — what the per-round premise checks mean.
* `rect_slack_is_threshold_Ws` — what the rectangular variants' slack means (suspected defect D6).
* `accB_of_accT` — thresholds `≤ ε·α` turn the code-units conclusion into `m(i,j) ≤ ε`.
* `gapLe_is_min_gap`, `accA_spec`, `accB_spec` — what the executable checks mean.
* `auer_final_accurate` — Auer's `m/M` rules with summed widths.
-/
namespace VOPy.C01
open VOPy VOPy.Steps VOPy.Accuracy

/-! ## the invariant, for any relations standing for the truth -/

/-- **Invariant of the PaVeBa family, abstractly.**  For any number of designs `K`, any relations
`dom` ("μ_j ≽ μ_i": transitive) and `good` ("j does not exceed i beyond the tolerance": reflexive,
downward closed along `dom`) and any sequence of per-round oracles that are sound for them
(`RoundSound`: region domination implies `dom` and is a strict partial order on the active designs
S ∪ U; a failed covering test between living designs implies `good`), after *every* number `T` of
rounds of `Steps.pavebaRound` from `(S, P, U) = (all, ∅, ∅)`:
(I1) `S`, `P` are disjoint duplicate-free sets of designs `< K` and `U ⊆ P`;
(I2) every design outside `S ∪ P` (discarded) is `dom`-inated by a design in `S ∪ P`;
(I3) every member of `P` is `good` against every design. -/
theorem paveba_invariant {K : Nat} {dom good : Nat → Nat → Prop} (htruth : Truth K dom good)
    (isDom isCov : Nat → Rel) (T : Nat)
    (hs : ∀ r, r < T → RoundSound dom good (isDom r) (isCov r)
      (pavebaRun K isDom isCov r).1 (pavebaRun K isDom isCov r).2.1 (pavebaRun K isDom isCov r).2.2) :
    let S := (pavebaRun K isDom isCov T).1
    let P := (pavebaRun K isDom isCov T).2.1
    let U := (pavebaRun K isDom isCov T).2.2
    (S.Nodup ∧ P.Nodup ∧ (∀ x, x ∈ S → x ∉ P) ∧ (∀ x, x ∈ S ∨ x ∈ P → x < K) ∧ (∀ x, x ∈ U → x ∈ P)) ∧
    (∀ i, i < K → i ∉ S → i ∉ P → ∃ j, (j ∈ S ∨ j ∈ P) ∧ dom j i) ∧
    (∀ i, i ∈ P → ∀ j, j < K → good i j) := by
  have h := paveba_run_inv htruth isDom isCov T hs
  exact ⟨⟨h.nodupS, h.nodupP, h.disj, h.lt, h.subU⟩, h.covered, h.acc⟩

/-! ## the conclusions at termination, for a cone `W` and facet thresholds `t` -/

/-- **Final accuracy from sound oracles.**  Any cone matrix `W` (any number of facets), any number
of designs `K` with true means `μ i` of one length `m`, any facet-threshold vector `t` (one entry
per facet, some entry positive) and any per-round oracles.  If in every round `r < T` the oracles
are sound at the true means — `isDom_r i j → μ_j ≽ μ_i`, `isDom_r` a strict partial order on the
active designs, `isCov_r i j = false → ∃ n, w_n·(μ_j − μ_i) < t_n` for living `i ≠ j` — and no
candidate is left after round `T`, then the final `P` satisfies
(a) `accA`: every design outside `P` is weakly dominated by a member of `P`, and
(b, in the units of `t`) `accT`: for every `i ∈ P` and every other design `j` some facet has
`w_n·(μ_j − μ_i) < t_n`. -/
theorem paveba_final_accurate (W : Mat) (t : Vec) (m K : Nat) (mu : Nat → Vec)
    (hmu : ∀ i, i < K → (mu i).length = m)
    (hpos : ∃ n, ∃ _ : n < W.length, ∃ h2 : n < t.length, 0 < t[n])
    (isDom isCov : Nat → Rel) (T : Nat)
    (hs : ∀ r, r < T → RoundSound (fun j i => dominates W (mu j) (mu i) = true)
      (fun i j => notCovers W t (mu i) (mu j) = true) (isDom r) (isCov r)
      (pavebaRun K isDom isCov r).1 (pavebaRun K isDom isCov r).2.1 (pavebaRun K isDom isCov r).2.2)
    (hfinal : (pavebaRun K isDom isCov T).1 = []) :
    accA W K mu (pavebaRun K isDom isCov T).2.1 = true ∧
    accT W t K mu (pavebaRun K isDom isCov T).2.1 = true :=
  Core.acc_of_pinv W t K mu (paveba_run_inv (truth_of_means W t m K mu hmu hpos) isDom isCov T hs) hfinal

/-- **Region domination is a strict partial order on non-empty, non-degenerate regions.**  With
`SemDominated W R₁ R₂ := ∀ z ∈ R₁, ∀ z' ∈ R₂, z' ≽ z`: it is transitive through a non-empty middle
region, and a region on which some facet functional takes two different values (every ball / box /
ellipsoid of positive size, for a cone with at least one non-zero facet) does not dominate itself.
This is the acyclicity hypothesis of `RoundSound`. -/
theorem region_domination_strict_order (W : Mat) (m : Nat) (R1 R2 R3 : Region)
    (h1 : ∀ z, R1 z → z.length = m) (h2 : ∀ z, R2 z → z.length = m) (h3 : ∀ z, R3 z → z.length = m) :
    ((∃ z, R2 z) → SemDominated W R1 R2 → SemDominated W R2 R3 → SemDominated W R1 R3) ∧
    ((∃ z, R1 z ∧ ∃ z', R1 z' ∧ ∃ w ∈ W, dot w z ≠ dot w z') → ¬ SemDominated W R1 R1) :=
  ⟨fun hne h12 h23 => semDominated_trans W m R1 R2 R3 h1 h2 h3 hne h12 h23,
   fun hnd => semDominated_irrefl W m R1 h1 hnd⟩

/-- **Boxes of positive size are non-degenerate.**  A displayed rectangle `[l, u]` (`l ≤ u`) that has
positive width in some coordinate on which some facet of the cone has a non-zero entry contains two
points separated by that facet functional — the `hnondeg` hypothesis of
`paveba_oracles_sound_of_valid_regions` for `R := fun z => inBox l u z = true`. -/
theorem box_regions_nondegenerate (W : Mat) (l u : Vec) (hlen : l.length = u.length) (hle : vle l u = true)
    (w : Vec) (hwW : w ∈ W) (d : Nat) (hd : d < l.length) (hwd : d < w.length)
    (hw : w[d] ≠ 0) (hlt : l[d] < u[d]'(by omega)) :
    ∃ z, inBox l u z = true ∧ ∃ z', inBox l u z' = true ∧ ∃ w ∈ W, dot w z ≠ dot w z' :=
  box_nondegenerate W l u hlen hle w hwW d hd hwd hw hlt

/-- **Valid regions give sound oracles.**  `R r i` is the region of design `i` as the decision
phases of round `r` see it.  If the two oracles decide the semantic predicates (`is_dominated` ⇔
∀∀ with zero slack; `is_covered = False` ⇒ ¬∃∃ with thresholds `t`), the true mean of every design
active in round `r` (S ∪ U — the ones `modeling()` refreshes) is inside its displayed region, a
design that is not active keeps the region it had, and active regions are non-degenerate, then
every round is `RoundSound` at the true means.  (Members of `P ∖ U` are handled by persistence:
their last displayed region still contains the truth.) -/
theorem paveba_oracles_sound_of_valid_regions (W : Mat) (t : Vec) (m K : Nat) (mu : Nat → Vec)
    (R : Nat → Nat → Region) (isDom isCov : Nat → Rel) (T : Nat)
    (hlen : ∀ r i z, R r i z → z.length = m)
    (hDom : ∀ r, r < T → ∀ i j, isDom r i j = true ↔ SemDominated W (R r i) (R r j))
    (hCov : ∀ r, r < T → ∀ i j, isCov r i j = false → ¬ SemCoverable W t (R r i) (R r j))
    (hvalid : ∀ r, r < T → ∀ i,
      (i ∈ (pavebaRun K isDom isCov r).1 ∨ i ∈ (pavebaRun K isDom isCov r).2.2) → R r i (mu i))
    (hpersist : ∀ r, r + 1 < T → ∀ i,
      ¬ (i ∈ (pavebaRun K isDom isCov (r + 1)).1 ∨ i ∈ (pavebaRun K isDom isCov (r + 1)).2.2) →
      R (r + 1) i = R r i)
    (hnondeg : ∀ r, r < T → ∀ i,
      (i ∈ (pavebaRun K isDom isCov r).1 ∨ i ∈ (pavebaRun K isDom isCov r).2.2) →
      ∃ z, R r i z ∧ ∃ z', R r i z' ∧ ∃ w ∈ W, dot w z ≠ dot w z') :
    ∀ r, r < T → RoundSound (fun j i => dominates W (mu j) (mu i) = true)
      (fun i j => notCovers W t (mu i) (mu j) = true) (isDom r) (isCov r)
      (pavebaRun K isDom isCov r).1 (pavebaRun K isDom isCov r).2.1 (pavebaRun K isDom isCov r).2.2 :=
  paveba_roundSound_of_valid_regions W t m K mu R isDom isCov T hlen hDom hCov hvalid hpersist hnondeg

/-- **C01 for the PaVeBa family, end to end.**  Valid, non-degenerate displayed regions in every
round (premise of the property), oracles that decide the semantic predicates, and termination
(`S = ∅` after round `T`) imply conclusions (a) `accA` and (b) `accT` for the thresholds `t` the
covering test really used. -/
theorem paveba_final_accurate_of_valid_regions (W : Mat) (t : Vec) (m K : Nat) (mu : Nat → Vec)
    (hmu : ∀ i, i < K → (mu i).length = m)
    (hpos : ∃ n, ∃ _ : n < W.length, ∃ h2 : n < t.length, 0 < t[n])
    (R : Nat → Nat → Region) (isDom isCov : Nat → Rel) (T : Nat)
    (hlen : ∀ r i z, R r i z → z.length = m)
    (hDom : ∀ r, r < T → ∀ i j, isDom r i j = true ↔ SemDominated W (R r i) (R r j))
    (hCov : ∀ r, r < T → ∀ i j, isCov r i j = false → ¬ SemCoverable W t (R r i) (R r j))
    (hvalid : ∀ r, r < T → ∀ i,
      (i ∈ (pavebaRun K isDom isCov r).1 ∨ i ∈ (pavebaRun K isDom isCov r).2.2) → R r i (mu i))
    (hpersist : ∀ r, r + 1 < T → ∀ i,
      ¬ (i ∈ (pavebaRun K isDom isCov (r + 1)).1 ∨ i ∈ (pavebaRun K isDom isCov (r + 1)).2.2) →
      R (r + 1) i = R r i)
    (hnondeg : ∀ r, r < T → ∀ i,
      (i ∈ (pavebaRun K isDom isCov r).1 ∨ i ∈ (pavebaRun K isDom isCov r).2.2) →
      ∃ z, R r i z ∧ ∃ z', R r i z' ∧ ∃ w ∈ W, dot w z ≠ dot w z')
    (hfinal : (pavebaRun K isDom isCov T).1 = []) :
    accA W K mu (pavebaRun K isDom isCov T).2.1 = true ∧
    accT W t K mu (pavebaRun K isDom isCov T).2.1 = true :=
  paveba_final_accurate W t m K mu hmu hpos isDom isCov T
    (paveba_roundSound_of_valid_regions W t m K mu R isDom isCov T hlen hDom hCov hvalid hpersist hnondeg)
    hfinal

/-! ## from the code's threshold units to `m(i,j) ≤ ε` -/

/-- **Thresholds `≤ ε·α` give gap `≤ ε`.**  If `α_n > 0`, `ε ≥ 0`, the threshold vector has one entry
per entry of `α` and `t_n ≤ ε·α_n` for every facet, the code-units conclusion `accT W t` implies
conclusion (b) `accB W α ε`: `∀ i ∈ P, ∀ j, m(i,j) = min_n max(0, w_n·(μ_j − μ_i))/α_n ≤ ε`. -/
theorem accB_of_accT (W : Mat) (alpha t : Vec) (eps : Rat) (K : Nat) (mu : Nat → Vec) (P : List Nat)
    (heps : 0 ≤ eps) (hal : ∀ n, ∀ h : n < alpha.length, 0 < alpha[n])
    (hne : ∃ n, n < W.length ∧ n < alpha.length)
    (hlen : t.length = alpha.length)
    (hle : ∀ n, ∀ h1 : n < t.length, ∀ h2 : n < alpha.length, t[n] ≤ eps * alpha[n])
    (h : accT W t K mu P = true) : accB W alpha eps K mu P = true :=
  Core.accB_of_accT W alpha t eps K mu P heps hal hne hlen hle h

/-- **C01 (b) for the ellipsoidal variants** (PaVeBa, PaVeBaGP-DE, PaVeBaPartialGP-ellipsoid): there
the covering test receives the per-facet slack `ε·α` as per-facet thresholds, `t = ε·α`, and the
final `P` satisfies (a) and (b) `∀ i ∈ P, ∀ j, m(i,j) ≤ ε` — for any cone, `ε > 0`, `α > 0`. -/
theorem paveba_ellipsoid_final_accurate (W : Mat) (alpha : Vec) (eps : Rat) (m K : Nat) (mu : Nat → Vec)
    (hmu : ∀ i, i < K → (mu i).length = m)
    (heps : 0 < eps) (hal : ∀ n, ∀ h : n < alpha.length, 0 < alpha[n])
    (hne : ∃ n, n < W.length ∧ n < alpha.length)
    (isDom isCov : Nat → Rel) (T : Nat)
    (hs : ∀ r, r < T → RoundSound (fun j i => dominates W (mu j) (mu i) = true)
      (fun i j => notCovers W (smul eps alpha) (mu i) (mu j) = true) (isDom r) (isCov r)
      (pavebaRun K isDom isCov r).1 (pavebaRun K isDom isCov r).2.1 (pavebaRun K isDom isCov r).2.2)
    (hfinal : (pavebaRun K isDom isCov T).1 = []) :
    accA W K mu (pavebaRun K isDom isCov T).2.1 = true ∧
    accB W alpha eps K mu (pavebaRun K isDom isCov T).2.1 = true := by
  obtain ⟨hA, hT⟩ := paveba_final_accurate W (smul eps alpha) m K mu hmu
    (Core.exists_pos_smul W alpha eps heps hal hne) isDom isCov T hs hfinal
  exact ⟨hA, Core.accB_of_accT_smul W alpha eps K mu _ heps.le hal hne hT⟩


/-! ### non-vacuity: three designs, one is discarded, two reach `P` -/

/-- true means of the examples: design 0 is dominated, designs 1 and 2 are within ε of each other -/
private def exMu : Nat → Vec := fun i => ([[0, 0], [2, 2], [2, 9/4]] : List Vec).getD i []
/-- region 0 is dominated by regions 1 and 2 -/
private def exDom : Nat → Rel := fun _ i j => i == 0 && (j == 1 || j == 2)
/-- region 0 can be ε-covered by every region, nothing else can -/
private def exCov : Nat → Rel := fun _ i _ => i == 0

/-- The hypotheses of `paveba_ellipsoid_final_accurate` are satisfiable with a non-trivial outcome:
orthant cone, `ε = 1/2`, `α = (1,1)`; the single round is sound, the run terminates with
`P = {1, 2}` and design 0 discarded, and the theorem yields both conclusions. -/
example :
    pavebaRun 3 exDom exCov 1 = ([], [1, 2], []) ∧
    accA (identMat 2) 3 exMu (pavebaRun 3 exDom exCov 1).2.1 = true ∧
    accB (identMat 2) [1, 1] (1/2) 3 exMu (pavebaRun 3 exDom exCov 1).2.1 = true := by
  have hrun : pavebaRun 3 exDom exCov 1 = ([], [1, 2], []) := by decide +kernel
  refine ⟨hrun, ?_⟩
  apply paveba_ellipsoid_final_accurate (identMat 2) [1, 1] (1/2) 2 3 exMu
  · decide +kernel
  · norm_num
  · decide +kernel
  · exact ⟨0, by decide +kernel⟩
  · intro r hr
    obtain rfl : r = 0 := by omega
    exact roundSound_of_check _ _ _ _ _ _ _ _ (by decide +kernel)
  · exact congrArg Prod.fst hrun

/-- **What the rectangular variants' slack means.**  `RectangularConfidenceRegion.is_covered` adds its
slack `s` in objective space (`∃∃ z' ≽ z + s`); for regions of vectors of the length of `s` this is
the covering predicate with facet thresholds `W·s` — not `s` itself. -/
theorem rect_slack_is_threshold_Ws (W : Mat) (s : Vec) (R1 R2 : Region)
    (h1 : ∀ z, R1 z → z.length = s.length) (h2 : ∀ z, R2 z → z.length = s.length) :
    SemCoverableS W s R1 R2 ↔ SemCoverable W (matVec W s) R1 R2 :=
  semCoverableS_iff W s R1 R2 h1 h2

/-- **C01 (b) for the rectangular variants** (PaVeBaGP-IH, PaVeBaPartialGP-hyperrectangle), stated
with the slack semantics the code uses: the vector `s = ε·α` (which must then have `m` entries,
i.e. `N = m` facets) is an objective-space shift, so the thresholds are `t = W·s`.  Under the
side condition `W·(εα) ≤ εα` componentwise (`slackSideCondition`; equality for the orthant) the
final `P` satisfies (a) and (b).  Where the side condition fails (e.g. obtuse cones) only the
weaker `accT W (W·s)` of `paveba_final_accurate` is available — suspected defect D6. -/
theorem paveba_rect_final_accurate (W : Mat) (alpha : Vec) (eps : Rat) (m K : Nat) (mu : Nat → Vec)
    (hmu : ∀ i, i < K → (mu i).length = m)
    (heps : 0 ≤ eps) (hal : ∀ n, ∀ h : n < alpha.length, 0 < alpha[n])
    (hne : ∃ n, n < W.length ∧ n < alpha.length)
    (hpos : ∃ n, ∃ _ : n < W.length, ∃ h2 : n < (matVec W (smul eps alpha)).length,
      0 < (matVec W (smul eps alpha))[n])
    (hside : slackSideCondition W (smul eps alpha) (smul eps alpha) = true)
    (isDom isCov : Nat → Rel) (T : Nat)
    (hs : ∀ r, r < T → RoundSound (fun j i => dominates W (mu j) (mu i) = true)
      (fun i j => notCovers W (matVec W (smul eps alpha)) (mu i) (mu j) = true) (isDom r) (isCov r)
      (pavebaRun K isDom isCov r).1 (pavebaRun K isDom isCov r).2.1 (pavebaRun K isDom isCov r).2.2)
    (hfinal : (pavebaRun K isDom isCov T).1 = []) :
    accA W K mu (pavebaRun K isDom isCov T).2.1 = true ∧
    accB W alpha eps K mu (pavebaRun K isDom isCov T).2.1 = true := by
  obtain ⟨hA, hT⟩ := paveba_final_accurate W (matVec W (smul eps alpha)) m K mu hmu hpos isDom isCov T
    hs hfinal
  exact ⟨hA, Core.accB_of_accT_side W alpha eps K mu _ heps hal hne hside hT⟩

/-- **C01 for the rectangular variants, end to end, in the code's units.**  As
`paveba_final_accurate_of_valid_regions`, but with the covering oracle read the way
`RectangularConfidenceRegion.is_covered` works: `is_covered = False ⇒ ¬ ∃∃ z' ≽ z + s` with the slack
`s` an objective-space vector (`SemCoverableS`).  The conclusion is (a) and `accT` with the thresholds
`W·s`; (b) follows under the side condition by `accB_of_accT` / `paveba_rect_final_accurate`. -/
theorem paveba_rect_final_accurate_of_valid_regions (W : Mat) (s : Vec) (K : Nat) (mu : Nat → Vec)
    (hmu : ∀ i, i < K → (mu i).length = s.length)
    (hpos : ∃ n, ∃ _ : n < W.length, ∃ h2 : n < (matVec W s).length, 0 < (matVec W s)[n])
    (R : Nat → Nat → Region) (isDom isCov : Nat → Rel) (T : Nat)
    (hlen : ∀ r i z, R r i z → z.length = s.length)
    (hDom : ∀ r, r < T → ∀ i j, isDom r i j = true ↔ SemDominated W (R r i) (R r j))
    (hCov : ∀ r, r < T → ∀ i j, isCov r i j = false → ¬ SemCoverableS W s (R r i) (R r j))
    (hvalid : ∀ r, r < T → ∀ i,
      (i ∈ (pavebaRun K isDom isCov r).1 ∨ i ∈ (pavebaRun K isDom isCov r).2.2) → R r i (mu i))
    (hpersist : ∀ r, r + 1 < T → ∀ i,
      ¬ (i ∈ (pavebaRun K isDom isCov (r + 1)).1 ∨ i ∈ (pavebaRun K isDom isCov (r + 1)).2.2) →
      R (r + 1) i = R r i)
    (hnondeg : ∀ r, r < T → ∀ i,
      (i ∈ (pavebaRun K isDom isCov r).1 ∨ i ∈ (pavebaRun K isDom isCov r).2.2) →
      ∃ z, R r i z ∧ ∃ z', R r i z' ∧ ∃ w ∈ W, dot w z ≠ dot w z')
    (hfinal : (pavebaRun K isDom isCov T).1 = []) :
    accA W K mu (pavebaRun K isDom isCov T).2.1 = true ∧
    accT W (matVec W s) K mu (pavebaRun K isDom isCov T).2.1 = true :=
  paveba_final_accurate_of_valid_regions W (matVec W s) s.length K mu hmu hpos R isDom isCov T hlen hDom
    (fun r hr i j h hc => hCov r hr i j h
      ((semCoverableS_iff W s (R r i) (R r j) (hlen r i) (hlen r j)).mpr hc))
    hvalid hpersist hnondeg hfinal

/-! ## what the executable checks mean -/

/-- `gapLe` (decided facet by facet) is `m(i,j) ≤ ε` for the literal minimum
`m(i,j) = min_n max(0, w_n·(μ_j − μ_i))/α_n` computed by `mGap`. -/
theorem gapLe_is_min_gap (W : Mat) (alpha : Vec) (eps : Rat) (a b : Vec) (g : Rat)
    (hg : mGap W alpha a b = some g) : g ≤ eps ↔ gapLe W alpha eps a b = true :=
  mGap_le_iff W alpha eps a b g hg

/-- `accA` says: every design outside `P` is weakly dominated by a member of `P`. -/
theorem accA_spec (W : Mat) (K : Nat) (mu : Nat → Vec) (P : List Nat) :
    accA W K mu P = true ↔ ∀ i, i < K → i ∈ P ∨ ∃ j ∈ P, dominates W (mu j) (mu i) = true :=
  accA_iff W K mu P

/-- `accB` says: every member of `P` has `m(i,j) ≤ ε` against every design `j`. -/
theorem accB_spec (W : Mat) (alpha : Vec) (eps : Rat) (K : Nat) (mu : Nat → Vec) (P : List Nat) :
    accB W alpha eps K mu P = true ↔ ∀ i ∈ P, ∀ j, j < K → gapLe W alpha eps (mu i) (mu j) = true :=
  accB_iff W alpha eps K mu P

/-- `inBox l u x` (the per-round premise check for rectangles) says `l ≤ x ≤ u` in every coordinate,
the three vectors having one common length. -/
theorem inBox_spec (l u x : Vec) :
    inBox l u x = true ↔
      l.length = x.length ∧ u.length = x.length ∧
        ∀ n, ∀ h : n < x.length, ∀ hl : n < l.length, ∀ hu : n < u.length, l[n] ≤ x[n] ∧ x[n] ≤ u[n] :=
  inBox_iff l u x

/-- `inEll c Σ a x = some true` (the per-round premise check for ellipsoids / balls) certifies
`(x − c)ᵀ Σ⁻¹ (x − c) ≤ a²`: it exhibits `y` with `Σ y = x − c` and `(x − c)·y ≤ a²`, `a ≥ 0`. -/
theorem inEll_spec (c : Vec) (Sg : Mat) (a : Rat) (x : Vec) (h : inEll c Sg a x = some true) :
    ∃ y : Vec, matVec Sg y = vsub x c ∧ dot (vsub x c) y ≤ a * a ∧ 0 ≤ a :=
  inEll_sound c Sg a x h

/-- For a width row with equal entries (Auer with `use_empirical_beta = False`) the premise of
`auer_final_accurate` is exactly "μ_i inside the displayed box `[c − b, c + b]`". -/
theorem auer_premise_uniform_is_box (m : Nat) (hm : 0 < m) (c mu : Vec) (b : Rat)
    (hc : c.length = m) (hmu : mu.length = m) :
    errWithin c (List.replicate m b) mu = true ↔ inBox (c.map (· - b)) (c.map (· + b)) mu = true :=
  errWithin_uniform_iff_inBox m hm c mu b hc hmu

/-! ## Auer -/

/-- **C01 for Auer's algorithm.**  `m ≥ 1` objectives, componentwise order, `ε ≥ 0`.  If in every
round `r < T` every candidate `i ∈ S_r` has a centre `c_r(i)` and a positive width row `β_r(i)` with
`‖c_r(i) − μ_i‖_∞ ≤ min_d β_r(i)[d]` (`errWithin`; for rows with equal entries this is exactly
"μ_i inside the displayed box") and no candidate is left after round `T` of `Steps.auerRound`
(every width looked up by design), then (a) every design outside `P` is weakly dominated by a
member of `P` and (b) every member of `P` has `m(i,j) = min_d max(0, μ_j[d] − μ_i[d]) ≤ ε` against
every design. -/
theorem auer_final_accurate (m K : Nat) (hm : 0 < m) (eps : Rat) (heps : 0 ≤ eps) (mu : Nat → Vec)
    (hmu : ∀ i, i < K → (mu i).length = m) (centre width : Nat → Nat → Vec) (T : Nat)
    (hvalid : ∀ r, r < T → ∀ i, i ∈ (auerRun K eps centre width r).1 →
      (centre r i).length = m ∧ (width r i).length = m ∧
      errWithin (centre r i) (width r i) (mu i) = true ∧ widthsPos (width r i) = true)
    (hfinal : (auerRun K eps centre width T).1 = []) :
    accA (identMat m) K mu (auerRun K eps centre width T).2 = true ∧
    accB (identMat m) (ones m) eps K mu (auerRun K eps centre width T).2 = true := by
  have h := auer_run_inv (atruth_of_means m K hm eps heps mu hmu) eps centre width T
    fun r hr => auer_roundSound_of_valid m eps heps mu (centre r) (width r) _ fun i hi =>
      ⟨hmu i (auerRun_lt K eps centre width r i hi), hvalid r hr i hi⟩
  obtain ⟨ha, hb⟩ := ainv_final h hfinal
  rw [accA_iff, accB_iff]
  exact ⟨fun i hi => (Classical.em _).imp_right (ha i hi), hb⟩

/-- The hypotheses of `auer_final_accurate` are satisfiable with a non-trivial outcome: centres equal
to the true means, all widths `1/4`, `ε = 1/2`: design 0 is eliminated, designs 1 and 2 reach `P`
in the first round. -/
example :
    auerRun 3 (1/2) (fun _ => exMu) (fun _ _ => [1/4, 1/4]) 1 = ([], [1, 2]) ∧
    accA (identMat 2) 3 exMu (auerRun 3 (1/2) (fun _ => exMu) (fun _ _ => [1/4, 1/4]) 1).2 = true ∧
    accB (identMat 2) (ones 2) (1/2) 3 exMu
      (auerRun 3 (1/2) (fun _ => exMu) (fun _ _ => [1/4, 1/4]) 1).2 = true := by
  have hrun : auerRun 3 (1/2) (fun _ => exMu) (fun _ _ => [1/4, 1/4]) 1 = ([], [1, 2]) := by
    decide +kernel
  refine ⟨hrun, ?_⟩
  apply auer_final_accurate 2 3 (by norm_num) (1/2) (by norm_num) exMu
  · decide +kernel
  · intro r hr
    obtain rfl : r = 0 := by omega
    decide +kernel
  · exact congrArg Prod.fst hrun

/-! ### the two places where the implication is *not* provable (genuine defects found by the harness) -/

/-- Without the side condition `W·(εα) ≤ εα` the code-units conclusion does not give (b): obtuse cone
`W = [[2,1],[1,2]]`, `ε·α = (1,1)` read as an objective-space shift gives thresholds `W·s = (3,3)`;
with `μ₀ = (0,0)`, `μ₁ = (1/2,1/2)` and `P = {0,1}` the conclusion `accT` holds while design 1
exceeds design 0 by `3/2 > ε·α_n = 1` on every facet (defect D6, key `rect-slack-objective-space-units`). -/
example :
    let W : Mat := [[2, 1], [1, 2]]
    let mu : Nat → Vec := fun i => ([[0, 0], [1/2, 1/2]] : List Vec).getD i []
    slackSideCondition W [1, 1] [1, 1] = false ∧
    accT W (matVec W [1, 1]) 2 mu [0, 1] = true ∧ accB W [1, 1] 1 2 mu [0, 1] = false := by
  decide +kernel

/-- For Auer the premise "the truth is inside the displayed box" (per-objective widths) is *not*
enough once width rows are not uniform across objectives: two designs, `ε = 1`, `μ₁ − μ₀ = (5/4, 5/4)`;
in both rounds the truth is inside both boxes, yet two rounds of `Steps.auerRound` put both designs
into `P` (key `auer-scalar-M-vs-smallest-width`; the theorem `auer_final_accurate` needs
`‖c − μ‖_∞ ≤ min_d β_d`, which fails here in round 2). -/
example :
    let mu : Nat → Vec := fun i => ([[0, 0], [5/4, 5/4]] : List Vec).getD i []
    let centre : Nat → Nat → Vec := fun r i =>
      ([[[-3, -5], [17/4, 25/4]], [[-7/2, 35/2], [19/4, -65/4]]] : List (List Vec)).getD r [] |>.getD i []
    let width : Nat → Nat → Vec := fun r _ => ([[6, 6], [4, 50]] : List Vec).getD r []
    (∀ r, r < 2 → ∀ i, i < 2 →
      inBox (vsub (centre r i) (width r i)) (vadd (centre r i) (width r i)) (mu i) = true) ∧
    auerRun 2 1 centre width 2 = ([], [0, 1]) ∧
    accB (identMat 2) (ones 2) 1 2 mu (auerRun 2 1 centre width 2).2 = false ∧
    errWithin (centre 1 0) (width 1 0) (mu 0) = false := by
  decide +kernel

end VOPy.C01

/-! # INTEGRATION — end-to-end statements about the executable decision core

The theorems above take the per-round oracles as given and assume that they decide the semantic
predicates.  Here the oracles are the *executable exact geometry models* (`Core.ballDom`,
`Core.ballCov`, `Core.rectDom`, `Core.rectCov` = `Ellipsoid.isDominatedChecked`,
`Covered.ballIsCovered`, `Rect.isDominatedChecked`, `Covered.rectIsCovered` applied to the displayed
regions), the run is `Core.pavebaCore` (a table of displayed regions threaded through
`Steps.pavebaRound`; `Core.pavebaCore_eq_run`: it *is* `Accuracy.pavebaRun` with the computed
oracles), and that hypothesis is discharged by C09 (`ell_isDominated_iff_posDef`,
`rect_isDominated_iff`) and C10 (`ball_isCovered_iff`, `rect_isCovered_iff`):

  truth inside every refreshed displayed region
    ⇒ (C09, C10)  the computed oracles are sound at the true means, region domination is a strict order
    ⇒ (`Core.pavebaStep_inv`: the table entries of `P ∖ U` still contain the truth)  every round is `RoundSound`,
       and one `Core.pavebaStep` preserves the invariant `Core.CInv` (`PInv` + validity of the table on `P ∖ U`)
    ⇒ (`Core.pavebaCore_cinv`, `Core.acc_of_pinv`)  (a), (b) at termination.

What remains assumed is only the premise of the property (the truth is in the displayed regions) and
that the real geometry predicates agree with their exact models (C09/C10 correspondence). -/
namespace VOPy.C01
open VOPy VOPy.Steps VOPy.Accuracy

/-- **C01 for PaVeBa, end to end on the executable core.**  Any cone matrix `W` with rows of `m`
entries and some non-zero entry, `α_n > 0` with one entry per facet, `ε > 0`, any number `K` of
designs with true means of `m` entries, any initial region table and any sequence `fresh r i` of
displayed balls.  `Core.ballCore` runs `Steps.pavebaRound` with the oracles *computed* from the
displayed balls: `is_dominated` with scalar slack `0` (`Ellipsoid.isDominatedChecked`, `Σ = I`) and
`is_covered` with the per-facet slack `ε·α` (`Covered.ballIsCovered`); only the balls of `S ∪ U` are
refreshed in a round, the others keep their last displayed value.  If in every round `r < T` every
refreshed design has a displayed ball of dimension `m` and positive radius that contains its true
mean, and no candidate is left after round `T`, then the final `P` satisfies (a) every design outside
`P` is weakly dominated by a member of `P`, and (b) `m(i,j) ≤ ε` for every `i ∈ P` and every `j`.
No hypothesis about the oracles is left: C09 and C10 discharge it. -/
theorem paveba_ball_end_to_end (W : Mat) (alpha : Vec) (eps : Rat) (m K : Nat) (mu : Nat → Vec)
    (hW : ∀ w ∈ W, w.length = m) (hWne : ∃ w ∈ W, ∃ x ∈ w, x ≠ 0)
    (hmu : ∀ i, i < K → (mu i).length = m)
    (heps : 0 < eps) (hal : ∀ n, ∀ h : n < alpha.length, 0 < alpha[n])
    (hlen : alpha.length = W.length)
    (init : Nat → Core.Ball) (fresh : Nat → Nat → Core.Ball) (T : Nat)
    (hvalid : ∀ r, r < T → ∀ i,
      (i ∈ (Core.ballCore W alpha eps K init fresh r).S ∨
        i ∈ (Core.ballCore W alpha eps K init fresh r).U) →
      (fresh r i).c.length = m ∧ 0 < (fresh r i).a ∧ (fresh r i).mem (mu i) = true)
    (hfinal : (Core.ballCore W alpha eps K init fresh T).S = []) :
    accA W K mu (Core.ballCore W alpha eps K init fresh T).P = true ∧
    accB W alpha eps K mu (Core.ballCore W alpha eps K init fresh T).P = true := by
  have hne : ∃ n, n < W.length ∧ n < alpha.length := by
    obtain ⟨w, hw, _⟩ := hWne
    exact ⟨0, List.length_pos_of_mem hw, hlen ▸ List.length_pos_of_mem hw⟩
  obtain ⟨hA, hT⟩ := Core.acc_of_pinv W (smul eps alpha) K mu (Core.pavebaCore_cinv
    (Core.ball_oracleSound W m hW hWne (smul eps alpha) (by rw [← hlen]; simp [smul]))
    (truth_of_means W _ m K mu hmu (Core.exists_pos_smul W alpha eps heps hal hne)) init fresh T
    (fun r hr i hi => and_assoc.2 (hvalid r hr i hi))).sets hfinal
  exact ⟨hA, Core.accB_of_accT_smul W alpha eps K mu _ heps.le hal hne hT⟩

/-- **C01 for the rectangular variants (PaVeBaGP-IH, PaVeBaPartialGP-hyperrectangle), end to end on
the executable core.**  As `paveba_ball_end_to_end` with displayed boxes: `Core.rectCore` computes
`is_dominated` with the scalar slack `0` (`Rect.isDominatedChecked`, the vertex-pair loop) and
`is_covered` with the vector `ε·α` read as an objective-space shift (`Covered.rectIsCovered`, the LP
the code builds; `ε·α` must then have `m` entries).  If every refreshed design has a displayed box of
dimension `m` with positive width in every coordinate that contains its true mean, and `S = ∅` after
round `T`, then (a) holds, and (b) holds under the side condition `W·(εα) ≤ εα` (equality for the
orthant) exactly as in `paveba_rect_final_accurate`; without it only `accT W (W·(εα))` is available
(defect D6). -/
theorem paveba_rect_end_to_end (W : Mat) (alpha : Vec) (eps : Rat) (m K : Nat) (mu : Nat → Vec)
    (hW : ∀ w ∈ W, w.length = m) (hWne : ∃ w ∈ W, ∃ x ∈ w, x ≠ 0)
    (hmu : ∀ i, i < K → (mu i).length = m)
    (heps : 0 ≤ eps) (hal : ∀ n, ∀ h : n < alpha.length, 0 < alpha[n])
    (hlen : alpha.length = m)
    (hpos : ∃ n, ∃ _ : n < W.length, ∃ h2 : n < (matVec W (smul eps alpha)).length,
      0 < (matVec W (smul eps alpha))[n])
    (hside : slackSideCondition W (smul eps alpha) (smul eps alpha) = true)
    (init : Nat → Core.Box) (fresh : Nat → Nat → Core.Box) (T : Nat)
    (hvalid : ∀ r, r < T → ∀ i,
      (i ∈ (Core.rectCore W alpha eps K init fresh r).S ∨
        i ∈ (Core.rectCore W alpha eps K init fresh r).U) →
      (fresh r i).wfB m = true ∧ (fresh r i).mem (mu i) = true)
    (hfinal : (Core.rectCore W alpha eps K init fresh T).S = []) :
    accA W K mu (Core.rectCore W alpha eps K init fresh T).P = true ∧
    accB W alpha eps K mu (Core.rectCore W alpha eps K init fresh T).P = true := by
  have hne : ∃ n, n < W.length ∧ n < alpha.length := by
    obtain ⟨w, hw, x, hx, _⟩ := hWne
    exact ⟨0, List.length_pos_of_mem hw, by rw [hlen, ← hW w hw]; exact List.length_pos_of_mem hx⟩
  obtain ⟨hA, hT⟩ := Core.acc_of_pinv W (matVec W (smul eps alpha)) K mu (Core.pavebaCore_cinv
    (Core.rect_oracleSound W m hW hWne (smul eps alpha) (smul eps alpha)
      (Core.expandSlack_self m _ (by rw [← hlen]; simp [smul])))
    (truth_of_means W _ m K mu hmu hpos) init fresh T hvalid).sets hfinal
  exact ⟨hA, Core.accB_of_accT_side W alpha eps K mu _ heps hal hne hside hT⟩

/-- **C01 for Auer with uniform width rows, end to end.**  Auer's rules read the displayed centres
and width rows directly (`Steps.auerRound`), so the decision core is `Accuracy.auerRun`; with the
uniform rows `(b, …, b)` of `use_empirical_beta = False` (`Core.auerUniformCore`) the premise of the
property — the true mean lies in the displayed box `[c − b, c + b]` — is all that is needed: if it
holds for every candidate in every round (`b > 0`, centres of `m ≥ 1` entries) and `S = ∅` after round
`T`, the final `P` satisfies (a) and (b) for the componentwise order. -/
theorem auer_box_end_to_end (m K : Nat) (hm : 0 < m) (eps : Rat) (heps : 0 ≤ eps) (mu : Nat → Vec)
    (hmu : ∀ i, i < K → (mu i).length = m)
    (centre : Nat → Nat → Vec) (width : Nat → Nat → Rat) (T : Nat)
    (hvalid : ∀ r, r < T → ∀ i, i ∈ (Core.auerUniformCore K eps centre width r).1 →
      (centre r i).length = m ∧ 0 < width r i ∧
      inBox ((centre r i).map (· - width r i)) ((centre r i).map (· + width r i)) (mu i) = true)
    (hfinal : (Core.auerUniformCore K eps centre width T).1 = []) :
    accA (identMat m) K mu (Core.auerUniformCore K eps centre width T).2 = true ∧
    accB (identMat m) (ones m) eps K mu (Core.auerUniformCore K eps centre width T).2 = true := by
  apply auer_final_accurate m K hm eps heps mu hmu centre
    (fun k i => List.replicate (centre k i).length (width k i)) T _ hfinal
  intro r hr i hi
  obtain ⟨hc, hb, hbox⟩ := hvalid r hr i hi
  have hmul : (mu i).length = m := by
    have := ((inBox_iff _ _ _).1 hbox).1
    simpa [hc] using this.symm
  refine ⟨hc, by simp [hc], ?_, ?_⟩
  · rw [hc]
    exact (errWithin_uniform_iff_inBox m hm (centre r i) (mu i) (width r i) hc hmul).2 hbox
  · simp [widthsPos, hb]

/-! ### non-vacuity of the end-to-end theorems: two rounds evaluated by the kernel

Three designs with true means `(0,0)`, `(2,2)`, `(2,9/4)`, orthant cone, `α = (1,1)`, `ε = 1/2`.  The
displayed regions are centred at the true means: radius / half-width `2` in round 0 (nothing can be
decided: all three designs stay in `S`), `1/4` resp. `1/8` in round 1 (design 0 is discarded, designs
1 and 2 — within `ε` of each other — reach `P`).  Every oracle answer is computed by the exact
geometry models inside the kernel. -/

private def exBalls : Nat → Nat → Core.Ball := fun r i => ⟨exMu i, if r = 0 then 2 else 1/4⟩
private def exBoxes : Nat → Nat → Core.Box := fun r i =>
  let h : Rat := if r = 0 then 2 else 1/8
  ⟨(exMu i).map (· - h), (exMu i).map (· + h)⟩

/-- `paveba_ball_end_to_end`: the hypotheses hold, the run of the core is
`S = {0,1,2}` after round 0, then `S = ∅`, `P = {1,2}`, design 0 discarded; the theorem yields (a), (b). -/
example :
    (Core.ballCore (identMat 2) [1, 1] (1/2) 3 (fun _ => ⟨[], 0⟩) exBalls 1).S = [0, 1, 2] ∧
    (Core.ballCore (identMat 2) [1, 1] (1/2) 3 (fun _ => ⟨[], 0⟩) exBalls 2).P = [1, 2] ∧
    accA (identMat 2) 3 exMu (Core.ballCore (identMat 2) [1, 1] (1/2) 3 (fun _ => ⟨[], 0⟩) exBalls 2).P = true ∧
    accB (identMat 2) [1, 1] (1/2) 3 exMu
      (Core.ballCore (identMat 2) [1, 1] (1/2) 3 (fun _ => ⟨[], 0⟩) exBalls 2).P = true := by
  -- the two rounds, termination and the premise check are evaluated together, so that each round is
  -- run once
  suffices h : _ ∧ _ ∧
      (Core.ballCore (identMat 2) [1, 1] (1/2) 3 (fun _ => ⟨[], 0⟩) exBalls 2).S = [] ∧
      Core.pavebaPremise (Core.Ball.wfB 2) Core.Ball.mem 3 _ _ _ exBalls exMu 2 = true by
    refine ⟨h.1, h.2.1, ?_⟩
    apply paveba_ball_end_to_end (identMat 2) [1, 1] (1/2) 2 3 exMu
    · decide
    · exact ⟨[1, 0], by decide, 1, by decide, by decide⟩
    · decide
    · norm_num
    · decide
    · rfl
    · intro r hr i hi
      obtain ⟨hw, hm⟩ := Core.pavebaPremise_spec _ _ 3 _ _ _ exBalls exMu 2 h.2.2.2 r hr i hi
      rw [Core.Ball.wfB_iff] at hw
      exact ⟨hw.1, hw.2, hm⟩
    · exact h.2.2.1
  decide +kernel

/-- `paveba_rect_end_to_end`: same scenario with boxes (orthant: the side condition holds with
equality). -/
example :
    (Core.rectCore (identMat 2) [1, 1] (1/2) 3 (fun _ => ⟨[], []⟩) exBoxes 1).S = [0, 1, 2] ∧
    (Core.rectCore (identMat 2) [1, 1] (1/2) 3 (fun _ => ⟨[], []⟩) exBoxes 2).P = [1, 2] ∧
    accA (identMat 2) 3 exMu (Core.rectCore (identMat 2) [1, 1] (1/2) 3 (fun _ => ⟨[], []⟩) exBoxes 2).P = true ∧
    accB (identMat 2) [1, 1] (1/2) 3 exMu
      (Core.rectCore (identMat 2) [1, 1] (1/2) 3 (fun _ => ⟨[], []⟩) exBoxes 2).P = true := by
  suffices h : _ ∧ _ ∧
      (Core.rectCore (identMat 2) [1, 1] (1/2) 3 (fun _ => ⟨[], []⟩) exBoxes 2).S = [] ∧
      Core.pavebaPremise (Core.Box.wfB 2) Core.Box.mem 3 _ _ _ exBoxes exMu 2 = true by
    refine ⟨h.1, h.2.1, ?_⟩
    apply paveba_rect_end_to_end (identMat 2) [1, 1] (1/2) 2 3 exMu
    · decide
    · exact ⟨[1, 0], by decide, 1, by decide, by decide⟩
    · decide
    · norm_num
    · decide
    · rfl
    · exact ⟨0, by decide +kernel⟩
    · decide +kernel
    · exact Core.pavebaPremise_spec _ _ 3 _ _ _ exBoxes exMu 2 h.2.2.2
    · exact h.2.2.1
  decide +kernel

/-- `auer_box_end_to_end`: displayed boxes `[μ − 1/4, μ + 1/4]`, `ε = 1/2`: one round, design 0
eliminated, designs 1 and 2 in `P`. -/
example :
    Core.auerUniformCore 3 (1/2) (fun _ => exMu) (fun _ _ => 1/4) 1 = ([], [1, 2]) ∧
    accA (identMat 2) 3 exMu (Core.auerUniformCore 3 (1/2) (fun _ => exMu) (fun _ _ => 1/4) 1).2 = true ∧
    accB (identMat 2) (ones 2) (1/2) 3 exMu
      (Core.auerUniformCore 3 (1/2) (fun _ => exMu) (fun _ _ => 1/4) 1).2 = true := by
  have hrun : Core.auerUniformCore 3 (1/2) (fun _ => exMu) (fun _ _ => 1/4) 1 = ([], [1, 2]) := by
    decide +kernel
  refine ⟨hrun, ?_⟩
  apply auer_box_end_to_end 2 3 (by norm_num) (1/2) (by norm_num) exMu
  · decide +kernel
  · intro r hr
    obtain rfl : r = 0 := by omega
    decide +kernel
  · exact congrArg Prod.fst hrun

/-! ## real true means -/

/-- **C01 for PaVeBa with real true means.**  `paveba_ball_end_to_end` for true means that are arbitrary
*real* vectors `μ i : Fin m → ℝ` (the displayed balls are rational data — floats — given by their
coordinate functions `c r i`, radii `a r i`; every well-formed list input has this form,
`C09.vec_wellformed`).  If in every round the true mean of every refreshed design lies in its displayed
ball (`‖μ_i − c_r(i)‖² ≤ a_r(i)²`, `a_r(i) > 0`) and `S = ∅` after round `T` of the executable core, then
(a) every design outside `P` is dominated by a member of `P` and (b) `m(i,j) ≤ ε` for `i ∈ P` — over `ℝ`.
C09 and C10 are statements about the real points of the regions, so no rationality is needed. -/
theorem paveba_ball_end_to_end_real {m N : ℕ} (W : Fin N → Fin m → ℚ) (alpha : Fin N → ℚ) (eps : ℚ)
    (K : ℕ) (mu : ℕ → Fin m → ℝ) (hWne : ∃ n d, W n d ≠ 0) (heps : 0 < eps) (hal : ∀ n, 0 < alpha n)
    (init : ℕ → Core.Ball) (c : ℕ → ℕ → Fin m → ℚ) (a : ℕ → ℕ → ℚ) (T : ℕ)
    (hvalid : ∀ r, r < T → ∀ i,
      (i ∈ (Core.ballCore (toMat W) (toVec alpha) eps K init (fun r i => ⟨toVec (c r i), a r i⟩) r).S ∨
        i ∈ (Core.ballCore (toMat W) (toVec alpha) eps K init (fun r i => ⟨toVec (c r i), a r i⟩) r).U) →
      0 < a r i ∧ ∑ d, (mu i d - (c r i d : ℝ)) ^ 2 ≤ (a r i : ℝ) ^ 2)
    (hfinal : (Core.ballCore (toMat W) (toVec alpha) eps K init (fun r i => ⟨toVec (c r i), a r i⟩) T).S = []) :
    (∀ i, i < K →
      i ∉ (Core.ballCore (toMat W) (toVec alpha) eps K init (fun r i => ⟨toVec (c r i), a r i⟩) T).P →
      ∃ j ∈ (Core.ballCore (toMat W) (toVec alpha) eps K init (fun r i => ⟨toVec (c r i), a r i⟩) T).P,
        ∀ n, 0 ≤ ∑ d, (W n d : ℝ) * (mu j d - mu i d)) ∧
    (∀ i ∈ (Core.ballCore (toMat W) (toVec alpha) eps K init (fun r i => ⟨toVec (c r i), a r i⟩) T).P,
      ∀ j, j < K →
        ∃ n, max 0 (∑ d, (W n d : ℝ) * (mu j d - mu i d)) / (alpha n : ℝ) ≤ (eps : ℝ)) := by
  obtain ⟨n, _, _⟩ := id hWne
  have hos := Core.ball_oracleSound_real W hWne fun n => eps * alpha n
  rw [← Core.smul_toVec] at hos
  have hinv := Core.pavebaCore_cinv hos (Core.truth_real W _ K mu ⟨n, mul_pos heps (hal n)⟩) init
    (fun r i => ⟨toVec (c r i), a r i⟩) T (fun r hr i hi =>
      ⟨⟨toVec_length _, (hvalid r hr i hi).1⟩, c r i, rfl, (hvalid r hr i hi).1.le, (hvalid r hr i hi).2⟩)
  exact Core.real_conclusions W _ alpha eps heps.le hal (fun _ => le_refl _) hinv.sets hfinal

/-- **C01 for the rectangular variants with real true means** (`N = m` facets, as the slack vector
`ε·α` must have `m` entries): as `paveba_rect_end_to_end`, conclusion (b) under the side condition
`W·(εα) ≤ εα`. -/
theorem paveba_rect_end_to_end_real {m : ℕ} (W : Fin m → Fin m → ℚ) (alpha : Fin m → ℚ) (eps : ℚ)
    (K : ℕ) (mu : ℕ → Fin m → ℝ) (hWne : ∃ n d, W n d ≠ 0) (heps : 0 ≤ eps) (hal : ∀ n, 0 < alpha n)
    (hpos : ∃ n, 0 < ∑ d, W n d * (eps * alpha d))
    (hside : ∀ n, ∑ d, W n d * (eps * alpha d) ≤ eps * alpha n)
    (init : ℕ → Core.Box) (l u : ℕ → ℕ → Fin m → ℚ) (T : ℕ)
    (hvalid : ∀ r, r < T → ∀ i,
      (i ∈ (Core.rectCore (toMat W) (toVec alpha) eps K init (fun r i => ⟨toVec (l r i), toVec (u r i)⟩) r).S ∨
        i ∈ (Core.rectCore (toMat W) (toVec alpha) eps K init (fun r i => ⟨toVec (l r i), toVec (u r i)⟩) r).U) →
      (∀ d, l r i d < u r i d) ∧ ∀ d, (l r i d : ℝ) ≤ mu i d ∧ mu i d ≤ (u r i d : ℝ))
    (hfinal : (Core.rectCore (toMat W) (toVec alpha) eps K init
      (fun r i => ⟨toVec (l r i), toVec (u r i)⟩) T).S = []) :
    (∀ i, i < K →
      i ∉ (Core.rectCore (toMat W) (toVec alpha) eps K init (fun r i => ⟨toVec (l r i), toVec (u r i)⟩) T).P →
      ∃ j ∈ (Core.rectCore (toMat W) (toVec alpha) eps K init (fun r i => ⟨toVec (l r i), toVec (u r i)⟩) T).P,
        ∀ n, 0 ≤ ∑ d, (W n d : ℝ) * (mu j d - mu i d)) ∧
    (∀ i ∈ (Core.rectCore (toMat W) (toVec alpha) eps K init (fun r i => ⟨toVec (l r i), toVec (u r i)⟩) T).P,
      ∀ j, j < K →
        ∃ n, max 0 (∑ d, (W n d : ℝ) * (mu j d - mu i d)) / (alpha n : ℝ) ≤ (eps : ℝ)) := by
  have hinv := Core.pavebaCore_cinv
    (Core.rect_oracleSound_real W hWne (smul eps (toVec alpha)) (fun d => eps * alpha d)
      (by rw [Core.smul_toVec]; exact Core.expandSlack_self m _ (toVec_length _)))
    (Core.truth_real W _ K mu hpos) init (fun r i => ⟨toVec (l r i), toVec (u r i)⟩) T
    (fun r hr i hi => by
      obtain ⟨h1, h2⟩ := hvalid r hr i hi
      refine ⟨(Core.Box.wfB_iff m _).2 ⟨toVec_length _, toVec_length _, fun d hd1 hd2 => ?_⟩,
        l r i, u r i, rfl, h2⟩
      rw [Core.getElem_toVec, Core.getElem_toVec]
      exact h1 _)
  exact Core.real_conclusions W _ alpha eps heps hal hside hinv.sets hfinal

/-! ### non-vacuity of the real-valued statements (the scenario of the examples above, means cast to `ℝ`) -/

private def rMu : ℕ → Fin 2 → ℚ := fun i => if i = 0 then ![0, 0] else if i = 1 then ![2, 2] else ![2, 9/4]

/-- `paveba_ball_end_to_end_real` applies: the core run ends with `P = {1,2}`, and conclusion (a) for
design 0 follows over `ℝ`. -/
example :
    (Core.ballCore (toMat ![![1, 0], ![0, 1]]) (toVec ![1, 1]) (1/2) 3 (fun _ => ⟨[], 0⟩)
      (fun r i => ⟨toVec (rMu i), if r = 0 then 2 else 1/4⟩) 2).P = [1, 2] ∧
    ∃ j ∈ (Core.ballCore (toMat ![![1, 0], ![0, 1]]) (toVec ![1, 1]) (1/2) 3 (fun _ => ⟨[], 0⟩)
      (fun r i => ⟨toVec (rMu i), if r = 0 then 2 else 1/4⟩) 2).P,
      ∀ n, 0 ≤ ∑ d, ((![![1, 0], ![0, 1]] : Fin 2 → Fin 2 → ℚ) n d : ℝ) * ((rMu j d : ℝ) - (rMu 0 d : ℝ)) := by
  -- the final `P` and `S = ∅` in one evaluation of the run
  suffices h : _ ∧ (Core.ballCore (toMat ![![1, 0], ![0, 1]]) (toVec ![1, 1]) (1/2) 3 (fun _ => ⟨[], 0⟩)
      (fun r i => ⟨toVec (rMu i), if r = 0 then 2 else 1/4⟩) 2).S = [] by
    refine ⟨h.1, (paveba_ball_end_to_end_real ![![1, 0], ![0, 1]] ![1, 1] (1/2) 3
      (fun i d => (rMu i d : ℝ)) ⟨0, 0, by norm_num⟩ (by norm_num) (by decide) (fun _ => ⟨[], 0⟩)
      (fun _ i => rMu i) (fun r _ => if r = 0 then 2 else 1/4) 2 ?_ h.2).1 0 (by norm_num)
      (by rw [h.1]; decide)⟩
    intro r _ i _
    refine ⟨by split_ifs <;> norm_num, ?_⟩
    simp only [sub_self, ne_eq, OfNat.ofNat_ne_zero, not_false_eq_true, zero_pow, Finset.sum_const_zero]
    exact sq_nonneg _
  decide +kernel

/-- `paveba_rect_end_to_end_real` applies to the box scenario. -/
example :
    ∃ j ∈ (Core.rectCore (toMat ![![1, 0], ![0, 1]]) (toVec ![1, 1]) (1/2) 3 (fun _ => ⟨[], []⟩)
      (fun r i => ⟨toVec (fun d => rMu i d - (if r = 0 then 2 else 1/8)),
        toVec (fun d => rMu i d + (if r = 0 then 2 else 1/8))⟩) 2).P,
      ∀ n, 0 ≤ ∑ d, ((![![1, 0], ![0, 1]] : Fin 2 → Fin 2 → ℚ) n d : ℝ) * ((rMu j d : ℝ) - (rMu 0 d : ℝ)) := by
  -- `S = ∅` after round 2 and `0 ∉ P` in one evaluation of the run
  suffices h : _ ∧ _ by
    refine (paveba_rect_end_to_end_real ![![1, 0], ![0, 1]] ![1, 1] (1/2) 3 (fun i d => (rMu i d : ℝ))
      ⟨0, 0, by norm_num⟩ (by norm_num) (by decide) ⟨0, by decide +kernel⟩ (by decide +kernel)
      (fun _ => ⟨[], []⟩) (fun r i d => rMu i d - (if r = 0 then 2 else 1/8))
      (fun r i d => rMu i d + (if r = 0 then 2 else 1/8)) 2 ?_ h.1).1 0 (by norm_num) h.2
    intro r _ i _
    have hw : (0 : ℚ) < if r = 0 then 2 else 1/8 := by split_ifs <;> norm_num
    exact ⟨fun d => (sub_lt_self _ hw).trans (lt_add_of_pos_right _ hw),
      fun d => ⟨Rat.cast_le.2 (sub_le_self _ hw.le), Rat.cast_le.2 (le_add_of_nonneg_right hw.le)⟩⟩
  decide +kernel

end VOPy.C01

/-! # INVARIANCE — translation twins of whole runs

`translation_twin_check` of the harness runs every history a second time with all values translated by
a large common vector and demands the identical trajectory `(S, P, U)`.  Stated once for the model: the
rounds consult their oracles only on the designs `0 … K−1`, so two runs whose oracles agree there are
identical; for the executable core it suffices that the two geometry predicates are invariant under
the transformation of the regions (the invariance theorems of C09 / C10 / C11); Auer's rules are
computed from differences of centres inside `Steps.lean` and are invariant outright. -/
namespace VOPy.C01
open VOPy VOPy.Steps VOPy.Accuracy

/-- **Twin runs of the PaVeBa family.**  If the oracles of two runs agree on all pairs of designs `< K`
in every round `< T` (e.g. because the geometry predicates are translation invariant and the second
run displays the translated regions), the trajectories `(S, P, U)` are identical up to round `T`. -/
theorem paveba_translation_twin (K : Nat) (isDom isDom' isCov isCov' : Nat → Rel) (T : Nat)
    (h : ∀ r, r < T → ∀ i, i < K → ∀ j, j < K →
      isDom' r i j = isDom r i j ∧ isCov' r i j = isCov r i j) :
    ∀ t, t ≤ T → pavebaRun K isDom' isCov' t = pavebaRun K isDom isCov t :=
  pavebaRun_congr K isDom isDom' isCov isCov' T h

/-- **Twin runs of the executable core.**  Let `Tr` transform regions (a translation by a common
vector, say) and let the two computed oracles be invariant under `Tr` on well-formed regions (`ok`).
Then the core on the transformed displayed regions visits the same `(S, P, U)` in every round. -/
theorem paveba_core_translation_twin {ρ : Type} (Tr : ρ → ρ) (ok : ρ → Prop) (dom cov : ρ → ρ → Bool)
    (hd : ∀ a b, ok a → ok b → dom (Tr a) (Tr b) = dom a b)
    (hc : ∀ a b, ok a → ok b → cov (Tr a) (Tr b) = cov a b)
    (K : Nat) (init : Nat → ρ) (fresh : Nat → Nat → ρ)
    (hinit : ∀ i, ok (init i)) (hfresh : ∀ r i, ok (fresh r i)) (t : Nat) :
    (Core.pavebaCore K dom cov (fun i => Tr (init i)) (fun r i => Tr (fresh r i)) t).S =
      (Core.pavebaCore K dom cov init fresh t).S ∧
    (Core.pavebaCore K dom cov (fun i => Tr (init i)) (fun r i => Tr (fresh r i)) t).P =
      (Core.pavebaCore K dom cov init fresh t).P ∧
    (Core.pavebaCore K dom cov (fun i => Tr (init i)) (fun r i => Tr (fresh r i)) t).U =
      (Core.pavebaCore K dom cov init fresh t).U := by
  obtain ⟨h1, h2, h3, _, _⟩ := Core.pavebaCore_map Tr ok dom cov hd hc K init fresh hinit hfresh t
  exact ⟨h1, h2, h3⟩

/-- **Auer's trajectory is translation invariant** — no hypothesis about oracles: for centres of the
designs `< K` of the length of `t`, translating every displayed centre by `t` (widths untouched) gives
the identical `(S, P)` in every round: `m(i,j)` and `M(i,j)` see differences of centres only. -/
theorem auer_translation_twin (K : Nat) (eps : Rat) (centre width : Nat → Nat → Vec) (t : Vec) (T : Nat)
    (h : ∀ r, r < T → ∀ i, i < K → (centre r i).length = t.length) :
    ∀ k, k ≤ T →
      auerRun K eps (fun r i => vadd (centre r i) t) width k = auerRun K eps centre width k :=
  auerRun_translate K eps centre width t T h

/-- non-vacuity: the Auer example above next to the offset `(2^20, −2^20)` — evaluated, and as an
instance of the theorem -/
example :
    auerRun 3 (1/2) (fun _ i => vadd (exMu i) [1048576, -1048576]) (fun _ _ => [1/4, 1/4]) 1 = ([], [1, 2]) ∧
    auerRun 3 (1/2) (fun _ i => vadd (exMu i) [1048576, -1048576]) (fun _ _ => [1/4, 1/4]) 1 =
      auerRun 3 (1/2) (fun _ => exMu) (fun _ _ => [1/4, 1/4]) 1 :=
  ⟨by decide +kernel,
   auer_translation_twin 3 (1/2) (fun _ => exMu) (fun _ _ => [1/4, 1/4]) [1048576, -1048576] 1
     (by decide) 1 (le_refl _)⟩

/-- non-vacuity of `paveba_translation_twin`: oracles that differ from `exDom` / `exCov` only outside
the designs `0, 1, 2` give the same run -/
example :
    pavebaRun 3 (fun r i j => exDom r i j || decide (3 ≤ i)) (fun r i j => exCov r i j && decide (j < 3)) 1 =
      pavebaRun 3 exDom exCov 1 :=
  paveba_translation_twin 3 exDom _ exCov _ 1
    (fun r _ i hi j hj => by
      have h1 : decide (3 ≤ i) = false := by simp; omega
      have h2 : decide (j < 3) = true := by simp; omega
      simp [h1, h2]) 1 (le_refl _)

end VOPy.C01
