import VOPyVerif.Proofs.EvalF1
import VOPyVerif.Proofs.EvalCast
import VOPyVerif.Proofs.EvalHV
import VOPyVerif.Proofs.EvalF1Invariance
import Mathlib.Analysis.Real.Sqrt
/-!
# C19 — gaps, ε-coverage and ε-F1 agree with their geometric definitions

Property theorems only (helper lemmas: `Proofs/Eval.lean`, `Proofs/EvalCover.lean`,
`Proofs/EvalF1.lean`, `Proofs/EvalCast.lean`, `Proofs/EvalHV.lean`).  They are about the executable model
`Model/Eval.lean` that the driver runs against `get_smallmij`, `get_delta`, `is_covered`,
`get_uncovered_set/size` and `calculate_epsilonF1_score`.

Conventions.  Vectors are lists; `gdot` is the dot product, so `gdot u u ≤ 1` is `‖u‖² ≤ 1`
(equivalently `‖u‖ ≤ 1`) and `gdot z z ≤ ε * ε` is `‖z‖ ≤ ε` for `ε ≥ 0` (`isCoveredPt_iff_norm`
states the latter with a real square root).  `K` is any linearly ordered field: `ℝ` for the
geometric statements (the cone constants `α_n` are irrational in general), `ℚ` for what the driver
evaluates — the gap formula is *the same term* at every `K`.

NOTE (genuine defect found through the correspondence check, see the harness key
`gap-alpha-broadcast`): the theorems about `smallM`/`delta` describe `get_smallmij` with a flat
`alpha_vec`.  With the documented `(N,1)` column the code evaluates `smallMB` instead
(`min_k relu(w_k·d) / max_n α_n`), which `smallMB_le_smallM` shows to be a lower bound of the gap, equal
to it when all `α_n` coincide.
-/
namespace VOPy.C19
open VOPy VOPy.Eval

section Gap
variable {K : Type} [Field K] [LinearOrder K] [IsStrictOrderedRing K]

/-- **The gap formula is the largest admissible uniform shift.**  Let `W` be the cone matrix with
rows of dimension `D`, and let every `α_n` be the positive, attained maximum of `w_n · u` over the
unit vectors `u` of the cone (`IsAlpha`, what C17 certifies).  Then the value `M` returned by
`smallM vi vj W α` (`= min_n max(0, w_n·(vj − vi)) / α_n`, the flat-α `get_smallmij`) is the greatest
element of `{0} ∪ {s ≥ 0 | ∀ u ∈ C, ‖u‖ ≤ 1 → (vj − vi) − s·u ∈ C}`: it is the largest `s` such that `vj`
dominates `vi` shifted by `s` along **every** unit direction of the cone, and `0` when there is no such
`s` (i.e. when `vj` does not dominate `vi`). -/
theorem smallM_is_gap (vi vj : List K) (W : List (List K)) (α : List K) (D : Nat) (M : K)
    (hvi : vi.length = D) (hvj : vj.length = D)
    (hα : List.Forall₂ (IsAlpha W D) W α)
    (h : smallM vi vj W α = some M) :
    IsGreatest {s : K | s = 0 ∨ (0 ≤ s ∧ Shift W D (gsub vj vi) s)} M := by
  have hα' : ∀ p ∈ W.zip α, IsAlpha W D p.1 p.2 := fun _ hp => (List.forall₂_iff_zip.mp hα).2 hp
  have hpos : ∀ p ∈ W.zip α, 0 < p.2 := fun p hp => (hα' p hp).1
  have hd : (gsub vj vi).length = D := by rw [gsub, List.length_zipWith, hvi, hvj, Nat.min_self]
  have hM0 := smallM_nonneg h hpos
  by_cases hin : InCone W (gsub vj vi)
  · refine ⟨Or.inr ⟨hM0, (shift_iff_le_smallM h hα' hd hin hM0).mpr le_rfl⟩, ?_⟩
    rintro s (rfl | ⟨hs, hshift⟩)
    · exact hM0
    · exact (shift_iff_le_smallM h hα' hd hin hs).mp hshift
  · obtain ⟨hM, hno⟩ := smallM_of_not_inCone h hpos hd hin
    refine ⟨Or.inl hM, ?_⟩
    rintro s (rfl | ⟨_, hshift⟩)
    · exact hM0
    · exact absurd hshift (hno s)

/-- non-vacuity: the positive orthant of `ℚ²` (both `α_n = 1`, attained at the unit vectors),
`vi = (0,0)`, `vj = (1,3)`: the gap is `min(1/1, 3/1) = 1` -/
example : IsGreatest {s : ℚ | s = 0 ∨ (0 ≤ s ∧ Shift [[1,0],[0,1]] 2 (gsub [1,3] [0,0]) s)} 1 :=
  smallM_is_gap [0,0] [1,3] [[1,0],[0,1]] [1,1] 2 1 rfl rfl isAlpha_orthant2 (by decide +kernel)

/-- **Both directions, explicitly.**  When `vj − vi ∈ C`, a non-negative `s` is an admissible uniform
shift if and only if `s ≤ smallM` (necessity: test on the unit vectors attaining `α_n`; sufficiency:
`w_n·u ≤ α_n`). -/
theorem smallM_shift_iff (vi vj : List K) (W : List (List K)) (α : List K) (D : Nat) (M s : K)
    (hvi : vi.length = D) (hvj : vj.length = D)
    (hα : List.Forall₂ (IsAlpha W D) W α)
    (h : smallM vi vj W α = some M) (hin : InCone W (gsub vj vi)) (hs : 0 ≤ s) :
    Shift W D (gsub vj vi) s ↔ s ≤ M :=
  shift_iff_le_smallM h (fun _ hp => (List.forall₂_iff_zip.mp hα).2 hp)
    (by rw [gsub, List.length_zipWith, hvi, hvj, Nat.min_self]) hin hs

/-- `smallM` is defined (numpy does not raise) exactly for a non-empty `W` with one `α` per row. -/
theorem smallM_defined_iff (vi vj : List K) (W : List (List K)) (α : List K) :
    (∃ M, smallM vi vj W α = some M) ↔ α.length = W.length ∧ W ≠ [] := by
  constructor
  · rintro ⟨M, h⟩
    obtain ⟨hlen, ⟨p, hp, _⟩, _⟩ := smallM_spec h
    refine ⟨hlen, ?_⟩
    rintro rfl
    simp at hp
  · rintro ⟨h1, h2⟩
    exact smallM_isSome vi vj W α h1 h2

/-- **Zero gap.**  For positive `α`, the `i`-th entry of `get_delta` is `0` if and only if no design
`vj` of the value set dominates `vi` in the interior of the cone (`W (vj − vi) > 0` facet-wise);
entries are never negative. -/
theorem delta_zero_iff (mu W : List (List K)) (α ds : List K) (hα : ∀ a ∈ α, 0 < a)
    (h : delta mu W α = some ds) (i : Nat) (vi : List K) (hi : mu[i]? = some vi) :
    ∃ d, ds[i]? = some d ∧ 0 ≤ d ∧ (d = 0 ↔ ∀ vj ∈ mu, ¬ InInterior W (gsub vj vi)) := by
  obtain ⟨d, hd, hrow⟩ := deltaWith_getElem? h hi
  exact ⟨d, hd, (deltaRowWith_spec hrow).1, deltaRowWith_eq_zero_iff _ W
    (fun vj m hm => smallM_pos_iff hm fun p hp => hα p.2 (List.of_mem_zip hp).2) hrow⟩

/-- non-vacuity: three designs under the componentwise order; only `(0,0)` has a positive gap -/
example : delta (K := ℚ) [[0,0],[1,3],[2,1]] [[1,0],[0,1]] [1,1] = some [1,0,0] := by decide +kernel

/-- **`Δ_i` is the largest pairwise gap.**  Each entry of `get_delta` is an upper bound of all
`m(i,j)` (`j = i` included) and is either `0` or one of them. -/
theorem delta_is_max (mu W : List (List K)) (α ds : List K)
    (h : delta mu W α = some ds) (i : Nat) (vi : List K) (hi : mu[i]? = some vi) :
    ∃ d, ds[i]? = some d ∧ (d = 0 ∨ ∃ vj ∈ mu, smallM vi vj W α = some d) ∧
      ∀ vj ∈ mu, ∃ m, smallM vi vj W α = some m ∧ m ≤ d := by
  obtain ⟨d, hd, hrow⟩ := deltaWith_getElem? h hi
  exact ⟨d, hd, (deltaRowWith_spec hrow).2⟩

/-- **The suboptimality gap of a design.**  With attained cone constants `α` (as in `smallM_is_gap`)
and a value set of `D`-vectors, the `i`-th entry of `get_delta` is the greatest element of
`{0} ∪ {s ≥ 0 | ∃ design vj, ∀ u ∈ C, ‖u‖ ≤ 1 → (vj − vi) − s·u ∈ C}`: the largest `s` such that **some**
design dominates `vi` shifted by `s` along every unit direction of the cone (`0` if there is none). -/
theorem delta_is_gap (mu W : List (List K)) (α ds : List K) (D : Nat)
    (hmu : ∀ v ∈ mu, v.length = D) (hα : List.Forall₂ (IsAlpha W D) W α)
    (h : delta mu W α = some ds) (i : Nat) (vi : List K) (hi : mu[i]? = some vi) :
    ∃ d, ds[i]? = some d ∧
      IsGreatest {s : K | s = 0 ∨ (0 ≤ s ∧ ∃ vj ∈ mu, Shift W D (gsub vj vi) s)} d := by
  obtain ⟨d', hd, hrow⟩ := deltaWith_getElem? h hi
  obtain ⟨hd0, hmax, hub⟩ := deltaRowWith_spec hrow
  have hvi : vi.length = D := hmu vi (List.mem_of_getElem? hi)
  refine ⟨d', hd, ?_, ?_⟩
  · rcases hmax with h0 | ⟨vj, hvj, hsm⟩
    · exact Or.inl h0
    · have hg := (smallM_is_gap vi vj W α D d' hvi (hmu vj hvj) hα hsm).1
      rcases hg with h0 | ⟨h1, h2⟩
      · exact Or.inl h0
      · exact Or.inr ⟨h1, vj, hvj, h2⟩
  · rintro s (rfl | ⟨hs, vj, hvj, hshift⟩)
    · exact hd0
    · obtain ⟨m, hm, hle⟩ := hub vj hvj
      have hg := (smallM_is_gap vi vj W α D m hvi (hmu vj hvj) hα hm).2
      exact (hg (Or.inr ⟨hs, hshift⟩)).trans hle

/-- **What the code computes with the documented `(N,1)` `alpha_vec`** (`smallMB`, numpy broadcast of
`(N,) / (N,1)`): the minimum of the whole table `max(0, w_k·d) / α_n`.  It never exceeds the gap
`smallM`, … -/
theorem smallMB_le_smallM (vi vj : List K) (W : List (List K)) (α : List K) (B M : K)
    (hB : smallMB vi vj W α = some B) (hM : smallM vi vj W α = some M) : B ≤ M :=
  Eval.smallMB_le_smallM hB hM

/-- … equals it whenever all `α_n` coincide (which is why the defect is invisible for the orthant and
the symmetric bundled cones), … -/
theorem smallMB_eq_smallM_of_equal_alpha (vi vj : List K) (W : List (List K)) (α : List K)
    (B M a0 : K) (hB : smallMB vi vj W α = some B) (hM : smallM vi vj W α = some M)
    (hconst : ∀ a ∈ α, a = a0) : B = M :=
  Eval.smallMB_eq_smallM_of_const hB hM hconst

/-- … and is positive on exactly the same pairs (so `Δ_i = 0` is decided correctly either way). -/
theorem smallMB_pos_iff_smallM_pos (vi vj : List K) (W : List (List K)) (α : List K) (B M : K)
    (hα : ∀ a ∈ α, 0 < a) (hB : smallMB vi vj W α = some B) (hM : smallM vi vj W α = some M) :
    0 < B ↔ 0 < M := by
  rw [Eval.smallMB_pos_iff hB hα, smallM_pos_iff hM fun p hp => hα p.2 (List.of_mem_zip hp).2]

/-- the defect on a concrete input: `W = diag(1,2)` has `α = (1,2)`; gap `1`, broadcast value `1/2` -/
example : smallM (K := ℚ) [0,0] [1,6] [[1,0],[0,2]] [1,2] = some 1 ∧
    smallMB (K := ℚ) [0,0] [1,6] [[1,0],[0,2]] [1,2] = some (1/2) := by decide +kernel

/-- **What the driver evaluates is the real formula.**  The driver runs `smallM` over `ℚ` on the
exported floats; casting its answer into any ordered field `K` (ℝ) gives `smallM` evaluated over `K` on
the cast inputs — the same term `smallM_is_gap` speaks about — and one is defined iff the other is.
Likewise for the entries `Δ_i` of `get_delta`. -/
theorem smallM_cast_commutes (vi vj : Vec) (W : Mat) (α : Vec) :
    (smallM (K := Rat) vi vj W α).map (fun q : Rat => (q : K)) =
      smallM (castV vi) (castV vj) (castM W) (castV α) ∧
    ∀ mu : Mat, (deltaRow (K := Rat) vi mu W α).map (fun q : Rat => (q : K)) =
      deltaRow (castV vi) (castM mu) (castM W) (castV α) :=
  ⟨smallM_cast vi vj W α, fun mu => deltaRow_cast vi mu W α⟩

end Gap

section Cover
variable {K : Type} [Field K] [LinearOrder K] [IsStrictOrderedRing K]

/-- **KKT checker soundness.**  If `checkKKT D W b y lam` accepts (feasible `y`, `lam ≥ 0`,
`y = Σ lam_n w_n`, complementary slackness), then `y` is a point of the polyhedron `{z | W z ≥ b}` and
no point `z` of it — with entries in any ordered field, ℝ included — has smaller norm:
`‖y‖² ≤ ‖z‖²`. -/
theorem kkt_checker_sound (D : Nat) (W : Mat) (b y lam : Vec) (h : checkKKT D W b y lam = true) :
    FeasK (K := K) W b (castV y) ∧
    ∀ z : List K, z.length = D → FeasK W b z → ((gdot y y : Rat) : K) ≤ gdot z z :=
  ⟨(checkKKT_sound D W b y lam h).1, fun z _ hz => (checkKKT_sound D W b y lam h).2 z hz⟩

/-- non-vacuity: the certificate of the acute-cone example below (`b = (3,0)`, both rows active) -/
example : checkKKT 2 [[2,-1],[-1,2]] [3,0] [2,1] [5/3,4/3] = true := by decide +kernel

/-- **Farkas checker soundness.**  If `checkFarkas D W b lam` accepts, `{z | W z ≥ b}` is empty. -/
theorem farkas_checker_sound (D : Nat) (W : Mat) (b lam : Vec) (h : checkFarkas D W b lam = true) :
    ¬ ∃ z : List K, z.length = D ∧ FeasK W b z :=
  fun ⟨z, _, hz⟩ => checkFarkas_sound D W b lam h z hz

/-- **ε-coverage is decided exactly.**  Whenever the model's `isCoveredPt vi vj ε W` returns a verdict
`b` (i.e. the untrusted search produced a certificate that the checker accepted) and `ε ≥ 0`, then
`b = true` if and only if some cone vector `z` with `‖z‖² ≤ ε²` added to `vj` dominates `vi`
(`vj + z − vi ∈ C`) — the quantifier ranging over vectors with entries in `K` (ℝ included). -/
theorem isCoveredPt_iff_covered (vi vj : Vec) (ε : Rat) (W : Mat) (b : Bool) (hε : 0 ≤ ε)
    (h : isCoveredPt vi vj ε W = some b) :
    b = true ↔ Covered (K := K) W vi vj (ε : K) := by
  unfold isCoveredPt at h
  cases hc : coverSolve vi vj W with
  | dist2 d2 y lam =>
    simp only [hc, Option.some.injEq] at h
    rw [covered_iff_of_dist2 hc, ← h]
    simp [hε]
  | infeasible lam =>
    simp only [hc, Option.some.injEq] at h
    subst h
    simp only [Bool.false_eq_true, false_iff]
    exact not_covered_of_infeasible hc _
  | unknown => simp [hc] at h

/-- non-vacuity: acute cone, `vi − vj = (1,−1)`: the certified squared distance is `5`
(`y = (2,1)`, multipliers `(5/3, 4/3)`), so `ε = 2` does not cover and `ε = 9/4` does; a cone with empty
interior gives a certified "infeasible" -/
example : isCoveredPt [1,0] [0,1] 2 [[2,-1],[-1,2]] = some false ∧
    isCoveredPt [1,0] [0,1] (9/4) [[2,-1],[-1,2]] = some true ∧
    isCoveredPt [1,0] [0,1] 100 [[1,0],[-1,0]] = some false := by decide +kernel

/-- The same with a genuine Euclidean norm over ℝ: `isCoveredPt = true` iff
`∃ z ∈ C, ‖z‖ ≤ ε ∧ vj + z − vi ∈ C`, with `‖z‖ = √(z·z)`. -/
theorem isCoveredPt_iff_norm (vi vj : Vec) (ε : Rat) (W : Mat) (b : Bool) (hε : 0 ≤ ε)
    (h : isCoveredPt vi vj ε W = some b) :
    b = true ↔ ∃ z : List ℝ, z.length = vi.length ∧ InCone (castM W) z ∧
      Real.sqrt (gdot z z) ≤ (ε : ℝ) ∧ InCone (castM W) (gsub (gadd (castV vj) z) (castV vi)) := by
  rw [isCoveredPt_iff_covered (K := ℝ) vi vj ε W b hε h]
  have hεR : (0 : ℝ) ≤ (ε : ℝ) := by exact_mod_cast hε
  unfold Covered
  constructor
  · rintro ⟨z, h1, h2, h3, h4⟩
    refine ⟨z, h1, h2, ?_, h4⟩
    rw [Real.sqrt_le_iff]; exact ⟨hεR, by rw [sq]; exact h3⟩
  · rintro ⟨z, h1, h2, h3, h4⟩
    refine ⟨z, h1, h2, ?_, h4⟩
    rw [Real.sqrt_le_iff, sq] at h3; exact h3.2

/-- The verdict (and whether there is one) comes from a squared distance that does not depend on
ε, so coverage is monotone in ε. -/
theorem isCoveredPt_monotone (vi vj : Vec) (W : Mat) (ε ε' : Rat) (h0 : 0 ≤ ε) (hle : ε ≤ ε')
    (h : isCoveredPt vi vj ε W = some true) : isCoveredPt vi vj ε' W = some true :=
  isCoveredPt_mono h0 hle h

/-- **ε = 0 is plain domination.**  With `ε = 0` a verdict of `isCoveredPt vi vj 0 W` is `true`
exactly when `vj` dominates `vi` in the sense of `PolyhedralConeOrder.dominates` (the Boolean
`dominates` of C12/C13). -/
theorem isCoveredPt_zero_iff_dominates (vi vj : Vec) (W : Mat) (b : Bool)
    (h : isCoveredPt vi vj 0 W = some b) : b = true ↔ dominates W vj vi = true := by
  have hlen : vj.length = vi.length := by
    have hspec := coverSolve_spec vi vj W
    unfold isCoveredPt at h
    cases hc : coverSolve vi vj W with
    | dist2 d2 y lam => rw [hc] at hspec; exact hspec.1
    | infeasible lam => rw [hc] at hspec; exact hspec.1
    | unknown => simp [hc] at h
  rw [isCoveredPt_iff_covered (K := Rat) vi vj 0 W b le_rfl h, Rat.cast_zero,
    covered_zero_iff W vi vj hlen, castM_rat, castV_rat, castV_rat, dominates_iff_rat]

/-- **`get_uncovered_set` / `get_uncovered_size`.**  When every coverage question has a verdict
`c i j`, the loop with its `break` returns exactly the members of `P` (in order, with repetitions) that
no member of `P̂` covers, and the size routine returns their number. -/
theorem uncoveredSet_spec {α β : Type} (cov : α → β → Option Bool) (c : α → β → Bool)
    (P : List α) (hat : List β) (h : ∀ i ∈ P, ∀ j ∈ hat, cov i j = some (c i j)) :
    uncoveredSet cov P hat = some (P.filter (fun i => !hat.any (c i))) ∧
    uncoveredSize cov P hat = some (P.filter (fun i => !hat.any (c i))).length := by
  have := uncoveredSet_total cov c P hat h
  exact ⟨this, by simp [uncoveredSize, this]⟩

end Cover

section F1

/-- **Range.**  Whatever gap vector is used (`f1` = geometric gaps, `f1B` = the code's present
broadcast gaps, both are `f1FromDelta` of some vector), a defined ε-F1 score lies in `[0, 1]`. -/
theorem f1_range (mu W : Mat) (ds : Option Vec) (truth pred : List Nat) (ε q : Rat)
    (h : f1FromDelta mu W ds truth pred ε = .val q) : 0 ≤ q ∧ q ≤ 1 := by
  cases ds with
  | none => simp [f1FromDelta] at h
  | some ds =>
    obtain ⟨c, _, hq⟩ := (f1FromDelta_val_iff mu W ds truth pred ε q).mp h
    exact f1Of_range hq

/-- non-vacuity / instance: the score of the code path (`f1B`) on a three-design example -/
example : f1B [[0,0],[1,3],[2,1]] [[1,0],[0,1]] [1,1] [1,2] [1] 0 = .val (2/3) ∧
    (0 : Rat) ≤ 2/3 ∧ (2/3 : Rat) ≤ 1 := by decide +kernel

/-- **Order of the predicted (and of the true) indices is irrelevant.**  Permuting `pred_indices` or
`true_indices` does not change the result (value, `nan`, or undecided alike). -/
theorem f1_perm (mu W : Mat) (ds : Vec) (truth truth' pred pred' : List Nat) (ε : Rat)
    (ht : CovTotal mu W ε truth pred) (hp : pred.Perm pred') (htr : truth.Perm truth') :
    f1FromDelta mu W (some ds) truth pred ε = f1FromDelta mu W (some ds) truth' pred' ε := by
  have ht' : CovTotal mu W ε truth' pred' :=
    fun i hi j hj => ht i (htr.mem_iff.mpr hi) j (hp.mem_iff.mpr hj)
  rw [f1FromDelta_eq _ _ _ _ _ _ ht, f1FromDelta_eq _ _ _ _ _ _ ht', tpT_perm hp, hp.length_eq,
    uncT_perm_pred hp, uncT_perm_truth htr]

/-- **Never decreases as ε grows.**  For `0 ≤ ε ≤ ε'`, if the score at `ε` is the number `q` then the
score at `ε'` is a number `q' ≥ q` (true positives grow, uncovered missed designs shrink). -/
theorem f1_mono (mu W : Mat) (ds : Vec) (truth pred : List Nat) (ε ε' q : Rat)
    (h0 : 0 ≤ ε) (hle : ε ≤ ε') (ht : CovTotal mu W ε truth pred)
    (h : f1FromDelta mu W (some ds) truth pred ε = .val q) :
    ∃ q', f1FromDelta mu W (some ds) truth pred ε' = .val q' ∧ q ≤ q' := by
  have ht' : CovTotal mu W ε' truth pred := fun i hi j hj => by
    rw [← covIdx_isSome_indep mu W ε ε']; exact ht i hi j hj
  rw [f1FromDelta_eq _ _ _ _ _ _ ht, F1Res.ofCounts_eq_val_iff] at h
  obtain ⟨q', hq', hqq⟩ := f1Of_pred_mono truth pred (fun k _ hk => goodIdx_mono hle hk)
    (fun i _ j _ hc => covB_eq_true_iff.mpr (covIdx_mono h0 hle (covB_eq_true_iff.mp hc))) h
  exact ⟨q', by rw [f1FromDelta_eq _ _ _ _ _ _ ht', F1Res.ofCounts_eq_val_iff]; exact hq', hqq⟩

/-- non-vacuity: designs `(0,0), (1,3), (2,1)`, true set `{1,2}`, prediction `[0,1]`: the score goes
`1/2 → 1` between `ε = 1/2` and `ε = 2` (design 0 becomes a true positive, design 2 gets covered) -/
example : CovTotal [[0,0],[1,3],[2,1]] [[1,0],[0,1]] (1/2) [1,2] [0,1] ∧
    f1 [[0,0],[1,3],[2,1]] [[1,0],[0,1]] [1,1] [1,2] [0,1] (1/2) = .val (1/2) ∧
    f1 [[0,0],[1,3],[2,1]] [[1,0],[0,1]] [1,1] [1,2] [0,1] 2 = .val 1 := by
  unfold CovTotal; decide +kernel

/-- **Exactly when the code's formula gives 1.**  The score is `1` iff the prediction is non-empty,
every predicted design has gap at most ε, and every true Pareto design that was not predicted is
ε-covered by a predicted one. -/
theorem f1_eq_one_iff (mu W : Mat) (ds : Vec) (truth pred : List Nat) (ε : Rat)
    (ht : CovTotal mu W ε truth pred) :
    f1FromDelta mu W (some ds) truth pred ε = .val 1 ↔
      pred ≠ [] ∧ (∀ k ∈ pred, goodIdx ds ε k = true) ∧
      ∀ i ∈ truth, i ∉ pred → ∃ j ∈ pred, covIdx mu ε W i j = some true := by
  rw [f1FromDelta_eq _ _ _ _ _ _ ht, F1Res.ofCounts_eq_val_iff, f1Of_eq_one_iff, fp_eq_zero_iff,
    uncT_eq_zero_iff]
  simp only [covB_eq_true_iff]
  refine ⟨fun ⟨hpos, hg, hc⟩ => ⟨?_, hg, hc⟩, fun ⟨hne, hg, hc⟩ => ⟨?_, hg, hc⟩⟩
  · rintro rfl; exact absurd hpos (Nat.lt_irrefl 0)
  · rw [(tpT_eq_length_iff _ pred).mpr hg]; exact List.length_pos_iff.mpr hne

/-- **Score 1 on the true Pareto set.**  Let the gaps be those of the geometric definition
(`delta mu W α`, positive `α`, one per facet), `ε ≥ 0`, and let the non-empty prediction contain every
true index and consist only of designs that no design dominates in the interior of the cone (in
particular: the prediction *is* the true Pareto set, in any order).  Then
`calculate_epsilonF1_score` is `1`. -/
theorem f1_true_pareto_set (mu W : Mat) (α : Vec) (truth pred : List Nat) (ε : Rat)
    (hε : 0 ≤ ε) (hα : ∀ a ∈ α, 0 < a) (hlen : α.length = W.length) (hW : W ≠ [])
    (hne : pred ≠ []) (hsub : ∀ i ∈ truth, i ∈ pred)
    (hpar : ∀ k ∈ pred, ∃ vk, mu[k]? = some vk ∧ ∀ vj ∈ mu, ¬ InInterior W (gsub vj vk)) :
    f1 mu W α truth pred ε = .val 1 := by
  obtain ⟨ds, hds⟩ : ∃ ds, delta mu W α = some ds :=
    deltaWith_isSome (K := Rat) _ mu (fun vi vj => smallM_isSome vi vj W α hlen hW)
  unfold f1
  rw [hds]
  exact f1FromDelta_pareto mu W ds truth pred ε hds
    (fun vi vj m hm => smallM_pos_iff hm fun p hp => hα p.2 (List.of_mem_zip hp).2) hε hne hsub hpar

/-- non-vacuity: the true Pareto set `{1,2}` of `(0,0), (1,3), (2,1)` predicted in the other order -/
example : f1 [[0,0],[1,3],[2,1]] [[1,0],[0,1]] [1,1] [1,2] [2,1] 0 = .val 1 := by
  apply f1_true_pareto_set _ _ _ _ _ _ le_rfl (by decide) rfl (by decide) (by decide) (by decide)
  intro k hk
  simp only [List.mem_cons, List.not_mem_nil, or_false] at hk
  rcases hk with rfl | rfl
  · refine ⟨[2,1], rfl, ?_⟩; unfold InInterior; decide +kernel
  · refine ⟨[1,3], rfl, ?_⟩; unfold InInterior; decide +kernel

/-- **Score 1 when the prediction is the true Pareto set**, stated with Pareto optimality itself: if
the non-empty prediction contains every true index and each predicted design is not strictly dominated
in the value set (`vj ≽ vk → vk ≽ vj` for the Boolean `dominates` — exactly what C13's `fast_spec` proves
for every index returned by `get_pareto_set`), then the ε-F1 score is `1` for every `ε ≥ 0`. -/
theorem f1_of_pareto_prediction (mu W : Mat) (α : Vec) (truth pred : List Nat) (ε : Rat) (D : Nat)
    (hε : 0 ≤ ε) (hα : ∀ a ∈ α, 0 < a) (hlen : α.length = W.length) (hW : W ≠ [])
    (hD : ∀ v ∈ mu, v.length = D) (hne : pred ≠ []) (hsub : ∀ i ∈ truth, i ∈ pred)
    (hpar : ∀ k ∈ pred, ∃ vk, mu[k]? = some vk ∧
      ∀ vj ∈ mu, dominates W vj vk = true → dominates W vk vj = true) :
    f1 mu W α truth pred ε = .val 1 := by
  apply f1_true_pareto_set mu W α truth pred ε hε hα hlen hW hne hsub
  intro k hk
  obtain ⟨vk, hvk, hnd⟩ := hpar k hk
  refine ⟨vk, hvk, fun vj hvj => ?_⟩
  have hl : vj.length = vk.length := by
    rw [hD vj hvj, hD vk (List.mem_of_getElem? hvk)]
  exact not_interior_of_not_strictly_dominated W hW vk vj hl (hnd vj hvj)

/-- non-vacuity: the Pareto set `[0,1,4]` that C13's example computes for the six-point set, under the
componentwise order, predicted in another order -/
example : f1 [[1,2],[2,1],[0,0],[2,1],[3,0],[1,1]] (identMat 2) [1,1] [0,1,4] [4,0,1] 0 = .val 1 := by
  decide +kernel

/-- The same law for the score **as the code computes it today** (`f1B`: gaps through the
broadcast `(N,1)` column): the broadcast gaps vanish on exactly the same designs, so the defect
`gap-alpha-broadcast` does not affect the value on the true Pareto set. -/
theorem f1B_true_pareto_set (mu W : Mat) (α : Vec) (truth pred : List Nat) (ε : Rat)
    (hε : 0 ≤ ε) (hα : ∀ a ∈ α, 0 < a) (hlen : α.length = W.length) (hW : W ≠ [])
    (hne : pred ≠ []) (hsub : ∀ i ∈ truth, i ∈ pred)
    (hpar : ∀ k ∈ pred, ∃ vk, mu[k]? = some vk ∧ ∀ vj ∈ mu, ¬ InInterior W (gsub vj vk)) :
    f1B mu W α truth pred ε = .val 1 := by
  obtain ⟨ds, hds⟩ : ∃ ds, deltaB mu W α = some ds :=
    deltaWith_isSome (K := Rat) _ mu (fun vi vj => smallMB_isSome vi vj W α hlen hW)
  unfold f1B
  rw [hds]
  exact f1FromDelta_pareto mu W ds truth pred ε hds (fun vi vj m hm => smallMB_pos_iff hm hα)
    hε hne hsub hpar

end F1

section Hypervolume
open MeasureTheory
variable {n m : Nat}

/-- **Hypervolume is monotone** (mathematical hypervolume `HV(S) = volume (⋃_{p∈S} [ref, W p])`, Lebesgue
measure on `ℝⁿ`; botorch's implementation is compared with it in the harness). -/
theorem hv_mono (W : Matrix (Fin n) (Fin m) ℝ) (ref : Fin n → ℝ) {S T : Set (Fin m → ℝ)}
    (h : S ⊆ T) : HV W ref S ≤ HV W ref T :=
  hv_mono' W ref h

/-- **A covering front has the hypervolume of the whole sample** (`HV(ParetoSet S) = HV(S)`): if
`P ⊆ S` and every point of `S` is dominated (in the cone order) by a point of `P` — which C13 proves
for the extracted Pareto set — the two dominated regions coincide. -/
theorem hv_front_eq (W : Matrix (Fin n) (Fin m) ℝ) (ref : Fin n → ℝ) {P S : Set (Fin m → ℝ)}
    (hPS : P ⊆ S) (hcov : ∀ p ∈ S, ∃ q ∈ P, ConeDom W q p) : HV W ref P = HV W ref S := by
  unfold HV; rw [hvRegion_eq_of_cover W ref hPS hcov]

/-- **The true front's hypervolume is never smaller than that of any predicted subset** of the same
evaluated sample `S` (in particular of the front of the predicted values, which the code evaluates at
the *true* values of the predicted indices). -/
theorem hv_true_front_ge (W : Matrix (Fin n) (Fin m) ℝ) (ref : Fin n → ℝ) {P Q S : Set (Fin m → ℝ)}
    (hPS : P ⊆ S) (hcov : ∀ p ∈ S, ∃ q ∈ P, ConeDom W q p) (hQ : Q ⊆ S) :
    HV W ref Q ≤ HV W ref P :=
  (hv_mono W ref hQ).trans_eq (hv_front_eq W ref hPS hcov).symm

end Hypervolume

end VOPy.C19

/-! # INVARIANCE — gaps, coverage and ε-F1 depend on differences only

The statements behind the metamorphic checks of the harness ("translated inputs give bit-identical
gaps / scores", large-offset families): every quantity of this property is a function of the
*differences* `μ_j − μ_i`.  Gap statements are over any linearly ordered field `K` (the same terms the
driver runs at `ℚ`); coverage and F1 over `ℚ`.  `gadd a t = a + t`, `gscale c a = c·a` entrywise; the
length hypotheses are the ones under which `zipWith` does not truncate. -/
namespace VOPy.C19
open VOPy VOPy.Eval

section GapInvariance
variable {K : Type} [Field K] [LinearOrder K] [IsStrictOrderedRing K]

/-- **Gaps are translation invariant.**  For value vectors of the length of `t`: `m(i,j)` (both the
flat-`α` form `smallM` and the broadcast form `smallMB` the code evaluates today) and the whole gap
vector `get_delta` (both forms) are unchanged when every value vector is translated by `t`. -/
theorem gap_translate (mu W : List (List K)) (α t : List K) (h : ∀ v ∈ mu, v.length = t.length) :
    (∀ vi ∈ mu, ∀ vj ∈ mu, smallM (gadd vi t) (gadd vj t) W α = smallM vi vj W α ∧
      smallMB (gadd vi t) (gadd vj t) W α = smallMB vi vj W α) ∧
    delta (mu.map (fun v => gadd v t)) W α = delta mu W α ∧
    deltaB (mu.map (fun v => gadd v t)) W α = deltaB mu W α :=
  ⟨fun vi hi vj hj => gap_congr (gsub_translate vj vi t (h vj hj) (h vi hi)) W α,
   delta_translate mu W α t h⟩

/-- **Gaps are positively homogeneous**: `m(c·μ_i, c·μ_j) = c·m(μ_i, μ_j)` and
`Δ(c·μ) = c·Δ(μ)` for `c > 0` (no hypothesis on lengths; an undefined gap stays undefined). -/
theorem gap_homogeneous (c : K) (hc : 0 < c) (mu W : List (List K)) (α : List K) :
    (∀ vi vj, smallM (gscale c vi) (gscale c vj) W α = (smallM vi vj W α).map (c * ·) ∧
      smallMB (gscale c vi) (gscale c vj) W α = (smallMB vi vj W α).map (c * ·)) ∧
    delta (mu.map (gscale c)) W α = (delta mu W α).map (List.map (c * ·)) ∧
    deltaB (mu.map (gscale c)) W α = (deltaB mu W α).map (List.map (c * ·)) :=
  ⟨fun vi vj => gap_gscale c hc vi vj W α, delta_gscale c hc mu W α⟩

/-- **Gaps do not depend on the presentation of the cone.**  Multiplying row `n` of `W` and `α_n` by the
same factor `c_n > 0` (one per facet) changes neither `m(i,j)` nor `Δ` (flat-`α` form), and this is
the scaling the cone constants obey: if `α_n` is the attained maximum of `w_n·u` over the unit vectors
of the cone (`IsAlpha`), then `c·α_n` is that of `c·w_n` for the rescaled presentation of the *same*
cone — together with `smallM_is_gap` the geometric meaning is preserved.  (The broadcast form
`smallMB` divides by the largest `α` and does *not* have this invariance.) -/
theorem gap_rowScale (cs : List K) (mu W : List (List K)) (α : List K) (D : Nat)
    (h1 : cs.length = W.length) (h2 : α.length = W.length) (hp : ∀ c ∈ cs, 0 < c) :
    (∀ vi vj, smallM vi vj (rowScaleK cs W) (List.zipWith (· * ·) cs α) = smallM vi vj W α) ∧
    delta mu (rowScaleK cs W) (List.zipWith (· * ·) cs α) = delta mu W α ∧
    (∀ w a c, 0 < c → IsAlpha W D w a → IsAlpha (rowScaleK cs W) D (gscale c w) (c * a)) := by
  refine ⟨fun vi vj => smallM_rowScale cs vi vj W α h1 h2 hp, ?_,
    fun w a c hc h => isAlpha_rowScale cs W D w a c h1 hp hc h⟩
  have : (fun a b => smallM a b (rowScaleK cs W) (List.zipWith (· * ·) cs α)) =
      fun a b => smallM a b W α := by
    funext a b; exact smallM_rowScale cs a b W α h1 h2 hp
  simp only [delta, this]

end GapInvariance

/-- the broadcast form is not invariant under rescaling one facet together with its `α`: orthant of
`ℚ²`, `μ_j − μ_i = (1, 3)`; with rows and `α` as they are the value is `1`, after multiplying facet 1
and `α_1` by `4` it is `1/4` (while the flat form stays `1`) -/
example :
    smallMB (K := ℚ) [0, 0] [1, 3] [[1, 0], [0, 1]] [1, 1] = some 1 ∧
    smallMB (K := ℚ) [0, 0] [1, 3] (rowScaleK [1, 4] [[1, 0], [0, 1]]) (List.zipWith (· * ·) [1, 4] [1, 1])
      = some (1/4) ∧
    smallM (K := ℚ) [0, 0] [1, 3] (rowScaleK [1, 4] [[1, 0], [0, 1]]) (List.zipWith (· * ·) [1, 4] [1, 1])
      = some 1 := by
  decide +kernel

/-- non-vacuity: three value vectors with gaps of size `2^-10` next to the offset `(2^20, −2^20)`: the
gap vector is the same before and after translation, and scales with `2^20` -/
example :
    delta (K := ℚ) [[0, 0], [1/1024, 3/1024], [2/1024, 1/1024]] [[1, 0], [0, 1]] [1, 1]
      = some [1/1024, 0, 0] ∧
    delta (K := ℚ) ([[0, 0], [1/1024, 3/1024], [2/1024, 1/1024]].map (fun v => gadd v [1048576, -1048576]))
      [[1, 0], [0, 1]] [1, 1] = some [1/1024, 0, 0] ∧
    delta (K := ℚ) ([[0, 0], [1/1024, 3/1024], [2/1024, 1/1024]].map (gscale 1048576))
      [[1, 0], [0, 1]] [1, 1] = some [1024, 0, 0] := by
  decide +kernel

/-! ### coverage and ε-F1 (over `ℚ`) -/

/-- **ε-coverage is translation invariant and invariant under a common positive scaling of the points
and `ε`** — as an equality of the certified answers, the outcome "no certificate" included. -/
theorem isCoveredPt_invariant (vi vj t : Vec) (ε c : Rat) (W : Mat) (hc : 0 < c)
    (hi : vi.length = t.length) (hj : vj.length = t.length) :
    isCoveredPt (vadd vi t) (vadd vj t) ε W = isCoveredPt vi vj ε W ∧
    isCoveredPt (smul c vi) (smul c vj) (c * ε) W = isCoveredPt vi vj ε W :=
  ⟨isCoveredPt_translate vi vj t ε W hi hj, isCoveredPt_smul c hc vi vj ε W⟩

/-- **ε-F1 is translation invariant**: for value vectors of the length of `t`, the score — with the
gaps of the geometric definition (`f1`) and as the code computes them today (`f1B`) — is the same
`F1Res` (value, `nan`, `unknown`, `ValueError`) for `μ` and for `μ + t`. -/
theorem f1_translate_invariant (mu W : Mat) (α t : Vec) (truth pred : List Nat) (ε : Rat)
    (h : ∀ v ∈ mu, v.length = t.length) :
    f1 (mu.map (fun v => vadd v t)) W α truth pred ε = f1 mu W α truth pred ε ∧
    f1B (mu.map (fun v => vadd v t)) W α truth pred ε = f1B mu W α truth pred ε :=
  f1_translate mu W α t truth pred ε h

/-- **ε-F1 is invariant under scaling the values and `ε` together** by `c > 0` (the certified
projection search is equivariant: linear solves scale, the KKT / Farkas checkers accept exactly the
scaled certificates). -/
theorem f1_scale_invariant (c : Rat) (hc : 0 < c) (mu W : Mat) (α : Vec) (truth pred : List Nat)
    (ε : Rat) :
    f1 (mu.map (smul c)) W α truth pred (c * ε) = f1 mu W α truth pred ε ∧
    f1B (mu.map (smul c)) W α truth pred (c * ε) = f1B mu W α truth pred ε :=
  f1_smul c hc mu W α truth pred ε

/-- non-vacuity: four designs with gaps of size `2^-10`, `ε = 2^-12`, prediction `{1, 3}` against the
truth `{1, 2}` (one hit, one design with gap `2^-11 > ε`, one uncovered miss): the score is `1/2`, also
next to the offset `(2^20, −2^20)` and after scaling values and `ε` by `2^20` -/
example :
    f1 [[0, 0], [1/1024, 3/1024], [3/1024, 1/1024], [1/2048, 5/2048]] [[1, 0], [0, 1]] [1, 1]
      [1, 2] [1, 3] (1/4096) = .val (1/2) ∧
    f1 ([[0, 0], [1/1024, 3/1024], [3/1024, 1/1024], [1/2048, 5/2048]].map
        (fun v => vadd v [1048576, -1048576])) [[1, 0], [0, 1]] [1, 1] [1, 2] [1, 3] (1/4096) = .val (1/2) ∧
    f1 ([[0, 0], [1/1024, 3/1024], [3/1024, 1/1024], [1/2048, 5/2048]].map (smul 1048576))
      [[1, 0], [0, 1]] [1, 1] [1, 2] [1, 3] (1048576 * (1/4096)) = .val (1/2) := by
  suffices h : _ from ⟨h,
    ((f1_translate_invariant _ _ _ [1048576, -1048576] _ _ _ (by decide)).1).trans h,
    ((f1_scale_invariant 1048576 (by norm_num) _ _ _ _ _ _).1).trans h⟩
  decide +kernel

section HypervolumeInvariance
open MeasureTheory
variable {n m : Nat}

/-- **Translation law of the hypervolume.**  Translating every point by `t` and the reference point by
`W t` leaves `HV` unchanged.  The code takes `ref = min_p W p` over the evaluated sample, which moves by
exactly `W t` when the sample is translated by `t`: with its data-dependent reference point the
hypervolume (hence the discrepancy) is translation invariant; with a *fixed* reference point it is not. -/
theorem hv_translate (W : Matrix (Fin n) (Fin m) ℝ) (ref : Fin n → ℝ) (S : Set (Fin m → ℝ))
    (t : Fin m → ℝ) :
    HV W (W.mulVec t + ref) ((fun p => t + p) '' S) = HV W ref S :=
  hv_translate' W ref S t

end HypervolumeInvariance

end VOPy.C19
