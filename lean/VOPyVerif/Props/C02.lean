import VOPyVerif.Proofs.StepsAuer
import VOPyVerif.Props.C09
/-!
# C02 — a design is eliminated only on, and always on, a confidence-region certificate

Property theorems only.  They are about the executable transitions of `Model/Steps.lean` that
driver_c02 runs against the real `discarding()` methods.  All statements are *parametric in the
oracle predicates* `isDom`, `isCov`, `pessDom` (arbitrary Boolean relations on design indices):
they hold for every geometry.  C09 (`isDom` ⇔ ∀z∈R_i ∀z'∈R_j : z' + slack ≽ z), C10 (`isCov`) and
C11 (`pessDom`) connect the Booleans to the regions; for Auer the certificate is spelled out on
centres and widths here.

Index lists stand for Python sets; the hypothesis `S.Nodup` is exactly "S is a set".
-/
namespace VOPy.C02
open VOPy VOPy.Steps

/-! ## PaVeBa, PaVeBaGP, PaVeBaPartialGP -/

/-- **Discarded ⇔ certificate (PaVeBa family).**  A candidate leaves `S` in `discarding()` exactly
when some *other* active design `j ∈ A = S ∪ U` has a region that dominates its region (oracle
`isDom i j`, slack 0). -/
theorem paveba_discard_iff (isDom : Rel) {S U : List Nat} (hS : S.Nodup) (i : Nat) :
    (i ∈ S ∧ i ∉ pavebaDiscard isDom S U) ↔
      (i ∈ S ∧ ∃ j, (j ∈ S ∨ j ∈ U) ∧ j ≠ i ∧ isDom i j = true) := by
  unfold pavebaDiscard
  rw [mem_and_not_mem_removeAll hS, mem_pavebaToDiscard, and_self_left]

/-- **Kept ⇔ no certificate**: designs without a certificate stay, all others are removed in that
same call. -/
theorem paveba_kept_iff (isDom : Rel) {S U : List Nat} (hS : S.Nodup) (i : Nat) :
    i ∈ pavebaDiscard isDom S U ↔
      (i ∈ S ∧ ∀ j, (j ∈ S ∨ j ∈ U) → j ≠ i → isDom i j = false) :=
  mem_pavebaDiscard hS

/-- **Closed form.**  The literal loop (scan with `break`, collect, then remove) equals the
one-line specification `S' = [i ∈ S | no certificate]`, order preserved. -/
theorem paveba_discard_eq_filter (isDom : Rel) {S : List Nat} (U : List Nat) (hS : S.Nodup) :
    pavebaDiscard isDom S U =
      S.filter (fun i => !anyOther (fun j => isDom i j) i (union S U)) :=
  pavebaDiscard_eq_filter isDom U hS

/-- `S' ⊆ S` (as a sublist: order and multiplicity preserved), and `S'` is again a set. -/
theorem paveba_discard_subset (isDom : Rel) (S U : List Nat) :
    (pavebaDiscard isDom S U).Sublist S ∧ (S.Nodup → (pavebaDiscard isDom S U).Nodup) :=
  ⟨removeAll_sublist _ _, nodup_removeAll⟩

/-- **Eliminated over the whole round ⇔ certificate (PaVeBa family).**  With `S ∩ P = ∅` (an
invariant of the algorithm): a design of `S` is neither in the new `S` nor in the new `P` after
`discarding(); pareto_updating(); useful_updating()` exactly when it had an elimination
certificate on the regions displayed in this round. -/
theorem paveba_eliminated_iff (isDom isCov : Rel) {S P U : List Nat} (hS : S.Nodup)
    (hSP : ∀ x ∈ S, x ∉ P) (i : Nat) :
    (i ∈ S ∧ i ∉ (pavebaRound isDom isCov S P U).1 ∧ i ∉ (pavebaRound isDom isCov S P U).2.1) ↔
      (i ∈ S ∧ ∃ j, (j ∈ S ∨ j ∈ U) ∧ j ≠ i ∧ isDom i j = true) := by
  rw [← paveba_discard_iff isDom hS]
  exact not_mem_move_iff (nodup_removeAll hS) (fun _ h => (mem_pavebaNewPareto.mp h).1) hSP i

/-- **The property's wording (PaVeBa family).**  Let `R i` be the displayed region of design `i`
(any type of points, any relation `dom z' z` = "`z'` with the slack dominates `z`") and suppose the
oracle decides the ∀∀ statement over the two regions (this is what C09 establishes for rectangles
and ellipsoids).  Then a design leaves the candidate set without entering `P` exactly when another
active design's region dominates every point of its region. -/
theorem paveba_eliminated_semantic {α : Type} (R : Nat → α → Prop) (dom : α → α → Prop)
    (isDom isCov : Rel)
    (hC09 : ∀ i j, isDom i j = true ↔ ∀ z, R i z → ∀ z', R j z' → dom z' z)
    {S P U : List Nat} (hS : S.Nodup) (hSP : ∀ x ∈ S, x ∉ P) (i : Nat) :
    (i ∈ S ∧ i ∉ (pavebaRound isDom isCov S P U).1 ∧ i ∉ (pavebaRound isDom isCov S P U).2.1) ↔
      (i ∈ S ∧ ∃ j, (j ∈ S ∨ j ∈ U) ∧ j ≠ i ∧ ∀ z, R i z → ∀ z', R j z' → dom z' z) := by
  rw [paveba_eliminated_iff isDom isCov hS hSP]
  simp only [hC09]

/-- **Order independence (PaVeBa family).**  The code iterates Python sets; permuting the iteration
order of `S` and of `U` permutes the result, so its canonical (sorted) form is the same. -/
theorem paveba_discard_perm (isDom : Rel) {S S₂ U U₂ : List Nat} (hS : S.Nodup)
    (h1 : S.Perm S₂) (h2 : U.Perm U₂) :
    (pavebaDiscard isDom S U).Perm (pavebaDiscard isDom S₂ U₂) ∧
      sortNat (pavebaDiscard isDom S U) = sortNat (pavebaDiscard isDom S₂ U₂) := by
  have hp := removeAll_perm hS h1 (rm := pavebaToDiscard isDom S U)
    (rm₂ := pavebaToDiscard isDom S₂ U₂) fun x => by
      simp only [mem_pavebaToDiscard, h1.mem_iff, h2.mem_iff]
  exact ⟨hp, sortNat_eq_of_perm hp⟩

/-- **Single-design active set**: the only active design is never eliminated. -/
theorem paveba_single (isDom : Rel) (i : Nat) (U : List Nat) (hU : ∀ u ∈ U, u = i) :
    pavebaDiscard isDom [i] U = [i] := by
  simp [pavebaDiscard, pavebaToDiscard, anyOther_union_singleton hU, removeAll]

/-- **Identical regions** (same answers as first argument, symmetric between the two): two
candidates with identical regions are either both eliminated or both kept. -/
theorem paveba_identical (isDom : Rel) {S U : List Nat} (hS : S.Nodup) {i j : Nat}
    (hi : i ∈ S) (hj : j ∈ S) (hrow : ∀ k, isDom i k = isDom j k) (hsym : isDom i j = isDom j i) :
    i ∈ pavebaDiscard isDom S U ↔ j ∈ pavebaDiscard isDom S U := by
  rw [pavebaDiscard_eq_filter isDom U hS, List.mem_filter, List.mem_filter,
    anyOther_identical (mem_union.mpr (Or.inl hi)) (mem_union.mpr (Or.inl hj)) hrow hsym]
  simp only [hi, hj, true_and]

/-- non-vacuity: design 0 is dominated by the useful design 2 ∈ U only; design 1 stays -/
example : pavebaDiscard (fun i j => i == 0 && j == 2) [0, 1] [2] = [1] := by decide

/-! ## VOGP, VOGP_AD, ε-PAL -/

/-- **Pessimistic set.**  `i` is in the pessimistic Pareto set of `W = S ∪ P` exactly when it is
active and no other active region pessimistically dominates its region. -/
theorem pessimistic_iff (pessDom : Rel) (S P : List Nat) (i : Nat) :
    i ∈ pessimisticSet pessDom S P ↔
      ((i ∈ S ∨ i ∈ P) ∧ ∀ j, (j ∈ S ∨ j ∈ P) → j ≠ i → pessDom j i = false) :=
  mem_pessimisticSet

/-- **Discarded ⇔ certificate (VOGP / VOGP_AD / ε-PAL).**  A candidate leaves `S` in
`discarding()` exactly when it is not in the pessimistic set and some member `j` of the
pessimistic set has a region dominating its region with the ε-slack (oracle `isDom i j`; the
witness is automatically another design). -/
theorem vogp_discard_iff (isDom pessDom : Rel) {S P : List Nat} (hS : S.Nodup) (i : Nat) :
    (i ∈ S ∧ i ∉ vogpDiscard isDom pessDom S P) ↔
      (i ∈ S ∧ i ∉ pessimisticSet pessDom S P ∧
        ∃ j, j ∈ pessimisticSet pessDom S P ∧ j ≠ i ∧ isDom i j = true) := by
  unfold vogpDiscard
  rw [mem_and_not_mem_removeAll hS, mem_vogpToDiscard, and_self_left]
  -- a witness from the pessimistic set is another design, since `i` is not in it
  exact and_congr_right fun _ => and_congr_right fun hp => exists_congr fun j =>
    and_congr_right fun hj => (and_iff_right fun h : j = i => hp (h ▸ hj)).symm

/-- **Kept ⇔ no certificate** for the pessimistic family. -/
theorem vogp_kept_iff (isDom pessDom : Rel) {S P : List Nat} (hS : S.Nodup) (i : Nat) :
    i ∈ vogpDiscard isDom pessDom S P ↔
      (i ∈ S ∧ (i ∈ pessimisticSet pessDom S P ∨
        ∀ j ∈ pessimisticSet pessDom S P, isDom i j = false)) := by
  unfold vogpDiscard
  rw [mem_removeAll hS, mem_vogpToDiscard, Decidable.or_iff_not_imp_left]
  refine and_congr_right fun hi => ?_
  simp only [hi, true_and, not_and, not_exists, Bool.not_eq_true]

/-- `S' ⊆ S` and `S'` is again a set. -/
theorem vogp_discard_subset (isDom pessDom : Rel) (S P : List Nat) :
    (vogpDiscard isDom pessDom S P).Sublist S ∧
      (S.Nodup → (vogpDiscard isDom pessDom S P).Nodup) :=
  ⟨removeAll_sublist _ _, nodup_removeAll⟩

/-- **Eliminated over the whole round ⇔ certificate (VOGP / ε-PAL).** -/
theorem vogp_eliminated_iff (isDom isCov pessDom : Rel) {S P : List Nat} (hS : S.Nodup)
    (hSP : ∀ x ∈ S, x ∉ P) (i : Nat) :
    (i ∈ S ∧ i ∉ (vogpRound isDom isCov pessDom S P).1 ∧
        i ∉ (vogpRound isDom isCov pessDom S P).2) ↔
      (i ∈ S ∧ i ∉ pessimisticSet pessDom S P ∧
        ∃ j, j ∈ pessimisticSet pessDom S P ∧ j ≠ i ∧ isDom i j = true) := by
  rw [← vogp_discard_iff isDom pessDom hS]
  simp only [vogpRound, epsilonCovering]
  exact not_mem_move_iff (nodup_removeAll hS) (fun _ h => (mem_coverNew.mp h).1) hSP i

/-- **The property's wording (VOGP / ε-PAL).**  With regions `R i`, `dom` = "dominates with the
ε-slack" decided by `isDom` (C09) and `pdom j i` = "region j pessimistically dominates region i"
decided by `pessDom` (C11): a design leaves the candidate set without entering `P` exactly when it
is not pessimistic-Pareto among the active designs and the region of a pessimistic-Pareto design
dominates every point of its region with the ε-slack. -/
theorem vogp_eliminated_semantic {α : Type} (R : Nat → α → Prop) (dom : α → α → Prop)
    (pdom : Nat → Nat → Prop) (isDom isCov pessDom : Rel)
    (hC09 : ∀ i j, isDom i j = true ↔ ∀ z, R i z → ∀ z', R j z' → dom z' z)
    (hC11 : ∀ j i, pessDom j i = true ↔ pdom j i)
    {S P : List Nat} (hS : S.Nodup) (hSP : ∀ x ∈ S, x ∉ P) (i : Nat) :
    let pess := fun k => (k ∈ S ∨ k ∈ P) ∧ ∀ j, (j ∈ S ∨ j ∈ P) → j ≠ k → ¬ pdom j k
    (i ∈ S ∧ i ∉ (vogpRound isDom isCov pessDom S P).1 ∧
        i ∉ (vogpRound isDom isCov pessDom S P).2) ↔
      (i ∈ S ∧ ¬ pess i ∧ ∃ j, pess j ∧ j ≠ i ∧ ∀ z, R i z → ∀ z', R j z' → dom z' z) := by
  intro pess
  have hp : ∀ k, k ∈ pessimisticSet pessDom S P ↔ pess k :=
    fun k => mem_pessimisticSet_bridge pdom hC11
  rw [vogp_eliminated_iff isDom isCov pessDom hS hSP]
  simp only [hp, hC09]

/-- **Eliminated over the whole round ⇔ certificate (VOGP_AD)** — whatever the depths and the
state of the ε-covering latch. -/
theorem vogpAD_eliminated_iff (isDom isCov pessDom : Rel) (depth : Nat → Nat) (maxDepth : Nat)
    (enabled : Bool) {S P : List Nat} (hS : S.Nodup) (hSP : ∀ x ∈ S, x ∉ P) (i : Nat) :
    (i ∈ S ∧ i ∉ (vogpADRound isDom isCov pessDom depth maxDepth enabled S P).1 ∧
        i ∉ (vogpADRound isDom isCov pessDom depth maxDepth enabled S P).2.1) ↔
      (i ∈ S ∧ i ∉ pessimisticSet pessDom S P ∧
        ∃ j, j ∈ pessimisticSet pessDom S P ∧ j ≠ i ∧ isDom i j = true) := by
  unfold vogpADRound epsilonCoveringAD
  split
  · -- gate closed: S, P unchanged by the covering phase
    rw [← vogp_discard_iff isDom pessDom hS]
    simp only
    constructor
    · rintro ⟨h1, h2, _⟩; exact ⟨h1, h2⟩
    · rintro ⟨h1, h2⟩; exact ⟨h1, h2, hSP i h1⟩
  · exact vogp_eliminated_iff isDom isCov pessDom hS hSP i

/-- **Order independence (pessimistic family)**: pessimistic set and new `S`. -/
theorem vogp_discard_perm (isDom pessDom : Rel) {S S₂ P P₂ : List Nat} (hS : S.Nodup)
    (h1 : S.Perm S₂) (h2 : P.Perm P₂) :
    (∀ x, x ∈ pessimisticSet pessDom S P ↔ x ∈ pessimisticSet pessDom S₂ P₂) ∧
    (vogpDiscard isDom pessDom S P).Perm (vogpDiscard isDom pessDom S₂ P₂) ∧
      sortNat (vogpDiscard isDom pessDom S P) = sortNat (vogpDiscard isDom pessDom S₂ P₂) := by
  have hpess : ∀ x, x ∈ pessimisticSet pessDom S P ↔ x ∈ pessimisticSet pessDom S₂ P₂ :=
    fun x => by simp only [mem_pessimisticSet, h1.mem_iff, h2.mem_iff]
  have hp := removeAll_perm hS h1 (rm := vogpToDiscard isDom pessDom S P)
    (rm₂ := vogpToDiscard isDom pessDom S₂ P₂) fun x => by
      simp only [mem_vogpToDiscard, hpess, h1.mem_iff]
  exact ⟨hpess, hp, sortNat_eq_of_perm hp⟩

/-- **Single-design active set**: with `W = S ∪ P = {i}` the design is pessimistic-Pareto and is
never eliminated. -/
theorem vogp_single (isDom pessDom : Rel) (i : Nat) (P : List Nat) (hP : ∀ p ∈ P, p = i) :
    pessimisticSet pessDom [i] P = [i] ∧ vogpDiscard isDom pessDom [i] P = [i] := by
  have hW : union [i] P = [i] := by
    unfold union
    have : P.filter (fun u => !([i] : List Nat).contains u) = [] := by
      rw [List.filter_eq_nil_iff]
      intro p hp
      simp [hP p hp]
    rw [this]; rfl
  have hpess : pessimisticSet pessDom [i] P = [i] := by
    unfold pessimisticSet
    simp [hW, anyOther]
  refine ⟨hpess, ?_⟩
  unfold vogpDiscard vogpToDiscard
  simp [hpess, removeAll]

/-- **Identical regions (pessimistic family)**: two candidates whose regions are identical (same
oracle answers in either argument position, symmetric between the two) have the same pessimistic
status and are either both eliminated or both kept. -/
theorem vogp_identical (isDom pessDom : Rel) {S P : List Nat} (hS : S.Nodup) {i j : Nat}
    (hi : i ∈ S) (hj : j ∈ S) (hrow : ∀ k, isDom i k = isDom j k)
    (hp1 : ∀ k, pessDom k i = pessDom k j) (hp2 : pessDom i j = pessDom j i) :
    (i ∈ pessimisticSet pessDom S P ↔ j ∈ pessimisticSet pessDom S P) ∧
    (i ∈ vogpDiscard isDom pessDom S P ↔ j ∈ vogpDiscard isDom pessDom S P) := by
  have hpess : i ∈ pessimisticSet pessDom S P ↔ j ∈ pessimisticSet pessDom S P := by
    unfold pessimisticSet
    rw [List.mem_filter, List.mem_filter,
      anyOther_identical (r := fun a b => pessDom b a) (mem_union.mpr (Or.inl hi))
        (mem_union.mpr (Or.inl hj)) hp1 hp2.symm]
    simp only [mem_union, hi, hj, true_or, true_and]
  refine ⟨hpess, ?_⟩
  unfold vogpDiscard
  rw [mem_removeAll hS, mem_removeAll hS, mem_vogpToDiscard, mem_vogpToDiscard, hpess]
  simp only [hrow, hi, hj, true_and]

/-- non-vacuity: 1 pessimistically dominates 0, and dominates it with the slack → 0 is discarded;
2 is not pessimistic either (dominated by 1) but has no certificate → stays -/
example : vogpDiscard (fun i j => i == 0 && j == 1) (fun j i => j == 1 && (i == 0 || i == 2))
    [0, 1, 2] [] = [1, 2] := by decide

/-! ## End to end with the geometry of C09 (no oracle left for the elimination certificate) -/

/-- **Rectangular regions (PaVeBaGP type "IH", PaVeBaPartialGP "hyperrectangle"), real points.**
Let design `k` display the box `[L k, U k]` (`L k ≤ U k`), let `W` be any cone matrix and `s` the
objective-space slack (0 for this family), and let `discarding()` decide with the model of the
rectangular `is_dominated` (C09: `Rect.isDominated`).  Then a design leaves the candidate set without
entering `P` **exactly when** some other active design `j` satisfies
`∀ z ∈ box_i, ∀ z' ∈ box_j, ∀ n, w_n·(z' + s − z) ≥ 0` over the reals. -/
theorem paveba_rect_eliminated_real {m N : ℕ} (W : Fin N → Fin m → ℚ) (L U : Nat → Fin m → ℚ)
    (s : Fin m → ℚ) (hLU : ∀ k i, L k i ≤ U k i) (isCov : Rel) {S P Us : List Nat} (hS : S.Nodup)
    (hSP : ∀ x ∈ S, x ∉ P) (i : Nat) :
    let isDom : Rel := fun a b => Rect.isDominated (toMat W) (toVec (L a)) (toVec (U a))
      (toVec (L b)) (toVec (U b)) (toVec s)
    (i ∈ S ∧ i ∉ (pavebaRound isDom isCov S P Us).1 ∧ i ∉ (pavebaRound isDom isCov S P Us).2.1) ↔
      (i ∈ S ∧ ∃ j, (j ∈ S ∨ j ∈ Us) ∧ j ≠ i ∧ Rect.Dominated W (L i) (U i) (L j) (U j) s) :=
  paveba_eliminated_semantic (fun k z => z ∈ Rect.box (L k) (U k))
    (fun z' z => ∀ n, 0 ≤ ∑ i, (W n i : ℝ) * (z' i + (s i : ℝ) - z i)) _ isCov
    (fun a b => VOPy.C09.rect_isDominated_iff W _ _ _ _ s (hLU a) (hLU b)) hS hSP i

/-- **Ellipsoidal regions (PaVeBa, PaVeBaGP type "DE", PaVeBaPartialGP "hyperellipsoid"), real
points.**  Design `k` displays `{z | (z − c_k)ᵀ Σ_k⁻¹ (z − c_k) ≤ a_k², 0 ≤ a_k}` with `Σ_k` positive
definite; `s` is the per-facet slack (0 for this family).  With the model of the ellipsoidal
`is_dominated` (C09: `Ellipsoid.isDominated`, closed form decided exactly) a design is eliminated
exactly when some other active design's ellipsoid dominates every point of its ellipsoid. -/
theorem paveba_ell_eliminated_real {m N : ℕ} (W : Fin N → Fin m → ℚ) (c : Nat → Fin m → ℚ)
    (Sg : Nat → Fin m → Fin m → ℚ) (a : Nat → ℚ) (s : Fin N → ℚ)
    (hpd : ∀ k, (Matrix.of fun i j => (Sg k i j : ℝ)).PosDef) (isCov : Rel) {S P Us : List Nat}
    (hS : S.Nodup) (hSP : ∀ x ∈ S, x ∉ P) (i : Nat) :
    let isDom : Rel := fun p q => Ellipsoid.isDominated (toMat W) (toVec (c p)) (toMat (Sg p)) (a p)
      (toVec (c q)) (toMat (Sg q)) (a q) (toVec s)
    (i ∈ S ∧ i ∉ (pavebaRound isDom isCov S P Us).1 ∧ i ∉ (pavebaRound isDom isCov S P Us).2.1) ↔
      (i ∈ S ∧ ∃ j, (j ∈ S ∨ j ∈ Us) ∧ j ≠ i ∧
        Ellipsoid.DominatedQ W (c i) (Matrix.of fun x y => (Sg i x y : ℝ)) (a i)
          (c j) (Matrix.of fun x y => (Sg j x y : ℝ)) (a j) s) :=
  paveba_eliminated_semantic
    (fun k z => z ∈ Ellipsoid.EllQ (Ellipsoid.castVec (c k)) (Matrix.of fun x y => (Sg k x y : ℝ)) (a k))
    (fun z' z => ∀ n, -(s n : ℝ) ≤ Ellipsoid.castVec (W n) ⬝ᵥ (z' - z)) _ isCov
    (fun p q => VOPy.C09.ell_isDominated_iff_posDef W _ _ _ _ _ _ s (hpd p) (hpd q)) hS hSP i

/-- **Rectangular regions, VOGP / VOGP_AD / ε-PAL, real points.**  As above with the ε-slack `s`
(`ε·u*`, or `ε` in every objective) and the witness restricted to the pessimistic Pareto set of the
active designs (`pdom` decided by `pessDom`, C11). -/
theorem vogp_rect_eliminated_real {m N : ℕ} (W : Fin N → Fin m → ℚ) (L U : Nat → Fin m → ℚ)
    (s : Fin m → ℚ) (hLU : ∀ k i, L k i ≤ U k i) (pdom : Nat → Nat → Prop) (isCov pessDom : Rel)
    (hC11 : ∀ j i, pessDom j i = true ↔ pdom j i)
    {S P : List Nat} (hS : S.Nodup) (hSP : ∀ x ∈ S, x ∉ P) (i : Nat) :
    let isDom : Rel := fun a b => Rect.isDominated (toMat W) (toVec (L a)) (toVec (U a))
      (toVec (L b)) (toVec (U b)) (toVec s)
    let pess := fun k => (k ∈ S ∨ k ∈ P) ∧ ∀ j, (j ∈ S ∨ j ∈ P) → j ≠ k → ¬ pdom j k
    (i ∈ S ∧ i ∉ (vogpRound isDom isCov pessDom S P).1 ∧
        i ∉ (vogpRound isDom isCov pessDom S P).2) ↔
      (i ∈ S ∧ ¬ pess i ∧ ∃ j, pess j ∧ j ≠ i ∧ Rect.Dominated W (L i) (U i) (L j) (U j) s) :=
  vogp_eliminated_semantic (fun k z => z ∈ Rect.box (L k) (U k))
    (fun z' z => ∀ n, 0 ≤ ∑ i, (W n i : ℝ) * (z' i + (s i : ℝ) - z i)) pdom _ isCov pessDom
    (fun a b => VOPy.C09.rect_isDominated_iff W _ _ _ _ s (hLU a) (hLU b)) hC11 hS hSP i

/-! ## Auer -/

/-- **Auer's certificate in words.**  `auerDomCert` holds exactly when `m(c_i, c_j)` exceeds the
*summed widths* `β_i^d + β_j^d` in every objective `d`; and for non-negative widths
`b < m(c_i, c_j)` means that every coordinate of `c_j − c_i` exceeds `b`. -/
theorem auer_cert_iff (centre : Nat → Vec) (i j : Nat) (bi bj : Vec) :
    (auerDomCert centre (i, bi) (j, bj) = true ↔
      ∀ b ∈ vadd bi bj, b < smallM (centre i) (centre j)) ∧
    (vsub (centre j) (centre i) ≠ [] → ∀ b : Rat, 0 ≤ b →
      (b < smallM (centre i) (centre j) ↔ ∀ x ∈ vsub (centre j) (centre i), b < x)) :=
  ⟨allGt_iff _ _, fun hv _ hb => lt_smallM_iff hv hb⟩

/-- **Auer's certificate on coordinates.**  For non-negative width rows and a non-empty objective
vector the certificate says: every coordinate of `c_j − c_i` exceeds every summed width
`β_i^d + β_j^d` — design `j` beats design `i` in *every* objective by more than the two designs'
summed confidence widths in *every* objective. -/
theorem auer_cert_semantic (centre : Nat → Vec) (i j : Nat) (bi bj : Vec)
    (hv : vsub (centre j) (centre i) ≠ []) (hb : ∀ b ∈ vadd bi bj, 0 ≤ b) :
    auerDomCert centre (i, bi) (j, bj) = true ↔
      ∀ b ∈ vadd bi bj, ∀ x ∈ vsub (centre j) (centre i), b < x := by
  unfold auerDomCert
  rw [allGt_iff]
  constructor
  · intro h b hbm; exact (lt_smallM_iff hv (hb b hbm)).mp (h b hbm)
  · intro h b hbm; exact (lt_smallM_iff hv (hb b hbm)).mpr (h b hbm)

/-- **Discarded ⇔ certificate (Auer), each design's own width.**  With widths looked up by design
(`width i` is design `i`'s row), a candidate leaves `S` exactly when another candidate `j`
satisfies `∀ d, m(c_i, c_j) > β_i^d + β_j^d`. -/
theorem auer_discard_iff (centre width : Nat → Vec) {S : List Nat} (hS : S.Nodup) (i : Nat) :
    (i ∈ S ∧ i ∉ auerDiscard centre width S) ↔
      (i ∈ S ∧ ∃ j ∈ S, j ≠ i ∧ auerDomCert centre (i, width i) (j, width j) = true) := by
  unfold auerDiscard
  rw [mem_and_not_mem_removeAll hS, mem_auerToDiscard, and_self_left]

/-- **The code's positional lookup is the own-width lookup in `discarding()`**: there `beta_t` is
aligned with the iteration order of the very set that is scanned (`rows = S.map width`). -/
theorem auer_discard_position_ok (centre width : Nat → Vec) (S : List Nat) :
    auerDiscardPos centre (S.map width) S = auerDiscard centre width S :=
  auerDiscardPos_aligned centre width S

/-- `S' ⊆ S`, `S'` a set. -/
theorem auer_discard_subset (centre width : Nat → Vec) (S : List Nat) :
    (auerDiscard centre width S).Sublist S ∧ (S.Nodup → (auerDiscard centre width S).Nodup) :=
  ⟨removeAll_sublist _ _, nodup_removeAll⟩

/-- **Eliminated over the whole round ⇔ certificate (Auer, own widths).** -/
theorem auer_eliminated_iff (eps : Rat) (centre width : Nat → Vec) {S P : List Nat}
    (hS : S.Nodup) (hSP : ∀ x ∈ S, x ∉ P) (i : Nat) :
    (i ∈ S ∧ i ∉ (auerRound eps centre width S P).1 ∧ i ∉ (auerRound eps centre width S P).2) ↔
      (i ∈ S ∧ ∃ j ∈ S, j ≠ i ∧ auerDomCert centre (i, width i) (j, width j) = true) := by
  rw [← auer_discard_iff centre width hS]
  simp only [auerRound, auerPareto]
  exact not_mem_move_iff (nodup_removeAll hS)
    (fun _ h => (mem_auerP1.mp (mem_auerNewPareto.mp h).1).1) hSP i

/-- **Order independence (Auer, own widths).** -/
theorem auer_discard_perm (centre width : Nat → Vec) {S S₂ : List Nat} (hS : S.Nodup)
    (h1 : S.Perm S₂) :
    (auerDiscard centre width S).Perm (auerDiscard centre width S₂) ∧
      sortNat (auerDiscard centre width S) = sortNat (auerDiscard centre width S₂) := by
  have hp := removeAll_perm hS h1 (rm := auerToDiscardCore centre (byDesign width S))
    (rm₂ := auerToDiscardCore centre (byDesign width S₂)) fun x => by
      simp only [mem_auerToDiscard, h1.mem_iff]
  exact ⟨hp, sortNat_eq_of_perm hp⟩

/-- **Single-design active set (Auer)**. -/
theorem auer_single (centre width : Nat → Vec) (i : Nat) : auerDiscard centre width [i] = [i] := by
  simp [auerDiscard, auerToDiscardCore, byDesign, anyOtherP, removeAll]

/-- non-vacuity: one objective; design 0 sits 3 below design 1, widths 1 + 1 < 3 → discarded;
design 2 sits 1 below design 1, 1 + 1 ≥ 1 → stays -/
example : auerDiscard (fun i => if i = 0 then [0] else if i = 1 then [3] else [2]) (fun _ => [1])
    [0, 1, 2] = [1, 2] := by decide +kernel

end VOPy.C02
