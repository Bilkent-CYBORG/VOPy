import VOPyVerif.Proofs.AdaptiveVol
import VOPyVerif.Proofs.AdaptivePoints
import VOPyVerif.Proofs.AdaptiveVh
import Mathlib.Data.Real.Basic
/-!
# C18 — adaptive discretisation tiles the domain; VOGP_AD declares only finest leaves

Property theorems only (helper lemmas: `Proofs/Adaptive.lean` — geometry of one refinement,
`Proofs/AdaptiveInv.lean` — invariants of the cell tree, `Proofs/AdaptiveAlgo.lean` — VOGP_AD's set
surgery, `Proofs/AdaptiveOps.lean` — operation sequences, `Proofs/AdaptiveVol.lean` — leaf volumes,
`Proofs/AdaptivePoints.lean` — distinct points).  They are about the executable model
`VOPy.Adaptive` (`Model/Adaptive.lean`) that the driver runs against
`AdaptivelyDiscretizedDesignSpace` and `VOGP_AD`.

Geometry is stated for points `x : List K` over an arbitrary ordered field `K` (instantiate `K := ℝ`
for "subsets of ℝ^d", `K := ℚ` for the rationals): `InCell x c` = `x` has `d` coordinates and lies in
the closed box `c`, `InInt x c` = in the open box, `IntDisjoint K a b` = no point of `K^d` lies in both
open boxes, `unitCell d` = `[0,1]^d`.  A node is a *leaf* (`Space.isLeaf`) iff `refine` was never
called on it.
-/
namespace VOPy.C18
open VOPy VOPy.Adaptive

variable {K : Type*} [Field K] [LinearOrder K] [IsStrictOrderedRing K]

/-! ## One refinement -/

/-- **`refine_design(i)` appends exactly `2^d` nodes and returns their indices.**  If node `i` exists
(with cell of dimension `d = p.cell.length`) the new node list is the old one followed by
`children p`, there are `2^d` of them, and the returned list is `n, n+1, …, n + 2^d − 1`
(`n` = old number of nodes); nothing else of the space changes except the ghost `refined`. -/
theorem refine_appends_children {s s' : Space} {i : Nat} {ch : List Nat} {p : Node}
    (hp : s.nodes[i]? = some p) (h : s.refine i = some (s', ch)) :
    s'.nodes = s.nodes ++ children p ∧ (children p).length = 2 ^ p.cell.length ∧
      ch = (List.range (2 ^ p.cell.length)).map (fun k => s.nodes.length + k) ∧
      s'.maxDepth = s.maxDepth ∧ s'.refined = i :: s.refined := by
  obtain ⟨p', hp', hn, hr, hm, hch⟩ := Space.refine_eq h
  cases hp.symm.trans hp'
  exact ⟨hn, children_length p, by rw [hch, children_length], hm, hr⟩

/-- **Every child**: its cell is one of the product cells of the parent, has the parent's number
of dimensions and half the parent's side length in every dimension; its point is the centre of its
cell; its depth is the parent's plus one; its confidence region is the parent's. -/
theorem child_spec {p nd : Node} (h : nd ∈ children p) :
    nd.cell ∈ childCells p.cell ∧ nd.cell.length = p.cell.length ∧
      nd.cell.map (fun q => q.2 - q.1) = p.cell.map (fun q => (q.2 - q.1) / 2) ∧
      nd.point = centre nd.cell ∧ nd.depth = p.depth + 1 ∧
      nd.lower = p.lower ∧ nd.upper = p.upper := by
  obtain ⟨c, hc, rfl⟩ := mem_children h
  exact ⟨hc, length_of_mem_childCells hc, sides_of_mem_childCells hc, rfl, rfl, rfl, rfl⟩

/-- **The children tile the parent cell** (as subsets of `K^d`): every point of the parent cell lies
in some child cell, every child cell is contained in the parent cell, and two distinct children
(distinct positions in the list) share no interior point. -/
theorem children_tile_parent (K : Type*) [Field K] [LinearOrder K] [IsStrictOrderedRing K] (c : Cell) :
    (∀ x : List K, InCell x c → ∃ c' ∈ childCells c, InCell x c') ∧
    (∀ c' ∈ childCells c, ∀ x : List K, InCell x c' → InCell x c) ∧
    (childCells c).Pairwise (IntDisjoint K) :=
  ⟨fun _ hx => exists_child_of_inCell hx, fun _ hc _ hx => inCell_of_child hc hx,
   childCells_pairwise K c⟩

/-- the cells of `children p` are exactly `childCells p.cell`, in the same order -/
theorem children_cells (p : Node) : (children p).map Node.cell = childCells p.cell := by
  simp only [children, List.map_map]
  exact List.map_id'' (fun _ => rfl) _

/-- **Volumes**: the children's volumes add up to the parent's. -/
theorem children_volume (c : Cell) : ((childCells c).map vol).sum = vol c := childCells_vol_sum c

/-- **Depth gate of `should_refine_design`**: it answers `True` exactly when the node exists, is
strictly below the maximum depth and the `Vh`-vs-std comparison `vh` holds. -/
theorem shouldRefine_iff {s : Space} {i : Nat} {vh : Bool} :
    s.shouldRefine i vh = some true ↔ ∃ p, s.nodes[i]? = some p ∧ p.depth < s.maxDepth ∧ vh = true := by
  constructor
  · exact shouldRefine_true
  · rintro ⟨p, hp, hlt, rfl⟩
    simp [Space.shouldRefine, hp, Nat.not_le.mpr hlt]

/-! ## Set surgery of `evaluate_refine`, for an arbitrary state -/

/-- **A refined node is replaced by its children in the same set.**  Whatever the state, if
`evaluate_refine` with candidate `c` succeeds then `c` was active and either (sampling) only the
sample counter changed — this is the case whenever `c` is at or beyond the maximum depth — or
(refinement) `c` was below the maximum depth, the design space was refined at `c` with new indices
`ch`, and: if `c ∈ S` then `S` loses `c` and gains `ch` while `P` is untouched; otherwise `c ∈ P`,
and `P` loses `c` and gains `ch` while `S` is untouched. -/
theorem evalRefine_same_set {a a' : Algo} {c : Nat} {vh : Bool} (h : a.evalRefine c vh = some a') :
    (c ∈ a.S ∨ c ∈ a.P) ∧ ∃ p, a.space.nodes[c]? = some p ∧
    (((a.space.maxDepth ≤ p.depth ∨ vh = false) ∧ a' = { a with samples := a.samples + 1 }) ∨
     (p.depth < a.space.maxDepth ∧ vh = true ∧ ∃ sp ch, a.space.refine c = some (sp, ch) ∧
        ((c ∈ a.S ∧ a' = { a with space := sp, S := a.S.filter (fun i => i != c) ++ ch }) ∨
         (c ∉ a.S ∧ c ∈ a.P ∧
            a' = { a with space := sp, P := a.P.filter (fun i => i != c) ++ ch })))) :=
  evalRefine_cases h

/-! ## Invariants over every sequence of operations from the root -/

/-- **Main invariant.**  For every domain dimension `d`, number of objectives `m`, maximum depth
`md` and **every** sequence `ops` of modeling / discarding / ε-covering / evaluate-refine / end-of-round
operations (with arbitrary inputs) that the model can execute from the initial VOGP_AD state:

* `S` and `P` are duplicate-free and disjoint, and every active node (`S ∪ P`) is a leaf;
* the leaves (active ∪ discarded ∪ declared) tile `[0,1]^d`: every point of the cube lies in a leaf
  cell, every leaf cell lies in the cube, two distinct leaves share no interior point
  (in particular the active nodes have pairwise interior-disjoint cells);
* every node has a `d`-dimensional cell whose centre is its point, depth ≥ 1, and side length
  `2^-(depth-1)` in every dimension;
* every member of `P` is at depth exactly `md` (declared designs are finest leaves);
* `max_discretization_depth` and the design space's `max_depth` are still `md`. -/
theorem run_invariant (K : Type*) [Field K] [LinearOrder K] [IsStrictOrderedRing K]
    (d m md : Nat) (ops : List Op) (a : Algo) (h : (Algo.init d m md).run ops = some a) :
    (a.S.Nodup ∧ a.P.Nodup ∧ (∀ i ∈ a.S, i ∉ a.P) ∧ ∀ i, i ∈ a.S ∨ i ∈ a.P → a.space.isLeaf i = true) ∧
    a.space.Tiles K d ∧
    a.space.WF d ∧
    (∀ i ∈ a.P, a.space.depthAt i = some md) ∧
    (a.maxDepth = md ∧ a.space.maxDepth = md) := by
  obtain ⟨hi, ht, hm⟩ := run_inv ((stable_tiles (K := K) d True).and (stable_maxDepth d True md)) ops
    (init_inv d m md) ⟨root_tiles d m md, rfl⟩ h
  have hmd : a.maxDepth = md := by rw [hi.maxEq, hm]
  obtain ⟨hS, hP, hSP, _⟩ := hi.disjoint
  refine ⟨⟨hS, hP, hSP, fun i h => (hi.isLeaf_iff i).mpr (h.elim Or.inl fun h => Or.inr (Or.inl h))⟩, ht,
    hi.wf, ?_, hmd, hm⟩
  intro i hiP
  cases hl : a.latch with
  | true => rw [← hmd]; exact hi.latched hl i (Or.inr hiP)
  | false => rw [hi.unlatched hl] at hiP; exact absurd hiP (by simp)

/-- **Active nodes have pairwise interior-disjoint cells** (corollary of the tiling, spelled out):
two distinct members of `S ∪ P` share no interior point. -/
theorem run_active_disjoint (K : Type*) [Field K] [LinearOrder K] [IsStrictOrderedRing K]
    (d m md : Nat) (ops : List Op) (a : Algo) (h : (Algo.init d m md).run ops = some a)
    (i j : Nat) (hi : i ∈ a.S ∨ i ∈ a.P) (hj : j ∈ a.S ∨ j ∈ a.P) (hne : i ≠ j) :
    ∃ ni nj, a.space.nodes[i]? = some ni ∧ a.space.nodes[j]? = some nj ∧
      IntDisjoint K ni.cell nj.cell := by
  obtain ⟨⟨_, _, _, hleaf⟩, ht, _, _, _⟩ := run_invariant K d m md ops a h
  have hli := hleaf i hi
  have hlj := hleaf j hj
  have hni := List.getElem?_eq_getElem ((Space.isLeaf_iff _ _).mp hli).1
  have hnj := List.getElem?_eq_getElem ((Space.isLeaf_iff _ _).mp hlj).1
  exact ⟨_, _, hni, hnj, ht.disjoint i j _ _ hli hlj hne (Space.cellAt_of_getElem? hni)
    (Space.cellAt_of_getElem? hnj)⟩

/-- **No leaf is lost: leaves = active ∪ discarded.**  After every operation sequence a node is a leaf
(never refined) iff it is in `S`, in `P`, or was removed by some `discarding()` (ghost list `dropped`);
discarded designs never become active again.  Together with `run_invariant` this is "active plus
discarded leaves always tile the unit cube". -/
theorem run_leaves_accounted (d m md : Nat) (ops : List Op) (a : Algo)
    (h : (Algo.init d m md).run ops = some a) :
    (∀ i, a.space.isLeaf i = true ↔ i ∈ a.S ∨ i ∈ a.P ∨ i ∈ a.dropped) ∧
    (∀ i ∈ a.dropped, i ∉ a.S ∧ i ∉ a.P) := by
  obtain ⟨hi, _⟩ := run_inv (stable_true d True) ops (init_inv d m md) trivial h
  exact ⟨hi.isLeaf_iff, hi.disjoint.2.2.2⟩

/-- **Node points are pairwise distinct** (domain dimension ≥ 1): `evaluate_refine` recovers the
candidate's index by comparing its point with the rows of `points`; after every operation sequence no
two nodes of the tree (leaves or internal) share a point, so that lookup is unambiguous. -/
theorem run_points_distinct (d m md : Nat) (hd : 1 ≤ d) (ops : List Op) (a : Algo)
    (h : (Algo.init d m md).run ops = some a) (i j : Nat) (ni nj : Node)
    (hi : a.space.nodes[i]? = some ni) (hj : a.space.nodes[j]? = some nj)
    (heq : ni.point = nj.point) : i = j := by
  have hrun := run_inv (stable_pointsOk hd True) ops (init_inv d m md)
    ⟨root_tiles d m md, root_pointsOk d m md⟩ h
  exact hrun.2.2.inj i j ni.point (by simp [Space.pointAt, hi]) (by simp [Space.pointAt, hj, heq])

/-- **Leaf volumes add up to 1** after every operation sequence (`Space.leafVolume` sums the cell
volumes over `Space.leaves`, the list of never-refined indices): the exact quantity the harness
evaluates on the real arrays. -/
theorem run_leaf_volume (d m md : Nat) (ops : List Op) (a : Algo)
    (h : (Algo.init d m md).run ops = some a) : a.space.leafVolume = 1 :=
  (run_inv (stable_leafVolume d True 1) ops (init_inv d m md) (root_leafVolume d m md) h).2

/-- **No node exceeds the maximum depth** when the maximum depth is at least the root's depth 1:
in a VOGP_AD run every refinement goes through `should_refine_design`. -/
theorem run_depth_bound (d m md : Nat) (hmd : 1 ≤ md) (ops : List Op) (a : Algo)
    (h : (Algo.init d m md).run ops = some a) : ∀ n ∈ a.space.nodes, n.depth ≤ md := by
  obtain ⟨_, hd, hm⟩ := run_inv ((stable_depthOk d).and (stable_maxDepth d True md)) ops
    (init_inv d m md) ⟨root_depthOk d m md hmd, rfl⟩ h
  exact fun n hn => hm ▸ hd n hn

/-- **The latch**: once `enable_epsilon_covering` is set, every active node is at the maximum depth
(so nothing is ever refined again); while it is not set, `P` is empty. -/
theorem run_latch (d m md : Nat) (ops : List Op) (a : Algo)
    (h : (Algo.init d m md).run ops = some a) :
    (a.latch = true → ∀ i, i ∈ a.S ∨ i ∈ a.P → a.space.depthAt i = some md) ∧
    (a.latch = false → a.P = []) := by
  obtain ⟨hi, hm⟩ := run_inv (stable_maxDepth d True md) ops (init_inv d m md) rfl h
  have hmd : a.maxDepth = md := by rw [hi.maxEq, hm]
  exact ⟨fun hl i hmem => by rw [← hmd]; exact hi.latched hl i hmem, hi.unlatched⟩

/-- **Whole rounds.**  Every sequence of `run_one_step()` calls (`Algo.steps`, each with arbitrary
inputs) is a special case of an operation sequence, so all invariants above hold after every round. -/
theorem steps_invariant (K : Type*) [Field K] [LinearOrder K] [IsStrictOrderedRing K]
    (d m md : Nat) (ins : List StepIn) (a : Algo) (h : (Algo.init d m md).steps ins = some a) :
    (a.S.Nodup ∧ a.P.Nodup ∧ (∀ i ∈ a.S, i ∉ a.P) ∧ ∀ i, i ∈ a.S ∨ i ∈ a.P → a.space.isLeaf i = true) ∧
    a.space.Tiles K d ∧ a.space.WF d ∧ (∀ i ∈ a.P, a.space.depthAt i = some md) ∧
    (1 ≤ md → ∀ n ∈ a.space.nodes, n.depth ≤ md) := by
  obtain ⟨ops, ho⟩ := steps_is_run ins h
  obtain ⟨h1, h2, h3, h4, _⟩ := run_invariant K d m md ops a ho
  exact ⟨h1, h2, h3, h4, fun hmd => run_depth_bound d m md hmd ops a ho⟩

/-! ## The design space alone, under any refinement order -/

/-- **Random refinement orders.**  For every sequence of design-space operations (direct
`refine_design`, guarded `should_refine_design → refine_design`, region updates) executed from the
root in which every refinement targets a node that is a leaf at that moment (`Space.leafOnly`): the
node list is well formed (centres, side `2^-(depth-1)`, depth ≥ 1), the leaves tile `[0,1]^d`, and — if
no operation bypasses `should_refine_design` and `md ≥ 1` — no node is deeper than `md`. -/
theorem space_ops_invariant (K : Type*) [Field K] [LinearOrder K] [IsStrictOrderedRing K]
    (d m md : Nat) (ops : List SOp) (s : Space) (ans : List Bool)
    (h : (Space.root d m md).runOps ops = some (s, ans))
    (hleaf : (Space.root d m md).leafOnly ops = true) :
    s.WF d ∧ s.Tiles K d ∧
      (1 ≤ md → ops.all SOp.isGuarded = true → ∀ n ∈ s.nodes, n.depth ≤ md) := by
  obtain ⟨h1, h2⟩ := runOps_inv ops (stable_tiles (K := K) d _) (root_wf d m md) (root_tiles d m md) hleaf h
  refine ⟨h1, h2, fun hmd hg n hn => ?_⟩
  obtain ⟨_, hd, hm⟩ := runOps_inv ops
    (((stable_depthOk d).and (stable_maxDepth d True md)).mono fun _ => hg) (root_wf d m md)
    ⟨root_depthOk d m md hmd, rfl⟩ hleaf h
  exact hm ▸ hd n hn

/-- leaf volumes add up to 1 under any refinement order of leaves -/
theorem space_ops_leaf_volume (d m md : Nat) (ops : List SOp) (s : Space) (ans : List Bool)
    (h : (Space.root d m md).runOps ops = some (s, ans))
    (hleaf : (Space.root d m md).leafOnly ops = true) : s.leafVolume = 1 :=
  (runOps_inv ops (stable_leafVolume d _ 1) (root_wf d m md) (root_leafVolume d m md) hleaf h).2

/-! ## Non-vacuity -/

/-- the four children of the unit square, in `itertools.product` order -/
example : childCells [(0, 1), (0, 1)] =
    [[(0, 1/2), (0, 1/2)], [(0, 1/2), (1/2, 1)], [(1/2, 1), (0, 1/2)], [(1/2, 1), (1/2, 1)]] := by
  decide +kernel

/-- d = 2, maximum depth 3: refine the root, then node 1, then node 6; a fourth guarded request
(node 9, already at depth 3) is refused.  13 nodes, leaves 2,3,4,5,7,8 and 9..12. -/
example :
    ((Space.root 2 2 3).runOps [.guarded 0 true, .guarded 1 true, .refine 6, .guarded 9 true]).map
      (fun r => (r.1.nodes.length, r.1.leaves, r.2, r.1.nodes.map (·.depth))) =
    some (13, [2, 3, 4, 5, 7, 8, 9, 10, 11, 12], [true, true, false],
      [1, 2, 2, 2, 2, 3, 3, 3, 3, 4, 4, 4, 4]) := by
  decide +kernel

example : (Space.root 2 2 3).leafOnly [.guarded 0 true, .guarded 1 true, .refine 6, .guarded 9 true] = true := by
  decide +kernel

/-- a VOGP_AD history in d = 2 with maximum depth 2: round 1 refines the root (children 1..4 join S),
round 2 discards node 3, the latch closes (all of S at depth 2), node 2 is declared, and node 1 — at
maximum depth — is sampled instead of refined. -/
example :
    ((Algo.init 2 2 2).run [.update [(0, [-1, -1], [1, 1])], .discard [], .cover [], .evalRefine 0 true,
        .endRound, .discard [3], .cover [2], .evalRefine 1 true, .endRound]).map
      (fun a => ((a.S, a.P, a.latch, a.dropped), (a.samples, a.round), (a.space.nodes.length, a.space.leaves))) =
    some (([1, 4], [2], true, [3]), (1, 2), (5, [1, 2, 3, 4])) := by
  decide +kernel

/-- the same history as two `run_one_step()` calls -/
example :
    ((Algo.init 2 2 2).steps
        [⟨[(0, [-1, -1], [1, 1])], [], [], 0, true⟩, ⟨[], [3], [2], 1, true⟩]).map
      (fun a => (a.S, a.P, a.latch, a.samples, a.round)) =
    some ([1, 4], [2], true, 1, 2) := by
  decide +kernel

/-- the ε-covering gate is closed while some member of `S` is above the finest level: nothing is
declared even though the geometry says "not covered" -/
example : ((Algo.init 1 2 3).run [.evalRefine 0 true, .cover [1, 2]]).map (fun a => (a.S, a.P, a.latch)) =
    some ([1, 2], [], false) := by
  decide +kernel

/-- an (unreachable) state with a member of `P` below the maximum depth: its children stay in `P` -/
example :
    (Algo.evalRefine { (Algo.init 1 2 3) with S := [], P := [0] } 0 true).map (fun a => (a.S, a.P)) =
    some ([], [1, 2]) := by
  decide +kernel

/-- a concrete point: (1/3, 3/4) of the unit square lies in the second child (here over `ℚ`) -/
example : InCell ([1/3, 3/4] : List ℚ) [(0, 1/2), (1/2, 1)] := by
  simp only [inCell_cons, inCell_nil]
  norm_num

/-- the theorems instantiate at `K := ℝ` ("subsets of ℝ^d"): after the d = 2 history above the leaves
tile `[0,1]²` ⊆ ℝ² -/
example : ∀ a, (Algo.init 2 2 2).run [.evalRefine 0 true, .endRound, .discard [3], .cover [2]] = some a →
    a.space.Tiles ℝ 2 :=
  fun a h => (run_invariant ℝ 2 2 2 _ a h).2.1

example (c : Cell) (x : List ℝ) (hx : InCell x c) : ∃ c' ∈ childCells c, InCell x c' :=
  (children_tile_parent ℝ c).1 x hx

/-! ## EXTENSION — `calculate_design_vh`, `should_refine_design`'s comparison, `compute_beta`

About the `RealLike` terms of `Model/AdaptiveVh.lean` (helpers: `Proofs/AdaptiveVh.lean`), which the
driver evaluates at `Float` against the real functions (ops `vh`, `refine`, `cmp`, `adbeta`).  The
Boolean input `vh` of `Space.shouldRefine` above is `Vh.allLe` of these terms
(`shouldRefine_refines_space`).  Statements about values are at `ℝ` (the same term). -/

section VhTerms

/-- **The term equals the stated closed form** (every constant of the code visible):
`Vh_i = 4·T·(√(C2 + 2·t2 + t3 + t4) + C3)` with `Cki = √var_i / ls_i`,
`T = Cki·(√d/2)·(1/2)^depth`, `C1 = ((√d+1)·√d/2)^d·Cki`, `C2 = 2·log(2·C1²·π²/6)`,
`C3 = 1 + 2.7·√(2d·log 2)`, `t2 = log(2·(depth+1)²·π²·m/(6δ))`, `t3 = depth·log 4`,
`t4 = max(0, −4d·log T)`. -/
theorem vh_closed_form (d m : Nat) (δ : ℝ) (depth : Int) (ls var : ℝ) :
    let Cki := Real.sqrt var / ls
    let T := Cki * (1 / 2 * Real.sqrt d * (1 / 2 : ℝ) ^ depth)
    let C1 := ((Real.sqrt d + 1) * Real.sqrt d / 2) ^ d * Cki
    let C2 := 2 * Real.log (2 * C1 ^ 2 * Real.pi ^ 2 / 6)
    let C3 := 1 + 27 / 10 * Real.sqrt ((2 * d : ℕ) * Real.log 2)
    let t2 := Real.log (2 * ((depth : ℝ) + 1) ^ 2 * Real.pi ^ 2 * m / (6 * δ))
    let t3 := (depth : ℝ) * Real.log 4
    let t4 := max 0 (-(4 * (d : ℝ)) * Real.log T)
    (Vh.vhEntry d m δ depth ls var : ℝ) = 4 * T * (Real.sqrt (C2 + 2 * t2 + t3 + t4) + C3) := by
  intro Cki T C1 C2 C3 t2 t3 t4
  rw [Vh.vhEntry_real, Vh.term4_real, Vh.term1_real, Vh.c2_real, Vh.c1_real, Vh.c3_real, Vh.term2_real,
    Vh.term3_real]

/-- **`Vh` is positive** for a positive kernel variance and lengthscale (domain dimension ≥ 1), at
every depth and for every δ: every entry `calculate_design_vh` returns is `> 0`. -/
theorem vh_pos (d m : Nat) (hd : 1 ≤ d) (δ : ℝ) (pointDepth : Nat) (offset : Int)
    (lsvar : List (ℝ × ℝ)) (h : ∀ p ∈ lsvar, 0 < p.1 ∧ 0 < p.2) :
    (Vh.designVh d m δ pointDepth offset lsvar).length = lsvar.length ∧
    ∀ x ∈ Vh.designVh d m δ pointDepth offset lsvar, 0 < x := by
  refine ⟨by simp [Vh.designVh], ?_⟩
  intro x hx
  obtain ⟨p, hp, rfl⟩ := List.mem_map.mp hx
  exact Vh.vhEntry_pos d m hd δ _ (h p hp).1 (h p hp).2

/-- **`Vh` strictly decreases with the depth** (no restriction on `term4`): one level deeper halves
`term1` while the bracket grows by less than a factor 2, because the radicand grows by at most
`(6 + 4d)·log 2 < C3²`. -/
theorem vh_strictAnti_depth (d m : Nat) (hd : 1 ≤ d) (hm : 0 < m) {δ ls var : ℝ} (hδ : 0 < δ)
    (hls : 0 < ls) (hv : 0 < var) (h h' : Nat) (hlt : h < h') :
    (Vh.vhEntry d m δ (h' : Int) ls var : ℝ) < Vh.vhEntry d m δ (h : Int) ls var := by
  induction h' with
  | zero => exact absurd hlt (Nat.not_lt_zero h)
  | succ k ih =>
    have step : (Vh.vhEntry d m δ ((k + 1 : ℕ) : Int) ls var : ℝ) < Vh.vhEntry d m δ (k : Int) ls var := by
      rw [Nat.cast_succ]
      exact Vh.vhEntry_succ_lt d m hd hm (k : Int) (Int.natCast_nonneg k) hδ hls hv
    rcases Nat.lt_succ_iff_lt_or_eq.mp hlt with hk | rfl
    · exact step.trans (ih hk)
    · exact step

/-- **The refinement threshold `‖Vh‖` strictly decreases with the depth**: one level deeper, a node
needs a strictly smaller posterior `scale·‖std‖` to be refined again (positive hyper-parameters, at
least one objective). -/
theorem vh_norm_strictAnti_depth (d m : Nat) (hd : 1 ≤ d) (hm : 0 < m) {δ : ℝ} (hδ : 0 < δ) (h : Nat)
    (lsvar : List (ℝ × ℝ)) (hne : lsvar ≠ []) (hpos : ∀ p ∈ lsvar, 0 < p.1 ∧ 0 < p.2) :
    (Vh.refineRhs d m δ (h + 1) lsvar : ℝ) < Vh.refineRhs d m δ h lsvar :=
  Vh.refineRhs_succ_lt d m hd hm hδ h lsvar hne hpos

/-- **The depth gate dominates**: at or beyond the maximum depth `should_refine_design` answers
`False` whatever `Vh`, the posterior and the scale are — in every carrier (`Float` included). -/
theorem shouldRefine_depth_gate {α : Type} [RealLike α] [LeB α] (d m : Nat) (δ : α)
    (pointDepth maxDepth : Nat) (h : maxDepth ≤ pointDepth) (lsvar : List (α × α))
    (scale diagCov : List α) :
    Vh.shouldRefine d m δ pointDepth maxDepth lsvar scale diagCov = false :=
  Vh.shouldRefine_gate d m δ pointDepth maxDepth h lsvar scale diagCov

/-- **The decision, at `ℝ`**: refine iff the node is below the maximum depth and, for every entry of
the scale, `scale_j·‖std‖ ≤ ‖Vh‖` (non-strict: a tie refines), `‖std‖² = Σ (√cov_jj)²`,
`‖Vh‖² = Σ Vh_i²`. -/
theorem shouldRefine_real_iff (d m : Nat) (δ : ℝ) (pointDepth maxDepth : Nat) (lsvar : List (ℝ × ℝ))
    (scale diagCov : List ℝ) :
    Vh.shouldRefine d m δ pointDepth maxDepth lsvar scale diagCov = true ↔
      pointDepth < maxDepth ∧
      ∀ s ∈ scale, s * Real.sqrt ((diagCov.map (fun v => Real.sqrt v * Real.sqrt v)).sum) ≤
        Real.sqrt (((Vh.designVh d m δ pointDepth 0 lsvar).map (fun x => x * x)).sum) := by
  by_cases h : pointDepth < maxDepth
  · rw [Vh.shouldRefine_below d m δ pointDepth maxDepth h, Vh.allLe_real]
    simp only [h, true_and, Vh.refineLhs, Vh.refineRhs, Vh.norm_real, List.mem_map, List.map_map,
      forall_exists_index, and_imp, forall_apply_eq_imp_iff₂, Function.comp_def, RealLike.sqrt_real]
  · rw [Vh.shouldRefine_gate d m δ pointDepth maxDepth (Nat.le_of_not_lt h)]
    exact ⟨fun h' => Bool.noConfusion h', fun h' => absurd h'.1 h⟩

/-- **The opaque Boolean of the cell-tree model is this comparison**: feeding
`Vh.allLe (scale·‖std‖) ‖Vh‖` (computed at the node's depth) into `Space.shouldRefine` gives exactly
`Vh.shouldRefine` with the space's maximum depth — so the invariants above (`run_depth_bound`, …)
hold for runs whose comparison results come from the `Vh` term. -/
theorem shouldRefine_refines_space {α : Type} [RealLike α] [LeB α] (s : Space) (i : Nat) (p : Node)
    (hp : s.nodes[i]? = some p) (d m : Nat) (δ : α) (lsvar : List (α × α)) (scale diagCov : List α) :
    s.shouldRefine i (Vh.allLe (Vh.refineLhs scale diagCov) (Vh.refineRhs d m δ p.depth lsvar)) =
      some (Vh.shouldRefine d m δ p.depth s.maxDepth lsvar scale diagCov) := by
  simp only [Space.shouldRefine, hp, Vh.shouldRefine]

/-- **`compute_beta` equals the closed formula and is positive**: for a positive contraction `c`,
`β = (0.1 + √(σ²·log(det(K+I)/σ²) − 2·log δ)) / √c > 0`; and the radicand is non-negative (no NaN)
whenever `0 < σ² ≤ det(K+I)` and `0 < δ ≤ 1`. -/
theorem vogpAdBeta_closed_form (nv δ det : ℝ) {c : ℝ} (hc : 0 < c) :
    Vh.vogpAdBeta nv δ det c =
        (1 / 10 + Real.sqrt (nv * Real.log (det / nv) - 2 * Real.log δ)) / Real.sqrt c ∧
    0 < Vh.vogpAdBeta nv δ det c ∧
    (0 < nv → nv ≤ det → 0 < δ → δ ≤ 1 → 0 ≤ nv * Real.log (det / nv) - 2 * Real.log δ) := by
  have hb : 0 < 1 / 10 + Real.sqrt (nv * Real.log (det / nv) - 2 * Real.log δ) :=
    add_pos_of_pos_of_nonneg (by norm_num) (Real.sqrt_nonneg _)
  rw [Vh.vogpAdBeta_real, show 1 / nv * det = det / nv by ring, Real.sqrt_div (sq_nonneg _),
    Real.sqrt_sq hb.le]
  refine ⟨rfl, div_pos hb (Real.sqrt_pos.mpr hc), ?_⟩
  intro hnv hdet hδ hδ1
  have h1 : 0 ≤ Real.log (det / nv) := Real.log_nonneg ((one_le_div hnv).mpr hdet)
  have h2 : Real.log δ ≤ 0 := Real.log_nonpos hδ.le hδ1
  exact sub_nonneg.mpr ((mul_nonpos_of_nonneg_of_nonpos zero_le_two h2).trans (mul_nonneg hnv.le h1))

/-- non-vacuity of the gate and of the link: a root node (depth 1) of a space with maximum depth 1 is
never refined; with maximum depth 3 the decision is the comparison -/
example (lsvar : List (Float × Float)) (scale diag : List Float) :
    Vh.shouldRefine 2 2 (0.05 : Float) 1 1 lsvar scale diag = false :=
  shouldRefine_depth_gate 2 2 _ 1 1 (le_refl 1) lsvar scale diag

example : (Vh.vhEntry 2 2 (0.05 : ℝ) (3 : Int) 1 1 : ℝ) < Vh.vhEntry 2 2 (0.05 : ℝ) (1 : Int) 1 1 := by
  have := vh_strictAnti_depth 2 2 (by norm_num) (by norm_num) (δ := 0.05) (ls := 1) (var := 1)
    (by norm_num) (by norm_num) (by norm_num) 1 3 (by norm_num)
  exact_mod_cast this

end VhTerms

end VOPy.C18
