import VOPyVerif.Proofs.ConePointed
/-!
# C12 — cone orders are their cones' preorders; bundled cones have the stated geometry

Property theorems only (helper lemmas: `Proofs/ConeOrder.lean`, `ConeOrderRat.lean`, `ConeTheta.lean`, `ConeIce.lean`,
`ConeVec.lean`, `ConePointed.lean`).

* Part A is about the executable relation of `Model/Basic.lean` that the driver runs against
  `PolyhedralConeOrder.dominates` / `OrderingCone.is_inside`: `VOPy.dominates`, `VOPy.inCone` over `Rat`
  (vectors are lists; the length hypotheses are the ones the list model needs because `zipWith`
  truncates).  `Dom`/`MemCone` are the same relation over an arbitrary linearly ordered field.
* Parts B–D are about the `RealLike` constructor terms of `Model/ConeFormulas.lean` (`get2dW`, `cone3D`,
  `iceCreamW`) — the very terms the driver evaluates at `Float` — instantiated at `ℝ`.
  `rdot` is the terms' own dot product; at `ℝ` it is `gdot` (`rdot_is_gdot`), so `MemCone W x` below is
  `∀ w ∈ W, 0 ≤ w · x`.
-/
namespace VOPy.C12
open VOPy VOPy.ConeOrd VOPy.ConeFormulas Real

/-! ## A. The relation -/

/-- `is_inside`: membership in the cone is exactly "every facet inequality `w · x ≥ 0` holds". -/
theorem inCone_iff_facets (W : Mat) (x : Vec) :
    inCone W x = true ↔ ∀ w ∈ W, 0 ≤ dot w x :=
  inCone_iff W x

/-- `dominates(a, b)` is membership of the difference `a − b` in the cone (by definition of the model,
mirroring `is_inside(a - b)`), i.e. every facet inequality holds for the difference. -/
theorem dominates_iff_inCone_diff (W : Mat) (a b : Vec) :
    dominates W a b = inCone W (vsub a b) ∧
    (dominates W a b = true ↔ ∀ w ∈ W, 0 ≤ dot w (vsub a b)) :=
  ⟨rfl, dominates_iff W a b⟩

/-- For vectors of equal length: `a` dominates `b` iff `w · b ≤ w · a` for every facet normal `w`. -/
theorem dominates_iff_facets (W : Mat) (a b : Vec) (h : a.length = b.length) :
    dominates W a b = true ↔ ∀ w ∈ W, dot w b ≤ dot w a :=
  VOPy.dominates_iff_facets W a b h

/-- Reflexive (no hypothesis on lengths or on `W`). -/
theorem dominates_refl (W : Mat) (a : Vec) : dominates W a a = true :=
  VOPy.dominates_refl W a

/-- Transitive on vectors of a common length. -/
theorem dominates_trans (W : Mat) (a b c : Vec) (hab : a.length = b.length) (hbc : b.length = c.length)
    (h1 : dominates W a b = true) (h2 : dominates W b c = true) : dominates W a c = true :=
  VOPy.dominates_trans W a b c hab hbc h1 h2

/-- Invariant under a common translation `t` (all three vectors of the same length). -/
theorem dominates_translate (W : Mat) (a b t : Vec) (ha : a.length = t.length) (hb : b.length = t.length) :
    dominates W (vadd a t) (vadd b t) = dominates W a b :=
  VOPy.dominates_translate W a b t ha hb

/-- Invariant under scaling by a positive constant. -/
theorem dominates_scale (W : Mat) (c : Rat) (hc : 0 < c) (a b : Vec) :
    dominates W (smul c a) (smul c b) = dominates W a b :=
  VOPy.dominates_scale W c hc a b

/-- **Antisymmetric iff pointed.**  On vectors of length `m` the order of `W` is antisymmetric exactly when
`ker W = 0` (the cone `{x | W x ≥ 0}` contains no line). -/
theorem dominates_antisymm_iff_pointed (W : Mat) (m : Nat) :
    (∀ a b : Vec, a.length = m → b.length = m →
        dominates W a b = true → dominates W b a = true → a = b) ↔
    (∀ x : Vec, x.length = m → (∀ w ∈ W, dot w x = 0) → x = List.replicate m 0) := by
  have h := Dom.antisymm_iff_pointed (K := ℚ) W m
  simp only [← dominates_iff_dom, ← dot_eq_gdot] at h
  exact h

/-- The componentwise order is the non-negative orthant: `I x = x`, so membership is `x ≥ 0` entrywise and
`a` dominates `b` iff `b ≤ a` componentwise (`vle`). -/
theorem componentwise_is_orthant (m : Nat) :
    (∀ x : Vec, x.length = m → (inCone (identMat m) x = true ↔ ∀ v ∈ x, 0 ≤ v)) ∧
    (∀ a b : Vec, a.length = m → b.length = m → dominates (identMat m) a b = vle b a) := by
  refine ⟨fun x hx => ?_, dominates_identMat m⟩
  rw [inCone_identMat m x hx]
  simp [allNonneg]

/-- The same laws over **any linearly ordered field** (`Dom W a b := ∀ w ∈ W, 0 ≤ w · (a − b)`), and the
`Rat` model is that relation at `ℚ` and is preserved by the cast into any ordered field (e.g. `ℝ`). -/
theorem order_laws_ordered_field {K : Type} [Field K] [LinearOrder K] [IsStrictOrderedRing K]
    (W : List (List K)) :
    (∀ a, Dom W a a) ∧
    (∀ a b c, a.length = b.length → b.length = c.length → Dom W a b → Dom W b c → Dom W a c) ∧
    (∀ a b t, a.length = t.length → b.length = t.length →
        (Dom W (List.zipWith (· + ·) a t) (List.zipWith (· + ·) b t) ↔ Dom W a b)) ∧
    (∀ (c : K) a b, 0 < c → (Dom W (a.map (c * ·)) (b.map (c * ·)) ↔ Dom W a b)) ∧
    (∀ m, (∀ a b : List K, a.length = m → b.length = m → Dom W a b → Dom W b a → a = b) ↔
        (∀ x : List K, x.length = m → (∀ w ∈ W, gdot w x = 0) → x = List.replicate m 0)) :=
  ⟨Dom.refl W, fun _ _ _ h1 h2 => Dom.trans h1 h2, Dom.translate W,
    fun c a b hc => Dom.scale W c hc a b, Dom.antisymm_iff_pointed W⟩

/-- The `Rat` relation the driver runs is the real-number relation on the casted data. -/
theorem dominates_iff_real (W : Mat) (a b : Vec) :
    (dominates W a b = true ↔
      Dom (W.map (·.map (Rat.cast : ℚ → ℝ))) (a.map (Rat.cast : ℚ → ℝ)) (b.map (Rat.cast : ℚ → ℝ))) ∧
    (inCone W a = true ↔ MemCone (W.map (·.map (Rat.cast : ℚ → ℝ))) (a.map (Rat.cast : ℚ → ℝ))) :=
  ⟨by rw [dom_cast, dominates_iff_dom], by rw [memCone_cast, inCone_iff_memCone]⟩

/-- non-vacuity: a 3-facet cone in the plane, a tie on a facet, a strict failure, and a non-pointed cone -/
example : dominates [[2, -1], [-1, 2], [1, 0]] [2, 1] [1, -1] = true ∧
    dominates [[2, -1], [-1, 2], [1, 0]] [1, -1] [2, 1] = false ∧
    dominates [[1, 1]] [1, -1] [0, 0] = true ∧ dominates [[1, 1]] [0, 0] [1, -1] = true := by
  decide +kernel

/-- **The cone is a convex cone** (what makes the induced relation an order compatible with the vector
structure): it contains the origin, is closed under addition of vectors of one length and under
multiplication by non-negative numbers. -/
theorem inCone_convex_cone (W : Mat) :
    (∀ n, inCone W (List.replicate n 0) = true) ∧
    (∀ x y : Vec, x.length = y.length → inCone W x = true → inCone W y = true →
        inCone W (vadd x y) = true) ∧
    (∀ (c : Rat) (x : Vec), 0 ≤ c → inCone W x = true → inCone W (smul c x) = true) := by
  refine ⟨?_, ?_, ?_⟩
  · intro n
    rw [inCone_iff]
    intro w _
    rw [dot_replicate_zero_right]
  · intro x y hlen hx hy
    rw [inCone_iff] at hx hy ⊢
    intro w hw
    rw [dot_vadd_right w x y hlen]
    exact add_nonneg (hx w hw) (hy w hw)
  · intro c x hc hx
    rw [inCone_iff] at hx ⊢
    intro w hw
    rw [dot_smul_right]
    exact mul_nonneg hc (hx w hw)

/-- **Dominations add up**: if `a` dominates `b` and `c` dominates `d` (all of one length) then `a + c`
dominates `b + d` — the order is compatible with addition on both sides at once, not only with
translating both arguments by the same vector. -/
theorem dominates_add (W : Mat) (a b c d : Vec) (hab : a.length = b.length) (hcd : c.length = d.length)
    (hac : a.length = c.length) (h₁ : dominates W a b = true) (h₂ : dominates W c d = true) :
    dominates W (vadd a c) (vadd b d) = true := by
  rw [VOPy.dominates_iff_facets W a b hab] at h₁
  rw [VOPy.dominates_iff_facets W c d hcd] at h₂
  rw [VOPy.dominates_iff_facets W _ _ (by simp only [vadd_length]; omega)]
  intro w hw
  rw [dot_vadd_right w b d (hab.symm.trans (hac.trans hcd)), dot_vadd_right w a c hac]
  exact add_le_add (h₁ w hw) (h₂ w hw)

/-- non-vacuity for the two laws above on a 3-facet cone -/
example : inCone [[2, -1], [-1, 2], [1, 0]] [1, 1] = true ∧ inCone [[2, -1], [-1, 2], [1, 0]] [2, 3] = true ∧
    inCone [[2, -1], [-1, 2], [1, 0]] (vadd [1, 1] [2, 3]) = true ∧
    dominates [[2, -1], [-1, 2], [1, 0]] (vadd [2, 1] [1, 1]) (vadd [1, 0] [0, 0]) = true := by
  decide +kernel

/-! ## B. The 2-D θ-cone (`get_2d_w`) -/

/-- the terms' dot product at `ℝ` is the generic one used by `MemCone` -/
theorem rdot_is_gdot (a b : List ℝ) : rdot a b = gdot a b := rdot_eq_gdot a b

/-- **The closed form has the angle semantics — for EVERY `θ ∈ (0°, 180°)`, 90° included.**
`get2dWClosed θ` has rows `(-sin(π/4 − h), cos(π/4 − h))`, `(sin(π/4 + h), -cos(π/4 + h))`, `h = θ/2` in radians:
the inward unit normals of the rays at angles `π/4 ∓ h`.  (1) both rows are unit vectors; (2) polar form: a vector
`r·(cos φ, sin φ)` (`r > 0`, polar angle chosen with `|φ − π/4| ≤ π`) lies in the cone iff `|φ − π/4| ≤ θ/2`
— exactly the directions within `θ/2` of the diagonal, boundary included; (3) vector form, no polar angle:
EVERY `x = (x₁, x₂)` lies in the cone iff the angle between `x` and the diagonal is at most `θ/2`, i.e.
`cos(θ/2)·‖x‖ ≤ x·(1,1)/√2`. -/
theorem theta2D_closed_semantics (θdeg : ℝ) (h0 : 0 < θdeg) (h180 : θdeg < 180) :
    (∀ w ∈ get2dWClosed θdeg, w.length = 2 ∧ rdot w w = 1) ∧
    (∀ r φ : ℝ, 0 < r → |φ - π / 4| ≤ π →
      (MemCone (get2dWClosed θdeg) [r * cos φ, r * sin φ] ↔ |φ - π / 4| ≤ (θdeg / 180 * π) / 2)) ∧
    (∀ x1 x2 : ℝ, MemCone (get2dWClosed θdeg) [x1, x2] ↔
      cos ((θdeg / 180 * π) / 2) * √(x1 * x1 + x2 * x2) ≤ (x1 + x2) / √2) := by
  obtain ⟨hh0, hh2⟩ := half_angle_range h0 h180
  have h3 : ∀ x1 x2 : ℝ, MemCone (get2dWClosed θdeg) [x1, x2] ↔
      cos ((θdeg / 180 * π) / 2) * √(x1 * x1 + x2 * x2) ≤ (x1 + x2) / √2 := by
    intro x1 x2
    obtain ⟨hs, hc⟩ := half_angle_sin_cos_pos h0 h180
    rw [show (x1 + x2) / √2 = √2 / 2 * (x1 + x2) by rw [div_eq_mul_one_div, one_div_sqrt2]; ring,
      ← diag_frame_norm x1 x2, ← wedge_iff_norm_le _ _ (√2 / 2 * (x1 + x2)) (√2 / 2 * (x2 - x1)) hc hs
        (Real.cos_sq_add_sin_sq _), get2dWClosed_real, memCone_cons, memCone_singleton, facet1_vec, facet2_vec]
  refine ⟨?_, fun r φ hr hφ => ?_, h3⟩
  · rw [get2dWClosed_real, List.forall_mem_cons, List.forall_mem_singleton]
    exact ⟨⟨rfl, rdot_row1_self _⟩, rfl, rdot_row2_self _⟩
  · -- the polar form is the vector form read on `r (cos φ, sin φ)`
    rw [h3, polar_circular _ r φ hr]
    exact cos_le_cos_iff_abs_le hφ hh0.le (hh2.le.trans (half_le_self Real.pi_pos.le))

/- Full statement of the next two theorems: for every `θdeg ∈ (0, 180)`, `get2dW θdeg = get2dWClosed θdeg`
   (and hence `get2dW θdeg` has the three properties of `theta2D_closed_semantics`).
   NOT provable for the real-number reading of the term at exactly `θdeg = 90`: there the `≤ 90` branch
   evaluates `tan (π/2)`, which is `0` in Mathlib (`Real.tan_pi_div_two`), and the term degenerates
   (`theta2D_term_at_90`).  The Python code is correct at 90 only because `fl(π)/2 ≠ π/2`, so `np.tan` returns
   1.6e16 and the normalised row is `(1, -6e-17)`; that case is covered on the floats by the harness (the real
   matrix is compared with the Float value of `get2dWClosed` and sign-tested at θ = 90).  Everything else —
   both branches of the code — is proved. -/

/-- **`get_2d_w` equals its closed form, both branches** (`0 < θ < 180`): the lower branch (`θ < 90`, rows
`(-tan α, 1)/‖·‖`, `(tan β, -1)/‖·‖`) and the upper branch (`θ > 90`, second row `(-tan β, 1)/‖·‖`) both
normalise to the inward unit normals `get2dWClosed θ`.  Missing for the full statement: `θ = 90` exactly. -/
theorem theta2D_rows_partial (θdeg : ℝ) (h0 : 0 < θdeg) (h180 : θdeg < 180) (h90 : θdeg ≠ 90) :
    get2dW θdeg = get2dWClosed θdeg := by
  rw [get2dWClosed_real]; exact get2dW_closed θdeg h0 h180 h90

/-- **The θ-cone of the code contains exactly the directions within `θ/2` of the diagonal** (`0 < θ < 180`,
`θ ≠ 90`): unit rows; polar form; vector form — the three statements of `theta2D_closed_semantics` for the
matrix `get2dW θ` that mirrors `get_2d_w`.  Missing for the full statement: `θ = 90` exactly. -/
theorem theta2D_semantics_partial (θdeg : ℝ) (h0 : 0 < θdeg) (h180 : θdeg < 180) (h90 : θdeg ≠ 90) :
    (∀ w ∈ get2dW θdeg, w.length = 2 ∧ rdot w w = 1) ∧
    (∀ r φ : ℝ, 0 < r → |φ - π / 4| ≤ π →
      (MemCone (get2dW θdeg) [r * cos φ, r * sin φ] ↔ |φ - π / 4| ≤ (θdeg / 180 * π) / 2)) ∧
    (∀ x1 x2 : ℝ, MemCone (get2dW θdeg) [x1, x2] ↔
      cos ((θdeg / 180 * π) / 2) * √(x1 * x1 + x2 * x2) ≤ (x1 + x2) / √2) := by
  rw [theta2D_rows_partial θdeg h0 h180 h90]
  exact theta2D_closed_semantics θdeg h0 h180

/-- Why `θ = 90` is excluded above: at exactly 90 the real-number term is the degenerate cone with rows
`(0, 1)`, `(0, -1)` (the line `x₂ = 0`), because `Real.tan (π/2) = 0`. -/
theorem theta2D_term_at_90 : get2dW (90 : ℝ) = [[0, 1], [0, -1]] := by
  have e1 : (π / 4 - (90 : ℝ) / 180 * π / 2) = 0 := by ring
  have e2 : (π / 4 + (90 : ℝ) / 180 * π / 2) = π / 2 := by ring
  simp only [get2dW, degToRad_real, RealLike.tan_real, RealLike.pi_real, RealLike.ofNat_real, leb_real,
    Nat.cast_ofNat, Nat.cast_one, le_refl, decide_true, if_true, e1, e2, Real.tan_zero,
    Real.tan_pi_div_two, rnormalize, rnorm, rdivs, rdot_cons, rdot_nil_left, RealLike.sqrt_real,
    List.map_cons, List.map_nil]
  norm_num

/-- non-vacuity (θ = 60°, lower branch; θ = 120°, upper branch): the diagonal is inside, the axis `(1, 0)`
is outside the 60° cone and inside the 120° cone -/
example : MemCone (get2dW (60 : ℝ)) [1, 1] ∧ ¬ MemCone (get2dW (60 : ℝ)) [1, 0] ∧
    MemCone (get2dW (120 : ℝ)) [1, 0] := by
  have hπ := Real.pi_pos
  -- polar form: `(1, 1)` has polar angle `π/4`, `(1, 0)` has polar angle `0`, at distance `π/4` from the diagonal
  have e1 : ([1, 1] : List ℝ) = [√2 * cos (π / 4), √2 * sin (π / 4)] := by
    rw [Real.cos_pi_div_four, Real.sin_pi_div_four, ← mul_div_assoc, sqrt2_mul_self, div_self two_ne_zero]
  have e0 : ([1, 0] : List ℝ) = [1 * cos 0, 1 * sin 0] := by
    rw [Real.cos_zero, Real.sin_zero, mul_one, mul_zero]
  have hq : |0 - π / 4| = π / 4 := by rw [zero_sub, abs_neg, abs_of_pos (by positivity)]
  have hφ : |0 - π / 4| ≤ π := by rw [hq]; linarith only [hπ]
  have h60 := (theta2D_semantics_partial 60 (by norm_num) (by norm_num) (by norm_num)).2.1
  have h120 := (theta2D_semantics_partial 120 (by norm_num) (by norm_num) (by norm_num)).2.1
  refine ⟨?_, ?_, ?_⟩
  · rw [e1, h60 _ _ sqrt2_pos (by rw [sub_self, abs_zero]; exact hπ.le), sub_self, abs_zero]
    positivity
  · rw [e0, h60 _ _ one_pos hφ, hq]
    linarith only [hπ]
  · rw [e0, h120 _ _ one_pos hφ, hq]
    linarith only [hπ]

/-! ## C. The 3-D acute / right / obtuse cones (`ConeOrder3D`) -/

/-- Every bundled 3-D cone has three facet normals of length 3, each a **unit** vector, and the diagonal
`(1,1,1)` is **strictly** inside (every facet value positive). -/
theorem cone3D_unit_rows_diagonal_inside (k : Kind3D) :
    (cone3D (α := ℝ) k).length = 3 ∧
    ∀ w ∈ cone3D (α := ℝ) k, w.length = 3 ∧ rdot w w = 1 ∧ 0 < rdot w [1, 1, 1] := by
  cases k
  · rw [cone3D_acute]
    exact ⟨rfl, scaled_rows (by norm_num) acuteRaw_rows⟩
  · rw [cone3D_right]
    refine ⟨rfl, ?_⟩
    simp only [List.forall_mem_cons, List.not_mem_nil, false_imp_iff, imp_true_iff, and_true, rdot_cons,
      rdot_nil_left, List.length_cons, List.length_nil]
    norm_num
  · rw [cone3D_obtuse]
    exact ⟨rfl, scaled_rows (by norm_num) obtuseRaw_rows⟩

/-- The code divides the whole matrix by the norm of its **first** row; this normalises every row because the
rows of the raw acute/obtuse matrices are cyclic shifts of each other and hence have the same squared norm. -/
theorem cone3D_raw_rows_same_norm :
    (∀ r ∈ acuteRaw (α := ℝ), rdot r r = 21) ∧ (∀ r ∈ obtuseRaw (α := ℝ), rdot r r = 93 / 25) :=
  ⟨fun r hr => (acuteRaw_rows r hr).2.1, fun r hr => (obtuseRaw_rows r hr).2.1⟩

/-- The names mean what they say: the acute cone lies inside the non-negative orthant, the right cone *is*
the orthant, and the obtuse cone contains the orthant. -/
theorem cone3D_names (x1 x2 x3 : ℝ) :
    (MemCone (cone3D .acute) [x1, x2, x3] → 0 ≤ x1 ∧ 0 ≤ x2 ∧ 0 ≤ x3) ∧
    (MemCone (cone3D .right) [x1, x2, x3] ↔ 0 ≤ x1 ∧ 0 ≤ x2 ∧ 0 ≤ x3) ∧
    (0 ≤ x1 ∧ 0 ≤ x2 ∧ 0 ≤ x3 → MemCone (cone3D .obtuse) [x1, x2, x3]) := by
  refine ⟨?_, ?_, ?_⟩
  · rw [cone3D_acute, memCone_map_rscale (inv_pos.mpr (Real.sqrt_pos.mpr (by norm_num)))]
    simp only [MemCone, acuteRaw, RealLike.ofNat_real, List.forall_mem_cons, List.not_mem_nil, false_imp_iff,
      imp_true_iff, and_true, gdot_cons, gdot_nil_left, Nat.cast_ofNat, Nat.cast_one]
    -- the inverse of the raw matrix has non-negative entries
    rintro ⟨f1, f2, f3⟩
    exact ⟨by linear_combination (1 / 9) * f1 + (2 / 9) * f2, by linear_combination (1 / 9) * f2 + (2 / 9) * f3,
      by linear_combination (2 / 9) * f1 + (1 / 9) * f3⟩
  · rw [cone3D_right]
    simp only [MemCone, List.forall_mem_cons, List.not_mem_nil, false_imp_iff, imp_true_iff, and_true, gdot_cons,
      gdot_nil_left, one_mul, zero_mul, add_zero, zero_add]
  · rw [cone3D_obtuse, memCone_map_rscale (inv_pos.mpr (Real.sqrt_pos.mpr (by norm_num)))]
    simp only [MemCone, obtuseRaw, RealLike.ofFrac, RealLike.ofNat_real, List.forall_mem_cons, List.not_mem_nil,
      false_imp_iff, imp_true_iff, and_true, gdot_cons, gdot_nil_left, Nat.cast_ofNat, Nat.cast_one]
    rintro ⟨a1, a2, a3⟩
    refine ⟨?_, ?_, ?_⟩ <;> positivity

/-! ## D. The ice-cream cone (`compute_ice_cream_cone`) -/

/-- **The rotation used is orthogonal.**  `iceRot = I + C sin(π/4) + C²(1 − cos(π/4))` for the axis
`(-1/√2, 1/√2, 0)` has the closed form `rotC`; it preserves dot products (`RᵀR = I`), its rows are orthonormal
(`R Rᵀ = I`), and it maps `e₃` to `iceAxis = (1/2, 1/2, √2/2)`, a unit vector. -/
theorem iceRot_orthogonal :
    iceRot (α := ℝ) = [[1 / 2 + √2 / 4, -1 / 2 + √2 / 4, 1 / 2],
                       [-1 / 2 + √2 / 4, 1 / 2 + √2 / 4, 1 / 2],
                       [-1 / 2, -1 / 2, √2 / 2]] ∧
    (∀ x y z p q r : ℝ,
        rdot (rmatVec iceRot [x, y, z]) (rmatVec iceRot [p, q, r]) = rdot [x, y, z] [p, q, r]) ∧
    (∀ ri ∈ iceRot (α := ℝ), rdot ri ri = 1) ∧
    (∀ r0 r1 r2 : List ℝ, iceRot (α := ℝ) = [r0, r1, r2] → rdot r0 r1 = 0 ∧ rdot r0 r2 = 0 ∧ rdot r1 r2 = 0) ∧
    iceAxis (α := ℝ) = [1 / 2, 1 / 2, √2 / 2] ∧ rdot (iceAxis (α := ℝ)) iceAxis = 1 := by
  refine ⟨iceRot_closed, ?_, ?_, ?_, ?_, ?_⟩
  · intro x y z p q r
    rw [iceRot_closed, rotC_dot]; simp only [rdot_cons, rdot_nil_left, add_zero, add_assoc]
  · rw [iceRot_closed]; exact rotC_rows.1
  · rw [iceRot_closed]; exact rotC_rows.2
  · simp only [iceAxis, iceRot_closed, RealLike.ofNat_real, Nat.cast_zero, Nat.cast_one, rotC_apply]
    simp
  · simp only [iceAxis, iceRot_closed, RealLike.ofNat_real, Nat.cast_zero, Nat.cast_one, rotC_dot]
    ring

/-- **Rows of the ice-cream cone** (`0 < θ < 180`, any `K`): there are `K` rows and row `i` is the rotation of
the unit vector `(cos θ cos aᵢ, cos θ sin aᵢ, sin θ)`, `aᵢ = i·2π/K` — equally spaced around the axis. -/
theorem iceCream_rows (K : Nat) (θdeg : ℝ) (h0 : 0 < θdeg) (h180 : θdeg < 180) :
    iceCreamW K θdeg = (List.range K).map (fun i : Nat =>
      rmatVec iceRot [cos (θdeg * (π / 180)) * cos ((i : ℝ) * (2 * π / K)),
                      cos (θdeg * (π / 180)) * sin ((i : ℝ) * (2 * π / K)),
                      sin (θdeg * (π / 180))]) := by
  unfold iceCreamW
  apply List.map_congr_left
  intro i _
  rw [iceRow_closed K i θdeg h0 h180, iceRot_closed]

/-- **Every facet is tangent to the circular cone.**  For every facet count `K` (in particular all `K ≥ 3`) and
half-angle `θ ∈ (0°, 90°)`, with `d = iceAxis` the rotated axis: the matrix has `K` rows; every row `w` is a
unit 3-vector with `w · d = cos(π/2 − θ)` (angle `π/2 − θ` with the axis); the half-space `{x | w·x ≥ 0}`
contains the whole circular cone `{x | cos θ ‖x‖ ≤ x·d}` of half-angle `θ` about `d` (supporting half-space);
and it touches that cone: some unit vector `x` on the boundary of the circular cone (`cos θ ‖x‖ = x·d`) has
`w·x = 0`, so the facet plane contains the ray through `x`. -/
theorem iceCream_facets_tangent (K : Nat) (θdeg : ℝ) (h0 : 0 < θdeg) (h90 : θdeg < 90) :
    (iceCreamW K θdeg).length = K ∧
    ∀ w ∈ iceCreamW K θdeg,
      w.length = 3 ∧ rdot w w = 1 ∧ rdot w iceAxis = cos (π / 2 - θdeg * (π / 180)) ∧
      (∀ x1 x2 x3 : ℝ, cos (θdeg * (π / 180)) * √(rdot [x1, x2, x3] [x1, x2, x3]) ≤ rdot [x1, x2, x3] iceAxis →
          0 ≤ rdot w [x1, x2, x3]) ∧
      (∃ x : List ℝ, x.length = 3 ∧ rdot x x = 1 ∧
          cos (θdeg * (π / 180)) * √(rdot x x) = rdot x iceAxis ∧ rdot w x = 0) := by
  have h180 : θdeg < 180 := h90.trans (by norm_num)
  have hax : iceAxis (α := ℝ) = rmatVec rotC [0, 0, 1] := by
    simp only [iceAxis, iceRot_closed, RealLike.ofNat_real, Nat.cast_zero, Nat.cast_one]
  refine ⟨by simp [iceCreamW], ?_⟩
  intro w hw
  obtain ⟨i, _, rfl⟩ := List.mem_map.mp hw
  have hθ := Real.sin_sq_add_cos_sq (θdeg * (π / 180))
  have ha := Real.sin_sq_add_cos_sq ((i : ℝ) * (2 * π / K))
  obtain ⟨hwd, hsup, htan⟩ := ice_facet_tangent (ice_sin_pos h0 h180) (ice_cos_pos h0 h90) hθ ha
  rw [iceRow_closed K i θdeg h0 h180, hax, Real.cos_pi_div_two_sub]
  exact ⟨rfl, ice_unit hθ ha, hwd, fun x1 x2 x3 hx => hsup _ rfl hx, htan⟩

/-- Consequently the `K`-facet polyhedral cone contains the circular cone of half-angle `θ` about the rotated
axis (it is an outer approximation whose every facet touches it), and the axis itself is strictly inside. -/
theorem iceCream_contains_circular_cone (K : Nat) (θdeg : ℝ) (h0 : 0 < θdeg) (h90 : θdeg < 90)
    (x1 x2 x3 : ℝ)
    (hx : cos (θdeg * (π / 180)) * √(rdot [x1, x2, x3] [x1, x2, x3]) ≤ rdot [x1, x2, x3] iceAxis) :
    MemCone (iceCreamW K θdeg) [x1, x2, x3] ∧
    ∀ w ∈ iceCreamW K θdeg, 0 < rdot w iceAxis := by
  have h := (iceCream_facets_tangent K θdeg h0 h90).2
  constructor
  · intro w hw
    rw [← rdot_eq_gdot]
    exact (h w hw).2.2.2.1 x1 x2 x3 hx
  · intro w hw
    rw [(h w hw).2.2.1, Real.cos_pi_div_two_sub]
    exact ice_sin_pos h0 (h90.trans (by norm_num))

/-- non-vacuity: the hypotheses are satisfiable and the matrices are the expected size (K = 3 facets, θ = 30°) -/
example : (iceCreamW 3 (30 : ℝ)).length = 3 ∧
    ∀ w ∈ iceCreamW 3 (30 : ℝ), rdot w w = 1 ∧ rdot w iceAxis = cos (π / 2 - 30 * (π / 180)) := by
  have h := iceCream_facets_tangent 3 30 (by norm_num) (by norm_num)
  exact ⟨h.1, fun w hw => ⟨(h.2 w hw).2.1, (h.2 w hw).2.2.1⟩⟩

/-! ## E. The bundled cones are pointed -/

/-- **Every bundled cone is pointed, so its order is antisymmetric (a partial order)**: the componentwise order
in every dimension (on the `Rat` model); the θ-cone for every `θ ∈ (0°, 180°)` (closed form; equal to `get2dW θ`
for `θ ≠ 90` by `theta2D_rows_partial`); the three 3-D cones; and the ice-cream cone for every `K ≥ 3` and
`θ ∈ (0°, 90°)` — this is where `K ≥ 3` is needed: rows 0, 1, 2 are linearly independent because
`2π/K ∈ (0, π)`. -/
theorem bundled_cones_antisymmetric :
    (∀ (m : Nat) (a b : Vec), a.length = m → b.length = m →
        dominates (identMat m) a b = true → dominates (identMat m) b a = true → a = b) ∧
    (∀ θdeg : ℝ, 0 < θdeg → θdeg < 180 → ∀ a b : List ℝ, a.length = 2 → b.length = 2 →
        Dom (get2dWClosed θdeg) a b → Dom (get2dWClosed θdeg) b a → a = b) ∧
    (∀ (k : Kind3D) (a b : List ℝ), a.length = 3 → b.length = 3 →
        Dom (cone3D k) a b → Dom (cone3D k) b a → a = b) ∧
    (∀ K : Nat, 3 ≤ K → ∀ θdeg : ℝ, 0 < θdeg → θdeg < 90 → ∀ a b : List ℝ, a.length = 3 → b.length = 3 →
        Dom (iceCreamW K θdeg) a b → Dom (iceCreamW K θdeg) b a → a = b) := by
  refine ⟨?_, ?_, ?_, ?_⟩
  · intro m
    apply (dominates_antisymm_iff_pointed (identMat m) m).mpr
    intro x hx hk
    have h1 : matVec (identMat m) x = List.replicate m 0 := by
      unfold matVec
      rw [List.map_congr_left hk, List.map_const']
      simp [identMat]
    rw [← matVec_identMat m x hx, h1]
  · intro θdeg h0 h180
    exact (Dom.antisymm_iff_pointed (get2dWClosed θdeg) 2).mpr
      (fun x hx hk => theta2D_kernel θdeg h0 h180 x hx hk)
  · intro k
    exact (Dom.antisymm_iff_pointed (cone3D k) 3).mpr (fun x hx hk => cone3D_kernel k x hx hk)
  · intro K hK θdeg h0 h90
    exact (Dom.antisymm_iff_pointed (iceCreamW K θdeg) 3).mpr
      (fun x hx hk => iceCream_kernel K hK θdeg h0 h90 x hx hk)

/-- non-vacuity of the `K ≥ 3` hypothesis: with `K = 2` facets (opposite azimuths) the cone is NOT pointed in
general — e.g. the model relation for the two facet normals `(1,0,1)`, `(-1,0,1)` has the line `ℝ·(0,1,0)`. -/
example : dominates [[1, 0, 1], [-1, 0, 1]] [0, 1, 0] [0, 0, 0] = true ∧
    dominates [[1, 0, 1], [-1, 0, 1]] [0, 0, 0] [0, 1, 0] = true := by decide +kernel

end VOPy.C12
