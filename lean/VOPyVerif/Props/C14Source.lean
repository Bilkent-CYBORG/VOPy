import VOPyVerif.Props.C14
import VOPyVerif.Proofs.GenAgreeC14
import VOPyVerif.Proofs.RealInst
import Mathlib.Tactic.Ring
/-!
# C14 — SOURCE AGREEMENT obligations (second tie between model and code, DESIGN §2.10)

Property theorems only, same namespace `VOPy.C14` as `Props/C14.lean` (whose theorems are about the
hand-written model and do not depend on anything generated).  The theorems here say that the bounds a
rectangle `update` writes and the centre it reports are the terms regenerated from the current Python source
text (`Gen/C14.lean`, written by `harness/translate.py` on every `./check C14`), that on rational data they
are exactly the entries `rect_update_entries` is about (`μ − σ·a`, `μ + σ·a`), and transfer "centred at
the mean, extends scale × std" to the generated terms.  Translated: `L`, `U`, `center`; pinned: the
definition of `std`; modelled, not translated: `np.sqrt ∘ np.diag` (C14's `std² = cov_jj` check), the
`intersect_iteratively` branch (`Rect.intersect`).
-/
namespace VOPy.C14
open VOPy VOPy.Region

/-- the bounds and the centre as written in the source = the model's terms (polymorphic, `rfl`). -/
theorem source_rect_bounds {α : Type} [RealLike α] (μ σ a lo hi : α) :
    Gen.C14.gen_rectLower μ σ a = rectLowerF μ σ a ∧ Gen.C14.gen_rectUpper μ σ a = rectUpperF μ σ a ∧
    Gen.C14.gen_rectCenter lo hi = rectCenterF lo hi :=
  ⟨GenAgree.C14.gen_rectLower_eq μ σ a, GenAgree.C14.gen_rectUpper_eq μ σ a,
   GenAgree.C14.gen_rectCenter_eq lo hi⟩

/-- **On rational data the source-derived bounds are the entries of `rect_update_entries`**: the casts of
`μ − σ·a` and `μ + σ·a`. -/
theorem source_rect_cast (μ σ a : Rat) :
    Gen.C14.gen_rectLower (μ : ℝ) (σ : ℝ) (a : ℝ) = ((μ - σ * a : Rat) : ℝ) ∧
    Gen.C14.gen_rectUpper (μ : ℝ) (σ : ℝ) (a : ℝ) = ((μ + σ * a : Rat) : ℝ) := by
  constructor
  · rw [Rat.cast_sub, Rat.cast_mul]; rfl
  · rw [Rat.cast_add, Rat.cast_mul]; rfl

/-- **Centred at the mean, extending scale × std — for the source-derived terms, over ℝ.**  The centre the
code reports for the bounds it writes is the predictive mean; the half-width is `σ·a`; and
`lower ≤ upper` exactly when `σ·a ≥ 0`. -/
theorem source_rect_centred (μ σ a : ℝ) :
    Gen.C14.gen_rectCenter (Gen.C14.gen_rectLower μ σ a) (Gen.C14.gen_rectUpper μ σ a) = μ ∧
    Gen.C14.gen_rectUpper μ σ a - Gen.C14.gen_rectLower μ σ a = 2 * (σ * a) ∧
    (Gen.C14.gen_rectLower μ σ a ≤ Gen.C14.gen_rectUpper μ σ a ↔ 0 ≤ σ * a) := by
  refine ⟨?_, ?_, ?_⟩
  · show ((μ - σ * a) + (μ + σ * a)) / ((2 : ℕ) : ℝ) = μ
    push_cast; ring
  · show (μ + σ * a) - (μ - σ * a) = 2 * (σ * a)
    ring
  · show μ - σ * a ≤ μ + σ * a ↔ 0 ≤ σ * a
    rw [sub_eq_add_neg, add_le_add_iff_left, neg_le_self_iff]

/-- non-vacuity: mean 3, std 1/2, scale 4 ↦ [1, 5], centre 3 -/
example : Gen.C14.gen_rectLower (3 : ℝ) (1/2) 4 = 1 ∧ Gen.C14.gen_rectUpper (3 : ℝ) (1/2) 4 = 5 := by
  constructor
  · show (3 : ℝ) - 1/2 * 4 = 1; norm_num
  · show (3 : ℝ) + 1/2 * 4 = 5; norm_num

end VOPy.C14
