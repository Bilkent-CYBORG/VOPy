import VOPyVerif.Proofs.Rect
import VOPyVerif.Proofs.Ellipsoid
import VOPyVerif.Proofs.EllipsoidPosDef
import VOPyVerif.Proofs.InvDominated
import Mathlib.LinearAlgebra.Matrix.Notation
/-!
# C09 — region "is dominated" decides `∀ z ∈ R₁, ∀ z' ∈ R₂ : z' + slack ≽ z`

Property theorems only (helpers in `Proofs/Rect.lean`, `Proofs/Ellipsoid.lean`).  They are about
the executable definitions the driver runs against `confidence_region_is_dominated`:
`Rect.isDominated(Checked/Tol)` and `Ellipsoid.isDominated(Checked/Tol)`, `Ellipsoid.sqrtIneq`.

Inputs of the list model are written `toVec f = List.ofFn f`, `toMat W = List.ofFn (List.ofFn ∘ W)`
for `Fin`-indexed rational data; every well-formed list input (vectors of length `m`, `N × m`
matrix) is of this form.  Real points are `Fin m → ℝ`; rationals enter `ℝ` through `Rat.cast`.

Ellipsoids: the region `(c, Σ, a)` is stated through a factor `L` with `Σ = L Lᵀ`
(`Ell c L a = {c + a·L u | ‖u‖₂ ≤ 1}`, which for invertible `L` is `{z | (z−c)ᵀΣ⁻¹(z−c) ≤ a²}`, the
set the code's constraint `‖Σ^{-1/2}(z − c)‖ ≤ a` describes); the theorems hold for *every* such
factor (`L` real, not necessarily triangular or rational).
-/
namespace VOPy.C09
open VOPy Matrix

variable {m N : ℕ}

/-! ## Shape of the inputs -/

/-- Every vector of length `m` handed to the list model is `toVec f` for its coordinate function. -/
theorem vec_wellformed (l : Vec) (h : l.length = m) : ∃ f : Fin m → ℚ, l = toVec f :=
  ⟨_, (toVec_getElem l h).symm⟩

/-- Every `N × m` matrix (list of `N` rows, each of length `m`) is `toMat F`. -/
theorem mat_wellformed (W : Mat) (hN : W.length = N) (hrows : ∀ w ∈ W, w.length = m) :
    ∃ F : Fin N → Fin m → ℚ, W = toMat F := by
  subst hN
  have hlen : ∀ n : Fin W.length, (W[n.1]'n.2).length = m := fun n => hrows _ (List.getElem_mem n.2)
  exact ⟨fun n i => (W[n.1]'n.2)[i.1]'(lt_of_lt_of_eq i.2 (hlen n).symm),
    List.ofFn_getElem.symm.trans
      (congrArg List.ofFn (funext fun n => (toVec_getElem _ (hlen n)).symm))⟩

/-! ## Rectangles -/

/-- **`hyperrectangle_get_vertices`.**  The model's vertex list of the box `[l, u]` has `2^m`
entries and contains exactly the corner points (each coordinate `l i` or `u i`). -/
theorem rect_vertices_spec (l u : Fin m → ℚ) :
    (Rect.vertices (toVec l) (toVec u)).length = 2 ^ m ∧
    ∀ v, v ∈ Rect.vertices (toVec l) (toVec u) ↔ ∃ f, Rect.IsVertex l u f ∧ v = toVec f :=
  ⟨Rect.vertices_length l u, Rect.mem_vertices_toVec l u⟩

/-- non-vacuity / order: `itertools.product` order, first coordinate slowest, lower before upper -/
example : Rect.vertices [0, 1] [2, 3] = [[0, 1], [0, 3], [2, 1], [2, 3]] := by decide +kernel

/-- **Rectangles, vector slack.**  For boxes with `l ≤ u`, any cone matrix `W` (any number of
facets) and an `m`-vector slack, the vertex-pair double loop of
`RectangularConfidenceRegion.is_dominated` answers `true` exactly when every real point of box 2,
shifted by the slack, dominates every real point of box 1: `∀ z ∈ R₁, ∀ z' ∈ R₂, ∀ n,
0 ≤ w_n·(z' + s − z)`.  The boundary (some functional exactly 0) counts as dominated. -/
theorem rect_isDominated_iff (W : Fin N → Fin m → ℚ) (l1 u1 l2 u2 s : Fin m → ℚ)
    (h1 : ∀ i, l1 i ≤ u1 i) (h2 : ∀ i, l2 i ≤ u2 i) :
    Rect.isDominated (toMat W) (toVec l1) (toVec u1) (toVec l2) (toVec u2) (toVec s) = true ↔
      Rect.Dominated W l1 u1 l2 u2 s := by
  rw [← Rect.isDominatedTol_zero, Rect.isDominatedTol_iff W l1 u1 l2 u2 s 0 h1 h2,
    Rect.dominatedTol_zero]

/-- non-vacuity: two unit squares touching at a corner under the componentwise order — boundary
counts as dominated; moving box 2 down by 1/2 breaks it. -/
example : Rect.isDominated (toMat ![![1, 0], ![0, 1]]) (toVec ![0, 0]) (toVec ![1, 1])
    (toVec ![1, 1]) (toVec ![2, 2]) (toVec ![0, 0]) = true := by decide +kernel
example : Rect.isDominated (toMat ![![1, 0], ![0, 1]]) (toVec ![0, 0]) (toVec ![1, 1])
    (toVec ![1, 1/2]) (toVec ![2, 2]) (toVec ![0, 0]) = false := by decide +kernel
/-- non-vacuity with a non-orthant three-facet cone and a vector slack -/
example : Rect.isDominated (toMat ![![2, -1], ![-1, 2], ![1, 0]]) (toVec ![0, 0]) (toVec ![1, 1])
    (toVec ![5, 5]) (toVec ![6, 6]) (toVec ![1/2, 0]) = true := by decide +kernel

/-- **Rectangles with the slack guard, vector slack.**  With a slack of `m` entries the guard of
`is_dominated` accepts and the answer is the ∀∀ statement with that shift. -/
theorem rect_isDominatedChecked_vector (W : Fin N → Fin m → ℚ) (l1 u1 l2 u2 s : Fin m → ℚ)
    (h1 : ∀ i, l1 i ≤ u1 i) (h2 : ∀ i, l2 i ≤ u2 i) :
    ∃ b, Rect.isDominatedChecked (toMat W) (toVec l1) (toVec u1) (toVec l2) (toVec u2) (toVec s)
        = some b ∧ (b = true ↔ Rect.Dominated W l1 u1 l2 u2 s) := by
  refine ⟨_, ?_, rect_isDominated_iff W l1 u1 l2 u2 s h1 h2⟩
  rw [Rect.isDominatedChecked, toVec_length, Rect.expandSlack_of_length (toVec_length s),
    Option.map_some]

/-- **Rectangles with the slack guard, scalar slack.**  A slack with a single entry `x` (Python
scalar / 0-d / size-1 array) is accepted for every dimension and acts as the shift `(x, …, x)`:
the answer is `true` exactly when `∀ z ∈ R₁, ∀ z' ∈ R₂, ∀ n, 0 ≤ w_n·(z' + x·𝟙 − z)`. -/
theorem rect_isDominatedChecked_scalar (W : Fin N → Fin m → ℚ) (l1 u1 l2 u2 : Fin m → ℚ) (x : ℚ)
    (h1 : ∀ i, l1 i ≤ u1 i) (h2 : ∀ i, l2 i ≤ u2 i) :
    ∃ b, Rect.isDominatedChecked (toMat W) (toVec l1) (toVec u1) (toVec l2) (toVec u2) [x]
        = some b ∧ (b = true ↔ Rect.Dominated W l1 u1 l2 u2 (fun _ => x)) := by
  refine ⟨_, ?_, rect_isDominated_iff W l1 u1 l2 u2 (fun _ => x) h1 h2⟩
  rw [Rect.isDominatedChecked, toVec_length, Rect.expandSlack_singleton, Option.map_some,
    toVec_const]

/-- **The slack-size guard of the rectangle predicate** (`ValueError`): the model rejects a slack
exactly when its size is neither 1 nor the dimension of the first rectangle — for arbitrary list
inputs. -/
theorem rect_guard (W : Mat) (l1 u1 l2 u2 s : Vec) :
    Rect.isDominatedChecked W l1 u1 l2 u2 s = none ↔ s.length ≠ 1 ∧ s.length ≠ l1.length := by
  rw [Rect.isDominatedChecked, Option.map_eq_none_iff]
  exact Rect.expandSlack_eq_none_iff _ s

/-- **Band (rectangles).**  The threshold loop the harness uses for its borderline band decides the
threshold ∀∀ statement `∀ z ∈ R₁, ∀ z' ∈ R₂, ∀ n, t ≤ w_n·(z' + s − z)` … -/
theorem rect_isDominatedTol_iff (W : Fin N → Fin m → ℚ) (l1 u1 l2 u2 s : Fin m → ℚ) (t : ℚ)
    (h1 : ∀ i, l1 i ≤ u1 i) (h2 : ∀ i, l2 i ≤ u2 i) :
    Rect.isDominatedTol (toMat W) (toVec l1) (toVec u1) (toVec l2) (toVec u2) (toVec s) t = true ↔
      Rect.DominatedTol W l1 u1 l2 u2 s t :=
  Rect.isDominatedTol_iff W l1 u1 l2 u2 s t h1 h2

/-- … and is monotone in the threshold, so "true at `+t`" implies the exact verdict `true` and
"false at `−t`" implies the exact verdict `false` (arbitrary list inputs, `t ≥ 0`). -/
theorem rect_band_sandwich (W : Mat) (l1 u1 l2 u2 s : Vec) (t : ℚ) (ht : 0 ≤ t) :
    (Rect.isDominatedTol W l1 u1 l2 u2 s t = true → Rect.isDominated W l1 u1 l2 u2 s = true) ∧
    (Rect.isDominated W l1 u1 l2 u2 s = true → Rect.isDominatedTol W l1 u1 l2 u2 s (-t) = true) := by
  simp only [Rect.isDominatedTol_eq_true, Rect.isDominated_eq_true]
  constructor
  · intro h v1 hv1 v2 hv2 w hw
    exact le_trans ht (h v1 hv1 v2 hv2 w hw)
  · intro h v1 hv1 v2 hv2 w hw
    exact le_trans (neg_nonpos.mpr ht) (h v1 hv1 v2 hv2 w hw)

/-! ## Ellipsoids -/

/-- **The rational decision procedure is correct.**  For rationals `p, b, c, d` with `b, c ≥ 0`:
`sqrtIneq p b c d = true ↔ p − √b − √c ≥ d` over `ℝ` (no square root is computed: two case
distinctions and two squarings). -/
theorem sqrtIneq_correct (p b c d : ℚ) (hb : 0 ≤ b) (hc : 0 ≤ c) :
    Ellipsoid.sqrtIneq p b c d = true ↔ (d : ℝ) ≤ (p : ℝ) - Real.sqrt b - Real.sqrt c :=
  Ellipsoid.sqrtIneq_iff p b c d hb hc

/-- non-vacuity: `5 − √4 − √9 ≥ 0` holds with equality, and fails against `1/1000`;
an irrational instance: `3 − √2 − √2 ≥ 0` (`2√2 ≈ 2.83`) but not `≥ 1/5`. -/
example : Ellipsoid.sqrtIneq 5 4 9 0 = true ∧ Ellipsoid.sqrtIneq 5 4 9 (1/1000) = false ∧
    Ellipsoid.sqrtIneq 3 2 2 0 = true ∧ Ellipsoid.sqrtIneq 3 2 2 (1/5) = false := by decide +kernel

/-- **Minimum of a facet functional over a pair of ellipsoids** (Cauchy–Schwarz, attained):
`t ≤ w·(z' − z)` for all `z ∈ E₁ = {c₁ + a₁L₁u}`, `z' ∈ E₂` iff
`t ≤ w·(c₂ − c₁) − a₁‖L₁ᵀw‖ − a₂‖L₂ᵀw‖`, where `‖Lᵀw‖ = √(wᵀ L Lᵀ w)`. -/
theorem ell_support_min (w c1 c2 : Fin m → ℝ) (L1 L2 : Matrix (Fin m) (Fin m) ℝ) (a1 a2 t : ℝ)
    (ha1 : 0 ≤ a1) (ha2 : 0 ≤ a2) :
    (∀ z ∈ Ellipsoid.Ell c1 L1 a1, ∀ z' ∈ Ellipsoid.Ell c2 L2 a2, t ≤ w ⬝ᵥ (z' - z)) ↔
      t ≤ w ⬝ᵥ (c2 - c1) - a1 * Real.sqrt (w ⬝ᵥ ((L1 * L1ᵀ) *ᵥ w))
        - a2 * Real.sqrt (w ⬝ᵥ ((L2 * L2ᵀ) *ᵥ w)) :=
  Ellipsoid.ell_pair_min w c1 c2 L1 L2 a1 a2 t ha1 ha2

/-- … and that value is attained, so it *is* the optimal value of the code's per-facet SOCP
`min { w·(z' − z) | z ∈ E₁, z' ∈ E₂ }`. -/
theorem ell_support_attained (w c1 c2 : Fin m → ℝ) (L1 L2 : Matrix (Fin m) (Fin m) ℝ) (a1 a2 : ℝ) :
    ∃ z ∈ Ellipsoid.Ell c1 L1 a1, ∃ z' ∈ Ellipsoid.Ell c2 L2 a2,
      w ⬝ᵥ (z' - z) = w ⬝ᵥ (c2 - c1) - a1 * Real.sqrt (w ⬝ᵥ ((L1 * L1ᵀ) *ᵥ w))
        - a2 * Real.sqrt (w ⬝ᵥ ((L2 * L2ᵀ) *ᵥ w)) :=
  Ellipsoid.ell_pair_attained w c1 c2 L1 L2 a1 a2

/-- **Ellipsoids, per-facet slack vector.**  For rational centres, rational symmetric shape
matrices `Σᵢ` that factor as `Σᵢ = Lᵢ Lᵢᵀ` over `ℝ` (i.e. positive semidefinite), radii `aᵢ ≥ 0`,
any cone matrix `W` with `N` facets and a slack with one entry per facet: the model's facet loop
(closed form decided by `sqrtIneq`) answers `true` exactly when
`∀ z ∈ E₁, ∀ z' ∈ E₂, ∀ n, w_n·(z' − z) ≥ −s_n`. -/
theorem ell_isDominated_iff (W : Fin N → Fin m → ℚ) (c1 c2 : Fin m → ℚ)
    (S1 S2 : Fin m → Fin m → ℚ) (a1 a2 : ℚ) (s : Fin N → ℚ) (L1 L2 : Matrix (Fin m) (Fin m) ℝ)
    (hL1 : (Matrix.of fun i j => (S1 i j : ℝ)) = L1 * L1ᵀ)
    (hL2 : (Matrix.of fun i j => (S2 i j : ℝ)) = L2 * L2ᵀ)
    (ha1 : 0 ≤ a1) (ha2 : 0 ≤ a2) :
    Ellipsoid.isDominated (toMat W) (toVec c1) (toMat S1) a1 (toVec c2) (toMat S2) a2 (toVec s)
        = true ↔ Ellipsoid.Dominated W c1 L1 a1 c2 L2 a2 s :=
  Ellipsoid.isDominated_iff W c1 c2 S1 S2 a1 a2 s L1 L2 hL1 hL2 ha1 ha2

/-- non-vacuity: unit discs at `(0,0)` and `(2,2)` touch the boundary on both facets of the
componentwise order (`2 − 1 − 1 = 0`): dominated; at `(2, 3/2)` not; with allowance `1/2` again. -/
example :
    Ellipsoid.isDominated (toMat ![![1, 0], ![0, 1]]) (toVec ![0, 0]) (toMat ![![1, 0], ![0, 1]]) 1
      (toVec ![2, 2]) (toMat ![![1, 0], ![0, 1]]) 1 (toVec ![0, 0]) = true ∧
    Ellipsoid.isDominated (toMat ![![1, 0], ![0, 1]]) (toVec ![0, 0]) (toMat ![![1, 0], ![0, 1]]) 1
      (toVec ![2, 3/2]) (toMat ![![1, 0], ![0, 1]]) 1 (toVec ![0, 0]) = false ∧
    Ellipsoid.isDominated (toMat ![![1, 0], ![0, 1]]) (toVec ![0, 0]) (toMat ![![1, 0], ![0, 1]]) 1
      (toVec ![2, 3/2]) (toMat ![![1, 0], ![0, 1]]) 1 (toVec ![0, 1/2]) = true := by
  decide +kernel
/-- the factorisation hypothesis is satisfiable for a correlated, anisotropic shape:
`[[4, 2], [2, 2]] = L Lᵀ` with `L = [[2, 0], [1, 1]]`. -/
example : (Matrix.of fun i j => ((![![4, 2], ![2, 2]] : Fin 2 → Fin 2 → ℚ) i j : ℝ)) =
    (!![2, 0; 1, 1] : Matrix (Fin 2) (Fin 2) ℝ) * (!![2, 0; 1, 1] : Matrix (Fin 2) (Fin 2) ℝ)ᵀ := by
  rw [← Matrix.ext_iff]
  simp only [Fin.forall_fin_two, mul_apply, Fin.sum_univ_two, transpose_apply, of_apply,
    cons_val_zero, cons_val_one]
  norm_num

/-- **Ellipsoids, regions exactly as the code states them.**  For rational shape matrices that are
positive definite (as real matrices) and radii of *any* sign, the model answers `true` exactly when
`∀ z, z'` with `(z − c₁)ᵀ Σ₁⁻¹ (z − c₁) ≤ a₁²`, `0 ≤ a₁` and `(z' − c₂)ᵀ Σ₂⁻¹ (z' − c₂) ≤ a₂²`, `0 ≤ a₂`
(the feasible sets of the code's constraints `‖Σ^{-1/2}(z − c)‖ ≤ a`), and every facet `n`:
`w_n·(z' − z) ≥ −s_n`.  A negative radius makes its region empty and the answer `true`. -/
theorem ell_isDominated_iff_posDef (W : Fin N → Fin m → ℚ) (c1 c2 : Fin m → ℚ)
    (S1 S2 : Fin m → Fin m → ℚ) (a1 a2 : ℚ) (s : Fin N → ℚ)
    (h1 : (Matrix.of fun i j => (S1 i j : ℝ)).PosDef)
    (h2 : (Matrix.of fun i j => (S2 i j : ℝ)).PosDef) :
    Ellipsoid.isDominated (toMat W) (toVec c1) (toMat S1) a1 (toVec c2) (toMat S2) a2 (toVec s)
        = true ↔
      Ellipsoid.DominatedQ W c1 (Matrix.of fun i j => (S1 i j : ℝ)) a1
        c2 (Matrix.of fun i j => (S2 i j : ℝ)) a2 s := by
  obtain ⟨L1, hL1, hd1⟩ := Ellipsoid.exists_factor_of_posDef _ h1
  obtain ⟨L2, hL2, hd2⟩ := Ellipsoid.exists_factor_of_posDef _ h2
  exact Ellipsoid.isDominated_iff_quad W c1 c2 S1 S2 a1 a2 s L1 L2 hL1 hL2 hd1 hd2

/-- the positive-definiteness hypothesis is satisfiable for a correlated shape:
`xᵀ [[4, 2], [2, 2]] x = (2x₀ + x₁)² + x₁²`. -/
example : (Matrix.of fun i j => ((![![4, 2], ![2, 2]] : Fin 2 → Fin 2 → ℚ) i j : ℝ)).PosDef := by
  refine Matrix.PosDef.of_dotProduct_mulVec_pos ?_ fun x hx => ?_
  · ext i j
    rw [conjTranspose_apply, of_apply, of_apply, star_trivial]
    fin_cases i <;> fin_cases j <;> rfl
  · simp only [dotProduct, Matrix.mulVec, Fin.sum_univ_two, Matrix.of_apply, Pi.star_apply,
      star_trivial, cons_val_zero, cons_val_one, Rat.cast_ofNat]
    rw [show x 0 * (4 * x 0 + 2 * x 1) + x 1 * (2 * x 0 + 2 * x 1) = (2 * x 0 + x 1) ^ 2 + x 1 ^ 2
      by ring]
    -- two squares that vanish together only at `x = 0`
    rcases eq_or_ne (x 1) 0 with h1 | h1
    · have h0 : x 0 ≠ 0 := fun h0 => hx (funext fun i => by fin_cases i <;> assumption)
      rw [h1, add_zero]
      exact add_pos_of_pos_of_nonneg (sq_pos_of_ne_zero (mul_ne_zero two_ne_zero h0)) (sq_nonneg _)
    · exact add_pos_of_nonneg_of_pos (sq_nonneg _) (sq_pos_of_ne_zero h1)

/-- **Ellipsoids with the slack guard.**  A slack with one entry per facet is accepted and used
as is; a single entry `x` is accepted and repeated for every facet. -/
theorem ell_isDominatedChecked (W : Fin N → Fin m → ℚ) (c1 c2 : Fin m → ℚ)
    (S1 S2 : Fin m → Fin m → ℚ) (a1 a2 : ℚ) (s : Fin N → ℚ) (x : ℚ)
    (L1 L2 : Matrix (Fin m) (Fin m) ℝ)
    (hL1 : (Matrix.of fun i j => (S1 i j : ℝ)) = L1 * L1ᵀ)
    (hL2 : (Matrix.of fun i j => (S2 i j : ℝ)) = L2 * L2ᵀ)
    (ha1 : 0 ≤ a1) (ha2 : 0 ≤ a2) :
    (∃ b, Ellipsoid.isDominatedChecked (toMat W) (toVec c1) (toMat S1) a1 (toVec c2) (toMat S2) a2
        (toVec s) = some b ∧ (b = true ↔ Ellipsoid.Dominated W c1 L1 a1 c2 L2 a2 s)) ∧
    (∃ b, Ellipsoid.isDominatedChecked (toMat W) (toVec c1) (toMat S1) a1 (toVec c2) (toMat S2) a2
        [x] = some b ∧ (b = true ↔ Ellipsoid.Dominated W c1 L1 a1 c2 L2 a2 (fun _ => x))) := by
  constructor
  · refine ⟨_, ?_, ell_isDominated_iff W c1 c2 S1 S2 a1 a2 s L1 L2 hL1 hL2 ha1 ha2⟩
    rw [Ellipsoid.isDominatedChecked, toMat_length, Ellipsoid.expandSlack_eq_rect,
      Rect.expandSlack_of_length (toVec_length s), Option.map_some]
  · refine ⟨_, ?_, ell_isDominated_iff W c1 c2 S1 S2 a1 a2 (fun _ => x) L1 L2 hL1 hL2 ha1 ha2⟩
    rw [Ellipsoid.isDominatedChecked, toMat_length, Ellipsoid.expandSlack_eq_rect,
      Rect.expandSlack_singleton, Option.map_some, toVec_const]

/-- **The slack-size guard of the ellipsoid predicate** (`ValueError`): rejected exactly when the
slack size is neither 1 nor the number of facets — arbitrary list inputs. -/
theorem ell_guard (W : Mat) (c1 : Vec) (S1 : Mat) (a1 : ℚ) (c2 : Vec) (S2 : Mat) (a2 : ℚ) (s : Vec) :
    Ellipsoid.isDominatedChecked W c1 S1 a1 c2 S2 a2 s = none ↔
      s.length ≠ 1 ∧ s.length ≠ W.length := by
  rw [Ellipsoid.isDominatedChecked, Option.map_eq_none_iff, Ellipsoid.expandSlack_eq_rect]
  exact Rect.expandSlack_eq_none_iff _ s

/-- **Band (ellipsoids).**  The threshold loop used for the borderline band decides
`∀ z ∈ E₁, ∀ z' ∈ E₂, ∀ n, w_n·(z' − z) ≥ −s_n + t`; hence (the right-hand sides being monotone
in `t`) "true at `+t`" implies the exact verdict `true`, "false at `−t`" implies `false`. -/
theorem ell_isDominatedTol_iff (W : Fin N → Fin m → ℚ) (c1 c2 : Fin m → ℚ)
    (S1 S2 : Fin m → Fin m → ℚ) (a1 a2 : ℚ) (s : Fin N → ℚ) (t : ℚ)
    (L1 L2 : Matrix (Fin m) (Fin m) ℝ)
    (hL1 : (Matrix.of fun i j => (S1 i j : ℝ)) = L1 * L1ᵀ)
    (hL2 : (Matrix.of fun i j => (S2 i j : ℝ)) = L2 * L2ᵀ)
    (ha1 : 0 ≤ a1) (ha2 : 0 ≤ a2) :
    Ellipsoid.isDominatedTol (toMat W) (toVec c1) (toMat S1) a1 (toVec c2) (toMat S2) a2 (toVec s) t
        = true ↔ Ellipsoid.DominatedTol W c1 L1 a1 c2 L2 a2 s t :=
  Ellipsoid.isDominatedTol_iff W c1 c2 S1 S2 a1 a2 s t L1 L2 hL1 hL2 ha1 ha2

/-! ## INVARIANCES — translation, positive scaling, cone-row scaling and permutation

About the executable decisions the driver ops `rect` / `recttol` / `ell` / `elltol` evaluate
(helpers: `Proofs/InvBasic.lean`, `Proofs/InvDominated.lean`).  They hold for *all* inputs of
consistent lengths, with no ordering (`l ≤ u`), positive-definiteness or radius hypotheses; they are
what the harness' metamorphic checks (translated / rescaled / large-offset cases, non-unit and
re-ordered cone rows must give the same verdict) rely on: a decision that looked at relative sizes
(`rtol·|value|`) instead of differences would break them. -/

section Invariance
open VOPy.Inv

/-- **Rectangles: common translation.**  Translating BOTH rectangles by one vector `t` changes neither
the checked verdict (`rect`, any cone matrix, any slack, guard included) nor any band verdict
(`recttol`, any threshold `τ`). -/
theorem rect_isDominated_translate (W : Mat) (l1 u1 l2 u2 s t : Vec)
    (h1 : l1.length = t.length) (h2 : u1.length = t.length) (h3 : l2.length = t.length)
    (h4 : u2.length = t.length) :
    Rect.isDominatedChecked W (vadd l1 t) (vadd u1 t) (vadd l2 t) (vadd u2 t) s =
        Rect.isDominatedChecked W l1 u1 l2 u2 s ∧
    ∀ (s' : Vec) (τ : ℚ),
      Rect.isDominatedTol W (vadd l1 t) (vadd u1 t) (vadd l2 t) (vadd u2 t) s' τ =
        Rect.isDominatedTol W l1 u1 l2 u2 s' τ := by
  exact ⟨map_guard_congr id (by rw [length_vadd _ _ h1, Option.map_id]; rfl)
      fun s' => rect_tol_translate W l1 u1 l2 u2 s' t 0 h1 h2 h3 h4,
    fun s' τ => rect_tol_translate W l1 u1 l2 u2 s' t τ h1 h2 h3 h4⟩

/-- **Rectangles: positive scaling.**  Scaling both rectangles AND the slack by `c > 0` changes neither
the checked verdict nor the band verdicts (threshold scaled alike).  No length hypothesis at all. -/
theorem rect_isDominated_scale (W : Mat) (c : ℚ) (hc : 0 < c) (l1 u1 l2 u2 s : Vec) :
    Rect.isDominatedChecked W (smul c l1) (smul c u1) (smul c l2) (smul c u2) (smul c s) =
        Rect.isDominatedChecked W l1 u1 l2 u2 s ∧
    ∀ (s' : Vec) (τ : ℚ),
      Rect.isDominatedTol W (smul c l1) (smul c u1) (smul c l2) (smul c u2) (smul c s') (c * τ) =
        Rect.isDominatedTol W l1 u1 l2 u2 s' τ := by
  exact ⟨map_guard_congr (smul c) (by rw [smul_length, Rect.expandSlack_smul]) fun s' => by
      simpa only [mul_zero, Rect.isDominatedTol_zero] using rect_tol_scale W c hc l1 u1 l2 u2 s' 0,
    fun s' τ => rect_tol_scale W c hc l1 u1 l2 u2 s' τ⟩

/-- **Rectangles: cone rows may be rescaled and re-ordered.**  Multiplying the rows of `W` by positive
factors `D` (one per row) or permuting them leaves the rectangle verdict unchanged *with the same
slack*: the rectangle slack is an objective-space shift, not a per-facet quantity. -/
theorem rect_isDominated_rows (W : Mat) (l1 u1 l2 u2 s : Vec) :
    (∀ D : Vec, (∀ d ∈ D, 0 < d) → D.length = W.length →
      Rect.isDominatedChecked (List.zipWith smul D W) l1 u1 l2 u2 s =
        Rect.isDominatedChecked W l1 u1 l2 u2 s) ∧
    (∀ W' : Mat, W.Perm W' →
      Rect.isDominatedChecked W' l1 u1 l2 u2 s = Rect.isDominatedChecked W l1 u1 l2 u2 s) := by
  exact ⟨fun D hD hlen => map_guard_congr id Option.map_id'.symm (rect_scaleRows D W hD hlen l1 u1 l2 u2),
    fun W' h => map_guard_congr id Option.map_id'.symm fun s' => (rect_perm h l1 u1 l2 u2 s').symm⟩

/-- **Ellipsoids: common translation of the centres** leaves the checked verdict (`ell`) and every
band verdict (`elltol`) unchanged — any covariances, radii, cone and slack. -/
theorem ell_isDominated_translate (W : Mat) (c1 : Vec) (S1 : Mat) (a1 : ℚ) (c2 : Vec) (S2 : Mat)
    (a2 : ℚ) (s t : Vec) (h1 : c1.length = t.length) (h2 : c2.length = t.length) :
    Ellipsoid.isDominatedChecked W (vadd c1 t) S1 a1 (vadd c2 t) S2 a2 s =
        Ellipsoid.isDominatedChecked W c1 S1 a1 c2 S2 a2 s ∧
    ∀ (s' : Vec) (τ : ℚ),
      Ellipsoid.isDominatedTol W (vadd c1 t) S1 a1 (vadd c2 t) S2 a2 s' τ =
        Ellipsoid.isDominatedTol W c1 S1 a1 c2 S2 a2 s' τ := by
  exact ⟨map_guard_congr id Option.map_id'.symm fun s' => by
      simpa only [Ellipsoid.isDominatedTol_zero, id] using ell_tol_translate W c1 S1 a1 c2 S2 a2 s' t 0 h1 h2,
    fun s' τ => ell_tol_translate W c1 S1 a1 c2 S2 a2 s' t τ h1 h2⟩

/-- **Ellipsoids: homogeneity.**  For `k > 0`: centres `↦ k·c`, slack `↦ k·s` and EITHER every
covariance entry `↦ k²·Σ` (radii `alpha` fixed) OR radii `↦ k·alpha` (covariances fixed) leave the
checked verdict unchanged; band thresholds scale with `k`. -/
theorem ell_isDominated_scale (W : Mat) (k : ℚ) (hk : 0 < k) (c1 : Vec) (S1 : Mat) (a1 : ℚ) (c2 : Vec)
    (S2 : Mat) (a2 : ℚ) (s : Vec) :
    Ellipsoid.isDominatedChecked W (smul k c1) (S1.map (smul (k * k))) a1 (smul k c2)
        (S2.map (smul (k * k))) a2 (smul k s) = Ellipsoid.isDominatedChecked W c1 S1 a1 c2 S2 a2 s ∧
    Ellipsoid.isDominatedChecked W (smul k c1) S1 (k * a1) (smul k c2) S2 (k * a2) (smul k s) =
        Ellipsoid.isDominatedChecked W c1 S1 a1 c2 S2 a2 s ∧
    ∀ (s' : Vec) (τ : ℚ),
      Ellipsoid.isDominatedTol W (smul k c1) (S1.map (smul (k * k))) a1 (smul k c2)
          (S2.map (smul (k * k))) a2 (smul k s') (k * τ) =
        Ellipsoid.isDominatedTol W c1 S1 a1 c2 S2 a2 s' τ := by
  have hg := Rect.expandSlack_smul W.length k s
  exact ⟨map_guard_congr (smul k) hg fun s' => by
      simpa only [mul_zero, Ellipsoid.isDominatedTol_zero] using ell_tol_scale_sigma W k hk c1 S1 a1 c2 S2 a2 s' 0,
    map_guard_congr (smul k) hg fun s' => by
      simpa only [mul_zero, Ellipsoid.isDominatedTol_zero] using ell_tol_scale_alpha W k hk c1 S1 a1 c2 S2 a2 s' 0,
    fun s' τ => ell_tol_scale_sigma W k hk c1 S1 a1 c2 S2 a2 s' τ⟩

/-- **Ellipsoids: a cone row may be rescaled together with its slack entry.**  The ellipsoid slack is
per facet: multiplying row `n` of `W` and entry `n` of the slack by the same `D n > 0` leaves the
verdict unchanged (so non-unit rows with the matching slack `ε·‖w_n‖` decide like unit rows with
`ε`). -/
theorem ell_isDominated_row_scale (W : Mat) (D s : Vec) (hD : ∀ d ∈ D, 0 < d) (hlen : D.length = W.length)
    (hs : s.length = W.length) (c1 : Vec) (S1 : Mat) (a1 : ℚ) (c2 : Vec) (S2 : Mat) (a2 : ℚ) :
    Ellipsoid.isDominatedChecked (List.zipWith smul D W) c1 S1 a1 c2 S2 a2 (List.zipWith (· * ·) D s) =
      Ellipsoid.isDominatedChecked W c1 S1 a1 c2 S2 a2 s := by
  have hDs : (List.zipWith (· * ·) D s).length = (List.zipWith smul D W).length := by
    rw [List.length_zipWith, List.length_zipWith, hs]
  rw [Ellipsoid.isDominatedChecked, Ellipsoid.isDominatedChecked, Ellipsoid.expandSlack_eq_rect,
    Ellipsoid.expandSlack_eq_rect, Rect.expandSlack_of_length hDs, Rect.expandSlack_of_length hs,
    Option.map_some, Option.map_some, ell_scaleRows D W hD hlen]

/-- **Ellipsoids: the facets may be re-ordered** (rows and their slack entries permuted alike). -/
theorem ell_isDominated_row_perm (ws ws' : List (Vec × ℚ)) (h : ws.Perm ws') (c1 : Vec) (S1 : Mat)
    (a1 : ℚ) (c2 : Vec) (S2 : Mat) (a2 : ℚ) :
    Ellipsoid.isDominated (ws.map Prod.fst) c1 S1 a1 c2 S2 a2 (ws.map Prod.snd) =
      Ellipsoid.isDominated (ws'.map Prod.fst) c1 S1 a1 c2 S2 a2 (ws'.map Prod.snd) :=
  ell_perm h c1 S1 a1 c2 S2 a2

/-- non-vacuity, large offset and tiny gap: `[0,1]²` against `[1 + 2⁻²⁰, 2]²` is dominated with
slack 0 and stays so after a translation by `(2²⁰, −2²⁰)`; with the gap reversed (`1 − 2⁻²⁰`) it is
not, before and after -/
example :
    Rect.isDominatedChecked [[1, 0], [0, 1]] [0, 0] [1, 1] [1 + 1 / 1048576, 1 + 1 / 1048576] [2, 2] [0] = some true ∧
    Rect.isDominatedChecked [[1, 0], [0, 1]] (vadd [0, 0] [1048576, -1048576]) (vadd [1, 1] [1048576, -1048576])
      (vadd [1 + 1 / 1048576, 1 + 1 / 1048576] [1048576, -1048576]) (vadd [2, 2] [1048576, -1048576]) [0] = some true ∧
    Rect.isDominatedChecked [[1, 0], [0, 1]] [0, 0] [1, 1] [1 - 1 / 1048576, 1] [2, 2] [0] = some false ∧
    Rect.isDominatedChecked [[1, 0], [0, 1]] (vadd [0, 0] [1048576, -1048576]) (vadd [1, 1] [1048576, -1048576])
      (vadd [1 - 1 / 1048576, 1] [1048576, -1048576]) (vadd [2, 2] [1048576, -1048576]) [0] = some false := by
  decide +kernel

/-- … and for ellipsoids: unit balls with centres `3 + 2⁻²⁰` apart on the first axis
(`3 + 2⁻²⁰ − 1 − 2 ≥ 0`), before and after the offset; radius 2 replaced by `2 + 2⁻¹⁹` flips it -/
example :
    Ellipsoid.isDominatedChecked [[1, 0]] [0, 0] [[1, 0], [0, 1]] 1 [3 + 1 / 1048576, 0] [[1, 0], [0, 1]] 2 [0] = some true ∧
    Ellipsoid.isDominatedChecked [[1, 0]] (vadd [0, 0] [1048576, 7]) [[1, 0], [0, 1]] 1
      (vadd [3 + 1 / 1048576, 0] [1048576, 7]) [[1, 0], [0, 1]] 2 [0] = some true ∧
    Ellipsoid.isDominatedChecked [[1, 0]] (vadd [0, 0] [1048576, 7]) [[1, 0], [0, 1]] 1
      (vadd [3 + 1 / 1048576, 0] [1048576, 7]) [[1, 0], [0, 1]] (2 + 1 / 524288) [0] = some false := by
  decide +kernel

end Invariance

end VOPy.C09
