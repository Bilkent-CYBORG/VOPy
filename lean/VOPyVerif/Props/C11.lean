import VOPyVerif.Proofs.PessimisticComplete2D
import VOPyVerif.Proofs.PessimisticOrthant
import VOPyVerif.Proofs.InvPess
import Mathlib.Tactic.Linarith
/-!
# C11 — pessimistic rectangle comparison is sound, and complete for two-facet 2-D cones

Property theorems only.  They are about `Pess.checkDominates` / `Pess.pessimisticSet`
(`Model/Pessimistic.lean`), the exact-arithmetic instance (`rnd = id`, `snap = false`) of the
literal mirror of `RectangularConfidenceRegion.check_dominates` → `is_pt_in_extended_polytope` →
`line_seg_pt_intersect_at_dim` and of `compute_pessimistic_set`; the driver executes these very
definitions (`cd`, `pess`) and their binary64 instance (`cdf`, `pessf`).

Semantic side (`Proofs/PessimisticSpec.lean`): `PessDom W R₁ R₂` :=
`∀ x ∈ box R₁ ⊂ ℝᵐ, ∃ y ∈ box R₂, ∀ rows w of W, w·(x − y) ≥ 0`; `PessDomQ` is the same over rational
points in the model's own vocabulary (`dominates W x y = true`).  A region is `(lower, upper)`.

Floating point is *not* covered by the completeness theorems: in binary64 the edge path of the
original code could miss (the intersection's own coordinate rounds one ulp above the target) —
finding `complete2x2-float-rounding` of the correspondence harness, repaired in /repo (commit
2e45ea6) by snapping that coordinate; `snap_irrelevant_exact` shows the repair changes nothing in
exact arithmetic.
-/
namespace VOPy.C11
open VOPy VOPy.Pess

/-- **Soundness, every cone and dimension (rational points).**  For every cone matrix `W` (any
number of facets; rows of any length — the model's truncating `dot` is used on both sides), every
rectangle `R₁ = [l1,u1]` and every non-empty rectangle `R₂ = [l2,u2]` (`l2 ≤ u2`, as the
constructor of `RectangularConfidenceRegion` enforces) of the same dimension: if the model of
`check_dominates` answers `true`, then every rational point `x` of `R₁` dominates some point `y`
of `R₂` in the cone order (`dominates W x y`, i.e. `W (x − y) ≥ 0`). -/
theorem checkDominates_sound (W : Mat) (l1 u1 l2 u2 : Vec)
    (hl1 : l1.length = l2.length) (hu1 : u1.length = l2.length)
    (h2 : List.Forall₂ (· ≤ ·) l2 u2)
    (h : checkDominates W l1 u1 l2 u2 = true) :
    PessDomQ W (l1, u1) (l2, u2) := by
  intro x hx
  have := checkDominates_sound_field (L := ℚ) W l1 u1 l2 u2 hl1 hu1 h2 h x
  simp only [castV_rat, gdot_eq_dot] at this
  obtain ⟨y, hy, hlen, hd⟩ := this hx
  exact ⟨y, hy, (dominates_iff_facets W x y hlen).2 hd⟩

/-- **Soundness over the reals, every cone and dimension.**  Same hypotheses; the boxes are the
real boxes with the given (rational, e.g. binary64) bounds: a `true` answer implies that every real
point `x ∈ R₁` has a real `y ∈ R₂` with `w · (x − y) ≥ 0` for every facet row `w` of `W`.  (Every
reported point is a point of a segment between images of two vertices of `R₂`, and `R₂ + C` is
convex, so the vertices of `R₁` suffice.) -/
theorem checkDominates_sound_real (W : Mat) (l1 u1 l2 u2 : Vec)
    (hl1 : l1.length = l2.length) (hu1 : u1.length = l2.length)
    (h2 : List.Forall₂ (· ≤ ·) l2 u2)
    (h : checkDominates W l1 u1 l2 u2 = true) :
    PessDom W (l1, u1) (l2, u2) := by
  intro x hx
  obtain ⟨y, hy, hlen, hd⟩ := checkDominates_sound_field (L := ℝ) W l1 u1 l2 u2 hl1 hu1 h2 h x hx
  exact ⟨y, hy, fun w hw => by rw [gdot_gsub _ x y hlen]; exact sub_nonneg.2 (hd w hw)⟩

/-- **Completeness for two-facet 2-D cones (real boxes), exact arithmetic.**  For
`W = [[a,b],[c,d]]` with `ad − bc ≠ 0` (any opening angle) and a non-empty `R₁` (`l1 ≤ u1`): if every
real point of `R₁` dominates some real point of `R₂`, the model of `check_dominates` answers `true`.
(Only the four vertices of `R₁` are used.  From a witness `y` one walks along `−W⁻¹(1,1)` to the
boundary of `R₂`, which lands on a segment between two vertices; `Pess.seg_hit` then exhibits a
vertex hit or an edge hit of the pair loop.)  The proof does not use `hu1`: it follows from `h1` and
`hl1`. -/
theorem checkDominates_complete_2x2 (a b c d : Rat) (hdet : a * d - b * c ≠ 0) (l1 u1 l2 u2 : Vec)
    (hl1 : l1.length = 2) (hu1 : u1.length = 2) (hl2 : l2.length = 2) (hu2 : u2.length = 2)
    (h1 : List.Forall₂ (· ≤ ·) l1 u1)
    (hsem : PessDom [[a, b], [c, d]] (l1, u1) (l2, u2)) :
    checkDominates [[a, b], [c, d]] l1 u1 l2 u2 = true := by
  obtain ⟨g0, g1, hg, hgC⟩ := cone_vector_2x2 a b c d hdet
  exact checkDominates_complete_vertices_2d (L := ℝ) _ g0 g1 hg hgC l1 u1 l2 u2 hl2 hu2
    (hsem.at_vertices h1 (hl1.trans hl2.symm))

/-- **Completeness for two-facet 2-D cones, rational points.**  The same with the hypothesis over
rational points only, in the model's vocabulary; `hu1` is again implied by `h1` and `hl1` and not
used. -/
theorem checkDominates_complete_2x2_rat (a b c d : Rat) (hdet : a * d - b * c ≠ 0)
    (l1 u1 l2 u2 : Vec)
    (hl1 : l1.length = 2) (hu1 : u1.length = 2) (hl2 : l2.length = 2) (hu2 : u2.length = 2)
    (h1 : List.Forall₂ (· ≤ ·) l1 u1)
    (hsem : PessDomQ [[a, b], [c, d]] (l1, u1) (l2, u2)) :
    checkDominates [[a, b], [c, d]] l1 u1 l2 u2 = true := by
  obtain ⟨g0, g1, hg, hgC⟩ := cone_vector_2x2 a b c d hdet
  exact checkDominates_complete_vertices_2d (L := Rat) _ g0 g1 hg hgC l1 u1 l2 u2 hl2 hu2
    (hsem.at_vertices h1 (hl1.trans hl2.symm))

/-- **The comparison is exact for 2×2 cones.**  For an invertible 2×2 cone matrix and non-empty
2-D rectangles, the model's answer is `true` *iff* every real point of `R₁` dominates some real
point of `R₂`. -/
theorem checkDominates_iff_2x2 (a b c d : Rat) (hdet : a * d - b * c ≠ 0) (R1 R2 : Region)
    (h1 : R1.WF 2) (h2 : R2.WF 2) :
    checkDominates [[a, b], [c, d]] R1.1 R1.2 R2.1 R2.2 = true ↔ PessDom [[a, b], [c, d]] R1 R2 :=
  ⟨fun h => checkDominates_sound_real _ _ _ _ _ (h1.1.trans h2.1.symm) (h1.2.1.trans h2.1.symm) h2.2.2 h,
   fun h => checkDominates_complete_2x2 a b c d hdet _ _ _ _ h1.1 h1.2.1 h2.1 h2.2.1 h1.2.2 h⟩

/-- **Completeness for every 2-D polyhedral cone, any number of facets, exact arithmetic.**  For
any facet list `W` with rows of length 2 (`N = 1, 2, 3, …` facets, redundant or dependent rows
allowed) whose cone `{z | W z ≥ 0}` contains a non-zero vector `g`, and a non-empty `R₁`: if every
real point of `R₁` dominates some real point of `R₂`, the model of `check_dominates` answers `true`.
(The pair loop of `is_pt_in_extended_polytope` runs over *all* pairs of transformed vertices, so
the planar argument needs no structure of `W`: slide the witness along `−g` onto an edge of `R₂`,
then walk along the transformed edge to the first tight coordinate, `Pess.seg_hit`.)  The property
only asks for the two-facet case; in three dimensions the routine is *not* complete, see the
counterexample below.  The proof uses neither `hu1` (implied by `h1` and `hl1`) nor `hW`: the model's
`dot` truncates, so rows of any length act through their first two entries. -/
theorem checkDominates_complete_2d (W : Mat) (hW : ∀ w ∈ W, w.length = 2)
    (g0 g1 : Rat) (hg : g0 ≠ 0 ∨ g1 ≠ 0) (hgC : ∀ w ∈ W, 0 ≤ dot w [g0, g1])
    (l1 u1 l2 u2 : Vec)
    (hl1 : l1.length = 2) (hu1 : u1.length = 2) (hl2 : l2.length = 2) (hu2 : u2.length = 2)
    (h1 : List.Forall₂ (· ≤ ·) l1 u1)
    (hsem : PessDom W (l1, u1) (l2, u2)) :
    checkDominates W l1 u1 l2 u2 = true :=
  checkDominates_complete_vertices_2d (L := ℝ) W g0 g1 hg hgC l1 u1 l2 u2 hl2 hu2
    (hsem.at_vertices h1 (hl1.trans hl2.symm))

/-- **Exactness for every 2-D cone.**  Under the hypotheses of `checkDominates_complete_2d` and
well-formed 2-D regions, the model's answer is `true` iff the real-box relation holds. -/
theorem checkDominates_iff_2d (W : Mat) (hW : ∀ w ∈ W, w.length = 2)
    (g0 g1 : Rat) (hg : g0 ≠ 0 ∨ g1 ≠ 0) (hgC : ∀ w ∈ W, 0 ≤ dot w [g0, g1])
    (R1 R2 : Region) (h1 : R1.WF 2) (h2 : R2.WF 2) :
    checkDominates W R1.1 R1.2 R2.1 R2.2 = true ↔ PessDom W R1 R2 :=
  ⟨fun h => checkDominates_sound_real _ _ _ _ _ (h1.1.trans h2.1.symm) (h1.2.1.trans h2.1.symm) h2.2.2 h,
   fun h => checkDominates_complete_2d W hW g0 g1 hg hgC _ _ _ _ h1.1 h1.2.1 h2.1 h2.2.1 h1.2.2 h⟩

/-- **Completeness for the componentwise order in every dimension.**  For `W = I_m` (the cone of
`ComponentwiseOrder(m)`, multi-objective optimisation) and any `m`: if every real point of a
non-empty `R₁` dominates some real point of `R₂`, the model answers `true` — already by the vertex
test against `lower₂`.  The proof does not use `hu1`: it follows from `h1` and `hl1`. -/
theorem checkDominates_complete_orthant (m : Nat) (l1 u1 l2 u2 : Vec)
    (hl1 : l1.length = m) (hu1 : u1.length = m) (hl2 : l2.length = m) (hu2 : u2.length = m)
    (h1 : List.Forall₂ (· ≤ ·) l1 u1)
    (hsem : PessDom (identMat m) (l1, u1) (l2, u2)) :
    checkDominates (identMat m) l1 u1 l2 u2 = true :=
  checkDominates_complete_nonneg_vertices (L := ℝ) _ (identMat_nonneg m) l1 u1 l2 u2
    (hl2.trans hu2.symm) (hsem.at_vertices h1 (hl1.trans hl2.symm))

/-- **No completeness in three dimensions.**  For the strictly acute 3×3 cone
`W = [[3,-1,-1],[-1,3,-1],[-1,-1,3]]` (invertible), `R₂ = [0,1]³` and `R₁` the single point
`x = (0, 3/8, 1/4)` — which lies *in* `R₂`, so it dominates a point of `R₂`, namely itself — the model
of `check_dominates` answers `false`: `x` sits in the interior of a 2-face of `R₂`, and the routine
only ever looks at segments between pairs of vertices.  So the restriction of the completeness
theorems to 2-D cones cannot be dropped. -/
theorem checkDominates_incomplete_3d :
    PessDomQ [[3, -1, -1], [-1, 3, -1], [-1, -1, 3]] ([0, 3/8, 1/4], [0, 3/8, 1/4]) ([0, 0, 0], [1, 1, 1]) ∧
    checkDominates [[3, -1, -1], [-1, 3, -1], [-1, -1, 3]] [0, 3/8, 1/4] [0, 3/8, 1/4] [0, 0, 0] [1, 1, 1]
      = false := by
  refine ⟨?_, by decide +kernel⟩
  intro x hx
  have hlen := (GInBox.length_eq hx).1
  obtain ⟨x0, x1, x2, rfl⟩ := List.length_eq_three.mp hlen
  simp only [GInBox] at hx
  obtain ⟨a0, b0, a1, b1, a2, b2, _⟩ := hx
  have e0 : x0 = 0 := le_antisymm b0 a0
  have e1 : x1 = 3/8 := le_antisymm b1 a1
  have e2 : x2 = 1/4 := le_antisymm b2 a2
  subst e0 e1 e2
  refine ⟨[0, 3/8, 1/4], ?_, by decide +kernel⟩
  simp only [GInBox]
  norm_num

/-- **Pessimistic set, every cone: nothing undominated is lost.**  For any cone and well-formed
`m`-dimensional regions, every active design that no other active design pessimistically dominates
(in the real-box sense) is in the set computed by the model of `compute_pessimistic_set`; and the
computed set is a sub-list of the active list. -/
theorem pess_set_keeps_undominated (W : Mat) (m : Nat) (regions : List Region) (active : List Nat)
    (hvalid : ∀ i ∈ active, i < regions.length) (hwf : ∀ R ∈ regions, R.WF m) :
    (pessimisticSet W regions active).Sublist active ∧
    ∀ i, ∀ hi : i ∈ active,
      (¬ ∃ j, ∃ hj : j ∈ active, j ≠ i ∧
        PessDom W (regions[j]'(hvalid j hj)) (regions[i]'(hvalid i hi))) →
      i ∈ pessimisticSet W regions active := by
  refine ⟨List.filter_sublist, ?_⟩
  intro i hi hno
  rw [mem_pessimisticSet W regions active hvalid]
  refine ⟨hi, ?_⟩
  rintro ⟨j, hj, hne, hcd⟩
  have wj := hwf _ (List.getElem_mem (hvalid j hj))
  have wi := hwf _ (List.getElem_mem (hvalid i hi))
  exact hno ⟨j, hj, hne,
    checkDominates_sound_real W _ _ _ _ (wj.1.trans wi.1.symm) (wj.2.1.trans wi.1.symm) wi.2.2 hcd⟩

/-- **Pessimistic set, 2×2 cones: exact.**  For an invertible 2×2 cone matrix and well-formed 2-D
regions, the set computed by the model of `compute_pessimistic_set` is exactly the set of active
designs that no *other* active design pessimistically dominates:
`i ∈ Pess ↔ i active ∧ ¬∃ j ≠ i active, ∀ x ∈ R_j ∃ y ∈ R_i, x ≽ y`. -/
theorem pess_set_exact_2x2 (a b c d : Rat) (hdet : a * d - b * c ≠ 0)
    (regions : List Region) (active : List Nat)
    (hvalid : ∀ i ∈ active, i < regions.length) (hwf : ∀ R ∈ regions, R.WF 2) (i : Nat) :
    i ∈ pessimisticSet [[a, b], [c, d]] regions active ↔
      ∃ hi : i ∈ active, ¬ ∃ j, ∃ hj : j ∈ active, j ≠ i ∧
        PessDom [[a, b], [c, d]] (regions[j]'(hvalid j hj)) (regions[i]'(hvalid i hi)) :=
  mem_pessimisticSet_of_iff _ 2 regions active hvalid hwf
    (fun R1 R2 => checkDominates_iff_2x2 a b c d hdet R1 R2) i

/-- **Pessimistic set, every 2-D cone: exact.**  The same for any facet list with rows of length 2
whose cone contains a non-zero vector (any number of facets). -/
theorem pess_set_exact_2d (W : Mat) (hW : ∀ w ∈ W, w.length = 2)
    (g0 g1 : Rat) (hg : g0 ≠ 0 ∨ g1 ≠ 0) (hgC : ∀ w ∈ W, 0 ≤ dot w [g0, g1])
    (regions : List Region) (active : List Nat)
    (hvalid : ∀ i ∈ active, i < regions.length) (hwf : ∀ R ∈ regions, R.WF 2) (i : Nat) :
    i ∈ pessimisticSet W regions active ↔
      ∃ hi : i ∈ active, ¬ ∃ j, ∃ hj : j ∈ active, j ≠ i ∧
        PessDom W (regions[j]'(hvalid j hj)) (regions[i]'(hvalid i hi)) :=
  mem_pessimisticSet_of_iff W 2 regions active hvalid hwf
    (fun R1 R2 => checkDominates_iff_2d W hW g0 g1 hg hgC R1 R2) i

/-- **The repair of the rounding defect is invisible in exact arithmetic.**  The variant of the
model in which `line_seg_pt_intersect_at_dim` ends with
`point_on_line[target_dim] = target_pt[target_dim]` (`snap = true`, the suggested fix for finding
`complete2x2-float-rounding`) returns the same answers as the model of the code as it stands, so
all theorems above apply to both. -/
theorem snap_irrelevant_exact (W : Mat) (l1 u1 l2 u2 : Vec) (regions : List Region)
    (active : List Nat) :
    checkDominatesR exact true W l1 u1 l2 u2 = checkDominates W l1 u1 l2 u2 ∧
    pessimisticSetR exact true W regions active = pessimisticSet W regions active := by
  have h : ∀ l1 u1 l2 u2, checkDominatesR exact true W l1 u1 l2 u2 = checkDominates W l1 u1 l2 u2 := by
    intro l1 u1 l2 u2
    simp only [checkDominates, checkDominatesR, isPtIn_snap]
  refine ⟨h _ _ _ _, ?_⟩
  simp only [pessimisticSet, pessimisticSetR, h]

/-! ## the exact reference used by the correspondence harness (`ref` op of the driver) -/

/-- **Reference verdict `1` is certified.**  If `refDominates` answers `some true` (every vertex of
`R₁` has a *checked* witness), then every real point of `R₁` has a real point `y ∈ R₂` with
`w_i·x − w_i·y ≥ s_i` for every facet row, `s` being the vector of allowances (margins). -/
theorem refDominates_true_certified (W : Mat) (l1 u1 l2 u2 s : Vec)
    (hl1 : l1.length = l2.length) (hu1 : u1.length = l2.length)
    (h : refDominates W l1 u1 l2 u2 s = some true) :
    PessDomS W s (l1, u1) (l2, u2) := by
  have hall : ∀ x ∈ vertices l1 u1, refPoint W x l2 u2 s = some true := by
    unfold refDominates at h
    simp only at h
    split at h
    · simp at h
    · split at h
      · rename_i hall
        simp only [List.all_map, List.all_eq_true, Function.comp, beq_iff_eq] at hall
        exact hall
      · simp at h
  intro x hx
  obtain ⟨_, y, hy, hd⟩ := good_of_rat_vertices (L := ℝ) (facetList W s) l1 u1 l2 u2 hl1 hu1
    (fun v hv => by
      obtain ⟨y, hy⟩ := refPoint_true (hall v hv)
      exact ⟨y, checkWitness_sound hy⟩) x hx
  exact ⟨y, hy, fun p hp => hd (castV p.1, (p.2 : ℝ)) (List.mem_map.mpr ⟨p, hp, rfl⟩)⟩

/-- **Reference verdict `0` is certified.**  If `refDominates` answers `some false` (some vertex of
`R₁` has a *checked* Farkas certificate) and `R₁` is non-empty (`l1 ≤ u1`), then the semantic
statement with allowances `s` fails: that vertex is a point of `R₁` for which no real `y ∈ R₂`
qualifies. -/
theorem refDominates_false_certified (W : Mat) (l1 u1 l2 u2 s : Vec)
    (h1 : List.Forall₂ (· ≤ ·) l1 u1)
    (h : refDominates W l1 u1 l2 u2 s = some false) :
    ¬ PessDomS W s (l1, u1) (l2, u2) := by
  have hex : ∃ x ∈ vertices l1 u1, refPoint W x l2 u2 s = some false := by
    unfold refDominates at h
    simp only at h
    split at h
    · rename_i hany
      simp only [List.any_map, List.any_eq_true, Function.comp, beq_iff_eq] at hany
      exact hany
    · split at h <;> simp at h
  obtain ⟨x, hx, hf⟩ := hex
  obtain ⟨lam, hlam⟩ := refPoint_false hf
  intro hsem
  obtain ⟨y, hy, hd⟩ := hsem (castV x) (GInBox_castV (vertices_in_box h1 x hx))
  exact checkFarkas_sound (L := ℝ) hlam ⟨y, hy, hd⟩

/-- **Margins only strengthen, relaxations only weaken.**  With non-negative allowances the
reference statement implies the property's relation `PessDom`; with non-positive allowances it is
implied by it.  (This is how the harness uses the two reference calls: code `True` must imply the
relaxed statement, the statement with margin must imply code `True` for 2×2 cones.) -/
theorem pessDomS_bracket (W : Mat) (s : Vec) (hs : s.length = W.length) (R1 R2 : Region)
    (hdim : R1.1.length = R2.1.length) :
    ((∀ c ∈ s, 0 ≤ c) → PessDomS W s R1 R2 → PessDom W R1 R2) ∧
    ((∀ c ∈ s, c ≤ 0) → PessDom W R1 R2 → PessDomS W s R1 R2) := by
  have lenxy : ∀ {x y : List ℝ}, GInBox (castV R1.1 : List ℝ) (castV R1.2) x →
      GInBox (castV R2.1 : List ℝ) (castV R2.2) y → x.length = y.length := by
    intro x y hx hy
    rw [(GInBox.length_eq hx).1, (GInBox.length_eq hy).1]; simp [hdim]
  constructor
  · intro hnn hS x hx
    obtain ⟨y, hy, hd⟩ := hS x hx
    refine ⟨y, hy, ?_⟩
    intro w hw
    obtain ⟨i, hi, rfl⟩ := List.getElem_of_mem hw
    have hi' : i < s.length := hs ▸ hi
    have hmem : (W[i], s[i]) ∈ facetList W s := by
      rw [List.mem_iff_getElem]
      exact ⟨i, by simp [hi, hi'], by simp⟩
    have h1 := hd _ hmem
    have h2 : (0 : ℝ) ≤ (s[i] : ℝ) := Rat.cast_nonneg.mpr (hnn _ (List.getElem_mem hi'))
    rw [gdot_gsub _ x y (lenxy hx hy)]
    simp only at h1
    linarith
  · intro hnp hP x hx
    obtain ⟨y, hy, hd⟩ := hP x hx
    refine ⟨y, hy, ?_⟩
    intro p hp
    have hw : p.1 ∈ W := (List.of_mem_zip hp).1
    have hsi : p.2 ∈ s := (List.of_mem_zip hp).2
    have h1 := hd p.1 hw
    have h2 : (p.2 : ℝ) ≤ 0 := by exact_mod_cast hnp _ hsi
    rw [gdot_gsub _ x y (lenxy hx hy)] at h1
    linarith

/-! ## non-vacuity -/

/-- vertex path: the orthant cone, `R₁ = [1,2]²` against `R₂ = [0,1]²` -/
example : checkDominates [[1, 0], [0, 1]] [1, 1] [2, 2] [0, 0] [1, 1] = true := by decide +kernel

/-- edge path only: `acute2` cone, `R₁` the point `(1/2, 1/8)` just above the bottom edge of
`R₂ = [0,1]²`; no vertex of `R₂` is dominated (path code 2), yet the answer is `true` … -/
example : checkDominates [[2, -1], [-1, 2]] [1/2, 1/8] [1/2, 1/8] [0, 0] [1, 1] = true ∧
    isPtInPath exact false (matVec [[2, -1], [-1, 2]] [1/2, 1/8])
      ((vertices [0, 0] [1, 1]).map (matVec [[2, -1], [-1, 2]])) = 2 := by
  decide +kernel

/-- … and a negative instance (the point `(1/2, -1/8)` below the edge). -/
example : checkDominates [[2, -1], [-1, 2]] [1/2, -1/8] [1/2, -1/8] [0, 0] [1, 1] = false := by
  decide +kernel

/-- the hypotheses of the 2×2 theorems are satisfiable: `acute2` is invertible, the regions are
well-formed -/
example : (2 : Rat) * 2 - (-1) * (-1) ≠ 0 ∧ Region.WF 2 ([1/2, 1/8], [1/2, 1/8]) ∧
    Region.WF 2 ([0, 0], [1, 1]) := by
  refine ⟨by norm_num, ⟨rfl, rfl, ?_⟩, ⟨rfl, rfl, ?_⟩⟩ <;> simp

/-- a three-design pessimistic set under the orthant cone: design 0 is dominated by design 1 -/
example : pessimisticSet [[1, 0], [0, 1]]
    [([0, 0], [1, 1]), ([1, 1], [2, 2]), ([5, -5], [6, -4])] [0, 1, 2] = [1, 2] := by
  decide +kernel

/-- hypotheses of the general 2-D theorem are satisfiable with three facets (`threefacet2`,
`g = (1,1)`), and the answer there goes through the edge path -/
example : (∀ w ∈ [[2, -1], [-1, 2], [1, 0]], w.length = 2) ∧ ((1 : Rat) ≠ 0 ∨ (1 : Rat) ≠ 0) ∧
    (∀ w ∈ [[2, -1], [-1, 2], [(1 : Rat), 0]], 0 ≤ dot w [1, 1]) ∧
    checkDominates [[2, -1], [-1, 2], [1, 0]] [1/2, 1/8] [1/2, 1/8] [0, 0] [1, 1] = true := by
  refine ⟨by decide, Or.inl one_ne_zero, by decide +kernel, by decide +kernel⟩

/-- the reference certifies both verdicts on the two instances above (margin `1/100`, relaxation
`-1/100`) -/
example : refDominates [[2, -1], [-1, 2]] [1/2, 1/8] [1/2, 1/8] [0, 0] [1, 1] [1/100, 1/100] = some true ∧
    refDominates [[2, -1], [-1, 2]] [1/2, -1/8] [1/2, -1/8] [0, 0] [1, 1] [-1/100, -1/100] = some false := by
  decide +kernel

/-! ## INVARIANCES — common translation and positive scaling

About the executable `checkDominates` / `pessimisticSet` the driver ops `cd` / `pess` evaluate
(helpers: `Proofs/InvPess.lean`); they hold for every cone matrix (no completeness hypothesis, any
number of facets, any dimension) and need neither `l ≤ u` nor row lengths.  They justify the
harness' large-offset and rescaled families: a relative tolerance in `is_pt_in_extended_polytope` /
`line_seg_pt_intersect_at_dim` would break exactly these equalities. -/

section Invariance

/-- **`check_dominates` is translation invariant**: translating BOTH rectangles by one vector `τ`
does not change the answer (every mapped vertex moves by `W τ`; the vertex test compares
differences, the edge path uses `(c−a)/(b−a)` and `x + t·(y−x)`). -/
theorem checkDominates_translate (W : Mat) (l1 u1 l2 u2 τ : Vec)
    (h1 : l1.length = τ.length) (h2 : u1.length = τ.length) (h3 : l2.length = τ.length)
    (h4 : u2.length = τ.length) :
    checkDominates W (vadd l1 τ) (vadd u1 τ) (vadd l2 τ) (vadd u2 τ) = checkDominates W l1 u1 l2 u2 :=
  PessInv.checkDominates_translate W l1 u1 l2 u2 τ h1 h2 h3 h4

/-- **`check_dominates` is invariant under a positive scaling** of both rectangles (no hypothesis on
lengths at all). -/
theorem checkDominates_scale (W : Mat) (k : Rat) (hk : 0 < k) (l1 u1 l2 u2 : Vec) :
    checkDominates W (smul k l1) (smul k u1) (smul k l2) (smul k u2) = checkDominates W l1 u1 l2 u2 :=
  PessInv.checkDominates_scale W k hk l1 u1 l2 u2

/-- **The pessimistic set is invariant under a common translation of all rectangles** (regions of one
dimension), and under a common positive scaling: the same designs are kept, in the same order, for
every active list (indices out of range included). -/
theorem pess_set_translate_scale (W : Mat) (regions : List Region) (active : List Nat) :
    (∀ τ : Vec, (∀ r ∈ regions, r.1.length = τ.length ∧ r.2.length = τ.length) →
      pessimisticSet W (regions.map fun r => (vadd r.1 τ, vadd r.2 τ)) active =
        pessimisticSet W regions active) ∧
    (∀ k : Rat, 0 < k →
      pessimisticSet W (regions.map fun r => (smul k r.1, smul k r.2)) active =
        pessimisticSet W regions active) := by
  constructor
  · intro τ h
    exact PessInv.pessimisticSet_map (fun r => (vadd r.1 τ, vadd r.2 τ)) W regions active
      (fun rj hj ri hi => PessInv.checkDominates_translate W rj.1 rj.2 ri.1 ri.2 τ (h rj hj).1 (h rj hj).2
        (h ri hi).1 (h ri hi).2)
  · intro k hk
    exact PessInv.pessimisticSet_map (fun r => (smul k r.1, smul k r.2)) W regions active
      (fun rj _ ri _ => PessInv.checkDominates_scale W k hk rj.1 rj.2 ri.1 ri.2)

/-- non-vacuity, large offset and tiny gap (edge path, `acute2`): the point `(1/2, 2⁻²⁰)` just above
the bottom edge of `[0,1]²` is pessimistically dominated, `(1/2, −2⁻²⁰)` is not; both answers
survive the offset `(2²⁰, −2²⁰)` and the scaling by `2⁻²⁰` -/
example :
    checkDominates [[2, -1], [-1, 2]] [1/2, 1/1048576] [1/2, 1/1048576] [0, 0] [1, 1] = true ∧
    checkDominates [[2, -1], [-1, 2]] (vadd [1/2, 1/1048576] [1048576, -1048576])
      (vadd [1/2, 1/1048576] [1048576, -1048576]) (vadd [0, 0] [1048576, -1048576])
      (vadd [1, 1] [1048576, -1048576]) = true ∧
    checkDominates [[2, -1], [-1, 2]] [1/2, -1/1048576] [1/2, -1/1048576] [0, 0] [1, 1] = false ∧
    checkDominates [[2, -1], [-1, 2]] (vadd [1/2, -1/1048576] [1048576, -1048576])
      (vadd [1/2, -1/1048576] [1048576, -1048576]) (vadd [0, 0] [1048576, -1048576])
      (vadd [1, 1] [1048576, -1048576]) = false ∧
    checkDominates [[2, -1], [-1, 2]] (smul (1/1048576) [1/2, 1/1048576]) (smul (1/1048576) [1/2, 1/1048576])
      (smul (1/1048576) [0, 0]) (smul (1/1048576) [1, 1]) = true := by
  decide +kernel

/-- the three-design pessimistic set of the example above, all rectangles moved by `(2²⁰, 2²⁰)` -/
example : pessimisticSet [[1, 0], [0, 1]]
    ([([0, 0], [1, 1]), ([1, 1], [2, 2]), ([5, -5], [6, -4])].map
      fun r => (vadd r.1 [1048576, 1048576], vadd r.2 [1048576, 1048576])) [0, 1, 2] = [1, 2] := by
  decide +kernel

end Invariance

end VOPy.C11
