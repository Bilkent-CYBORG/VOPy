import VOPyVerif.Proofs.StepsAuer
import VOPyVerif.Proofs.StepsCover
/-!
# C03 — a design enters P exactly when no active region can still ε-cover it; U; Auer's hold-back

Property theorems only, about the executable transitions of `Model/Steps.lean` that driver_c03
runs against the real `pareto_updating()` / `useful_updating()` / `epsiloncovering()`.  As in C02
everything is *parametric in the oracle* `isCov i j` ("region i can be ε-covered by region j with
the algorithm's slack"); C10 connects it to `∃z∈R_i ∃z'∈R_j : z' ≽ z ⊕ slack`.  For Auer the rule is
spelled out on centres and on each design's own width row, and the code's positional lookup is
related to it (equal when nothing was discarded in between, different in general — DESIGN §5 D2).
-/
namespace VOPy.C03
open VOPy VOPy.Steps

/-! ## PaVeBa, PaVeBaGP, PaVeBaPartialGP -/

/-- **P-entry ⇔ nothing can still ε-cover (PaVeBa family).**  `S` is the candidate set after
discarding.  A design is new in `P` exactly when it was a candidate and no *other* active design
`j ∈ A = S ∪ U` has a region that can still ε-cover its region. -/
theorem paveba_pareto_new_iff (isCov : Rel) (S P U : List Nat) (i : Nat) :
    (i ∈ (pavebaPareto isCov S P U).2 ∧ i ∉ P) ↔
      (i ∈ S ∧ i ∉ P ∧ ∀ j, (j ∈ S ∨ j ∈ U) → j ≠ i → isCov i j = false) := by
  simp only [pavebaPareto]
  rw [mem_addAll_new, mem_pavebaNewPareto, and_right_comm, and_assoc]

/-- **Members never leave P**: the old `P` is a prefix of the new one; the new `P` is a set. -/
theorem paveba_P_mono (isCov : Rel) (S P U : List Nat) :
    P <+: (pavebaPareto isCov S P U).2 ∧ (∀ x ∈ P, x ∈ (pavebaPareto isCov S P U).2) ∧
      (P.Nodup → (pavebaPareto isCov S P U).2.Nodup) :=
  ⟨addAll_prefix _ _, fun _ hx => mem_addAll.mpr (Or.inl hx), nodup_addAll⟩

/-- **Remaining candidates**: a candidate stays in `S` exactly when some other active region can
still ε-cover it. -/
theorem paveba_pareto_S_iff (isCov : Rel) {S : List Nat} (P U : List Nat) (hS : S.Nodup) (i : Nat) :
    i ∈ (pavebaPareto isCov S P U).1 ↔
      (i ∈ S ∧ ∃ j, (j ∈ S ∨ j ∈ U) ∧ j ≠ i ∧ isCov i j = true) := by
  simp only [pavebaPareto, pavebaNewPareto]
  rw [mem_removeAll_filter_not hS, anyOther_iff]
  simp only [mem_union]

/-- **Closed form**: the literal loops equal the one-line specification (order preserved):
`S' = [i ∈ S | some other active region can cover i]`. -/
theorem paveba_pareto_eq_filter (isCov : Rel) {S : List Nat} (P U : List Nat) (hS : S.Nodup) :
    (pavebaPareto isCov S P U).1 =
      S.filter (fun i => anyOther (fun j => isCov i j) i (union S U)) :=
  (removeAll_filter hS _).trans (List.filter_congr fun _ _ => Bool.not_not _)

/-- Every candidate is accounted for: it either stays in `S` or is in the new `P`, never both
(given `S ∩ P = ∅`). -/
theorem paveba_pareto_partition (isCov : Rel) {S : List Nat} (P U : List Nat) (hS : S.Nodup)
    (hSP : ∀ x ∈ S, x ∉ P) (i : Nat) (hi : i ∈ S) :
    (i ∈ (pavebaPareto isCov S P U).1 ∧ i ∉ (pavebaPareto isCov S P U).2) ∨
      (i ∉ (pavebaPareto isCov S P U).1 ∧ i ∈ (pavebaPareto isCov S P U).2) := by
  simp only [pavebaPareto]
  rw [mem_removeAll hS, mem_addAll]
  by_cases h : i ∈ pavebaNewPareto isCov S U
  · exact Or.inr ⟨fun h' => h'.2 h, Or.inr h⟩
  · exact Or.inl ⟨⟨hi, h⟩, fun h' => h'.elim (hSP i hi) h⟩

/-- **Useful set.**  `U'` is exactly the set of members of `P` whose region can still ε-cover the
region of a remaining candidate (`isCov s p`: region `s` covered by region `p`). -/
theorem paveba_useful_iff (isCov : Rel) (S P : List Nat) (p : Nat) :
    p ∈ pavebaUseful isCov S P ↔ (p ∈ P ∧ ∃ s ∈ S, isCov s p = true) :=
  mem_pavebaUseful

/-- `U' ⊆ P` (sublist), so `U'` is a set when `P` is. -/
theorem paveba_useful_subset (isCov : Rel) (S P : List Nat) :
    (pavebaUseful isCov S P).Sublist P := List.filter_sublist

/-- **The property's wording (PaVeBa family).**  With regions `R i` and `cov z z'` = "`z'`
dominates `z` shifted by the ε-slack", the oracle deciding the ∃∃ statement (C10): a candidate
moves to `P` exactly when no other active design's region can still ε-cover its region — there
are no points `z ∈ R_i`, `z' ∈ R_j` with `cov z z'`. -/
theorem paveba_entry_semantic {α : Type} (R : Nat → α → Prop) (cov : α → α → Prop) (isCov : Rel)
    (hC10 : ∀ i j, isCov i j = true ↔ ∃ z, R i z ∧ ∃ z', R j z' ∧ cov z z')
    (S P U : List Nat) (i : Nat) :
    (i ∈ (pavebaPareto isCov S P U).2 ∧ i ∉ P) ↔
      (i ∈ S ∧ i ∉ P ∧ ∀ j, (j ∈ S ∨ j ∈ U) → j ≠ i →
        ¬ ∃ z, R i z ∧ ∃ z', R j z' ∧ cov z z') := by
  rw [paveba_pareto_new_iff]
  simp only [← Bool.not_eq_true, hC10]

/-- **The property's wording for `U`**: the useful designs are exactly the members of `P` whose
region can still ε-cover the region of a remaining candidate. -/
theorem paveba_useful_semantic {α : Type} (R : Nat → α → Prop) (cov : α → α → Prop) (isCov : Rel)
    (hC10 : ∀ i j, isCov i j = true ↔ ∃ z, R i z ∧ ∃ z', R j z' ∧ cov z z')
    (S P : List Nat) (p : Nat) :
    p ∈ pavebaUseful isCov S P ↔
      (p ∈ P ∧ ∃ s ∈ S, ∃ z, R s z ∧ ∃ z', R p z' ∧ cov z z') := by
  rw [paveba_useful_iff]
  simp only [hC10]

/-- **Whole round (PaVeBa family).**  After `discarding(); pareto_updating(); useful_updating()`:
a design is new in `P` iff it survived discarding and no other design of
`A' = S_afterDiscard ∪ U` can still ε-cover it; and `U'` is the set of members of the new `P`
that can still ε-cover a member of the new `S`. -/
theorem paveba_round_iff (isDom isCov : Rel) (S P U : List Nat) (i : Nat) :
    ((i ∈ (pavebaRound isDom isCov S P U).2.1 ∧ i ∉ P) ↔
      (i ∈ pavebaDiscard isDom S U ∧ i ∉ P ∧
        ∀ j, (j ∈ pavebaDiscard isDom S U ∨ j ∈ U) → j ≠ i → isCov i j = false)) ∧
    (i ∈ (pavebaRound isDom isCov S P U).2.2 ↔
      (i ∈ (pavebaRound isDom isCov S P U).2.1 ∧
        ∃ s ∈ (pavebaRound isDom isCov S P U).1, isCov s i = true)) :=
  ⟨paveba_pareto_new_iff isCov (pavebaDiscard isDom S U) P U i, mem_pavebaUseful⟩

/-- **Order independence (PaVeBa family)**: permuting the iteration orders of `S`, `P`, `U`
permutes the new `S`, the new `P` and the new `U`; their canonical forms coincide. -/
theorem paveba_pareto_perm (isCov : Rel) {S S₂ P P₂ U U₂ : List Nat} (hS : S.Nodup) (hP : P.Nodup)
    (h1 : S.Perm S₂) (h2 : P.Perm P₂) (h3 : U.Perm U₂) :
    sortNat (pavebaPareto isCov S P U).1 = sortNat (pavebaPareto isCov S₂ P₂ U₂).1 ∧
    sortNat (pavebaPareto isCov S P U).2 = sortNat (pavebaPareto isCov S₂ P₂ U₂).2 ∧
    sortNat (pavebaUseful isCov S P) = sortNat (pavebaUseful isCov S₂ P₂) := by
  have hnew : ∀ x, x ∈ pavebaNewPareto isCov S U ↔ x ∈ pavebaNewPareto isCov S₂ U₂ :=
    fun x => by simp only [mem_pavebaNewPareto, h1.mem_iff, h3.mem_iff]
  refine ⟨sortNat_eq_of_perm (removeAll_perm hS h1 hnew),
    sortNat_eq_of_perm (addAll_perm hP h2 hnew), ?_⟩
  exact sortNat_eq_of_mem_iff (hP.sublist List.filter_sublist)
    ((h2.nodup_iff.mp hP).sublist List.filter_sublist) fun x => by
      simp only [mem_pavebaUseful, h1.mem_iff, h2.mem_iff]

/-- **Single-design active set**: nothing else is active, so nothing can cover: the design
enters `P`. -/
theorem paveba_pareto_single (isCov : Rel) (i : Nat) (P U : List Nat) (hU : ∀ u ∈ U, u = i) :
    pavebaPareto isCov [i] P U = ([], addAll P [i]) := by
  simp [pavebaPareto, pavebaNewPareto, anyOther_union_singleton hU, removeAll]

/-- **Identical regions**: two candidates with identical regions (same oracle answers as first
argument, symmetric between the two) enter `P` together or not at all. -/
theorem paveba_pareto_identical (isCov : Rel) {S : List Nat} (U : List Nat) {i j : Nat}
    (hi : i ∈ S) (hj : j ∈ S) (hrow : ∀ k, isCov i k = isCov j k) (hsym : isCov i j = isCov j i) :
    i ∈ pavebaNewPareto isCov S U ↔ j ∈ pavebaNewPareto isCov S U := by
  unfold pavebaNewPareto
  rw [List.mem_filter, List.mem_filter,
    anyOther_identical (mem_union.mpr (Or.inl hi)) (mem_union.mpr (Or.inl hj)) hrow hsym]
  simp only [hi, hj, true_and]

/-- non-vacuity: candidates 0, 1, useful design 2; only 2 can cover 0; nothing covers 1;
0 can be covered by 2 so 2 stays useful -/
example : pavebaRound (fun _ _ => false) (fun i j => i == 0 && j == 2) [0, 1] [2] [2]
    = ([0], [2, 1], [2]) := by decide

/-! ## VOGP, VOGP_AD, ε-PAL

`epsilonCovering isCov S P` is `pavebaPareto isCov S P P` by definition
(`Steps.epsilonCovering_eq_pavebaPareto`): the statements about `epsiloncovering()` are those of the
PaVeBa section at `U := P`. -/

/-- **P-entry ⇔ nothing can still ε-cover (VOGP / ε-PAL)**, the scan running over `W = S ∪ P`. -/
theorem cover_new_iff (isCov : Rel) (S P : List Nat) (i : Nat) :
    (i ∈ (epsilonCovering isCov S P).2 ∧ i ∉ P) ↔
      (i ∈ S ∧ i ∉ P ∧ ∀ j, (j ∈ S ∨ j ∈ P) → j ≠ i → isCov i j = false) :=
  paveba_pareto_new_iff isCov S P P i

/-- **The property's wording (VOGP / ε-PAL)**, as `paveba_entry_semantic` with `W = S ∪ P`. -/
theorem cover_entry_semantic {α : Type} (R : Nat → α → Prop) (cov : α → α → Prop) (isCov : Rel)
    (hC10 : ∀ i j, isCov i j = true ↔ ∃ z, R i z ∧ ∃ z', R j z' ∧ cov z z')
    (S P : List Nat) (i : Nat) :
    (i ∈ (epsilonCovering isCov S P).2 ∧ i ∉ P) ↔
      (i ∈ S ∧ i ∉ P ∧ ∀ j, (j ∈ S ∨ j ∈ P) → j ≠ i →
        ¬ ∃ z, R i z ∧ ∃ z', R j z' ∧ cov z z') :=
  paveba_entry_semantic R cov isCov hC10 S P P i

/-- members never leave `P` -/
theorem cover_P_mono (isCov : Rel) (S P : List Nat) :
    P <+: (epsilonCovering isCov S P).2 ∧ (∀ x ∈ P, x ∈ (epsilonCovering isCov S P).2) ∧
      (P.Nodup → (epsilonCovering isCov S P).2.Nodup) :=
  paveba_P_mono isCov S P P

/-- a candidate stays exactly when some other active region can still ε-cover it -/
theorem cover_S_iff (isCov : Rel) {S : List Nat} (P : List Nat) (hS : S.Nodup) (i : Nat) :
    i ∈ (epsilonCovering isCov S P).1 ↔
      (i ∈ S ∧ ∃ j, (j ∈ S ∨ j ∈ P) ∧ j ≠ i ∧ isCov i j = true) :=
  paveba_pareto_S_iff isCov P P hS i

/-- order independence of `epsiloncovering()` -/
theorem cover_perm (isCov : Rel) {S S₂ P P₂ : List Nat} (hS : S.Nodup) (hP : P.Nodup)
    (h1 : S.Perm S₂) (h2 : P.Perm P₂) :
    sortNat (epsilonCovering isCov S P).1 = sortNat (epsilonCovering isCov S₂ P₂).1 ∧
    sortNat (epsilonCovering isCov S P).2 = sortNat (epsilonCovering isCov S₂ P₂).2 :=
  have h := paveba_pareto_perm isCov hS hP h1 h2 h2
  ⟨h.1, h.2.1⟩

/-- single-design active set: the design enters `P` -/
theorem cover_single (isCov : Rel) (i : Nat) (P : List Nat) (hP : ∀ p ∈ P, p = i) :
    (epsilonCovering isCov [i] P).1 = [] :=
  congrArg Prod.fst (paveba_pareto_single isCov i P P hP)

/-- **VOGP_AD gate closed**: while the latch is off and some candidate is not at the maximum
discretisation depth, ε-covering changes nothing and the latch stays off. -/
theorem coverAD_closed (isCov : Rel) (depth : Nat → Nat) (maxDepth : Nat) (S P : List Nat)
    (h : ∃ i ∈ S, depth i ≠ maxDepth) :
    epsilonCoveringAD isCov depth maxDepth false S P = (S, P, false) := by
  obtain ⟨i, hi, hd⟩ := h
  rw [epsilonCoveringAD_eq, if_neg]
  exact fun h' => h'.elim Bool.false_ne_true fun h' => hd (h' i hi)

/-- **VOGP_AD gate open**: once every candidate is at the maximum depth (or the latch is already
on) the step is exactly VOGP's ε-covering and the latch is on afterwards. -/
theorem coverAD_open (isCov : Rel) (depth : Nat → Nat) (maxDepth : Nat) (enabled : Bool)
    (S P : List Nat) (h : enabled = true ∨ ∀ i ∈ S, depth i = maxDepth) :
    epsilonCoveringAD isCov depth maxDepth enabled S P =
      ((epsilonCovering isCov S P).1, (epsilonCovering isCov S P).2, true) := by
  rw [epsilonCoveringAD_eq, if_pos h]

/-- **The latch**: once on, depths are never consulted again (the result does not depend on
`depth` / `maxDepth`) and it stays on. -/
theorem coverAD_latch (isCov : Rel) (depth depth' : Nat → Nat) (maxDepth maxDepth' : Nat)
    (S P : List Nat) :
    epsilonCoveringAD isCov depth maxDepth true S P =
      epsilonCoveringAD isCov depth' maxDepth' true S P ∧
    (epsilonCoveringAD isCov depth maxDepth true S P).2.2 = true := by
  rw [epsilonCoveringAD_eq, epsilonCoveringAD_eq, if_pos (Or.inl rfl), if_pos (Or.inl rfl)]
  exact ⟨rfl, rfl⟩

/-- **P-entry in VOGP_AD**: a design is new in `P` exactly when the gate is open (latch on, or all
candidates at the maximum depth) and nothing active can still ε-cover it. -/
theorem coverAD_new_iff (isCov : Rel) (depth : Nat → Nat) (maxDepth : Nat) (enabled : Bool)
    (S P : List Nat) (i : Nat) :
    (i ∈ (epsilonCoveringAD isCov depth maxDepth enabled S P).2.1 ∧ i ∉ P) ↔
      ((enabled = true ∨ ∀ k ∈ S, depth k = maxDepth) ∧
        i ∈ S ∧ i ∉ P ∧ ∀ j, (j ∈ S ∨ j ∈ P) → j ≠ i → isCov i j = false) := by
  rw [epsilonCoveringAD_eq]
  by_cases hg : enabled = true ∨ ∀ k ∈ S, depth k = maxDepth
  · rw [if_pos hg]
    simp only [hg, true_and]
    exact cover_new_iff isCov S P i
  · rw [if_neg hg]
    simp only [hg, false_and, iff_false, not_and, not_not]
    exact fun h => h

/-- non-vacuity: design 1 is one level short of the maximum depth: gate closed; with the latch on
the same state moves both designs to `P` -/
example : epsilonCoveringAD (fun _ _ => false) (fun i => if i = 1 then 1 else 2) 2 false [0, 1] []
      = ([0, 1], [], false) ∧
    epsilonCoveringAD (fun _ _ => false) (fun i => if i = 1 then 1 else 2) 2 true [0, 1] []
      = ([], [0, 1], true) := by decide

/-! ## Auer -/

/-- **Auer's comparisons in words**: `np.all(M < β)`, `np.all(M ≤ β)` and `M(c_i, c_j)` itself. -/
theorem auer_M_iff (eps : Rat) (ci cj : Vec) (beta : Vec) :
    (allLt (bigM eps ci cj) beta = true ↔ ∀ b ∈ beta, bigM eps ci cj < b) ∧
    (allLe (bigM eps ci cj) beta = true ↔ ∀ b ∈ beta, bigM eps ci cj ≤ b) ∧
    (vsub (ci.map (· + eps)) cj ≠ [] → ∀ b : Rat,
      (bigM eps ci cj < b ↔ 0 < b ∧ ∀ x ∈ vsub (ci.map (· + eps)) cj, x < b) ∧
      (bigM eps ci cj ≤ b ↔ 0 ≤ b ∧ ∀ x ∈ vsub (ci.map (· + eps)) cj, x ≤ b)) :=
  ⟨allLt_iff _ _, allLe_iff _ _, fun _ b => ⟨bigM_lt_iff b, bigM_le_iff b⟩⟩

/-- **Stage 1 (own widths).**  Design `i` passes stage 1 exactly when it is a candidate and for
no other candidate `j` the test `∀ d, M(c_i, c_j) < β_i^d + β_j^d` succeeds. -/
theorem auer_stage1_iff (eps : Rat) (centre width : Nat → Vec) (S : List Nat) (i : Nat) :
    i ∈ (auerP1Core eps centre (byDesign width S)).map (·.1) ↔
      (i ∈ S ∧ ∀ j ∈ S, j ≠ i →
        allLt (bigM eps (centre i) (centre j)) (vadd (width i) (width j)) = false) := by
  rw [auerP1Core_byDesign, byDesign_fst]
  exact mem_auerP1

/-- **P-entry (Auer, own widths).**  `i` is new in `P` exactly when it passes stage 1 and for
every candidate `j` that does *not* pass stage 1 the hold-back test
`∀ d, M(c_j, c_i) ≤ β_i^d + β_j^d` fails. -/
theorem auer_pareto_new_iff (eps : Rat) (centre width : Nat → Vec) (S P : List Nat) (i : Nat) :
    (i ∈ (auerPareto eps centre width S P).2 ∧ i ∉ P) ↔
      (i ∉ P ∧ passesP1 eps centre width S i ∧
        ∀ j ∈ S, ¬ passesP1 eps centre width S j →
          allLe (bigM eps (centre j) (centre i)) (vadd (width i) (width j)) = false) := by
  simp only [auerPareto, ← mem_auerP1_iff_passesP1]
  rw [mem_addAll_new, mem_auerNewPareto, and_comm]

/-- **Hold-back (Auer, own widths).**  A design that passes stage 1 stays in `S` exactly while
some non-passing candidate `j` may still need it: `∀ d, M(c_j, c_i) ≤ β_i^d + β_j^d`. -/
theorem auer_heldback_iff (eps : Rat) (centre width : Nat → Vec) {S : List Nat} (P : List Nat)
    (hS : S.Nodup) (i : Nat) :
    (passesP1 eps centre width S i ∧ i ∈ (auerPareto eps centre width S P).1) ↔
      (passesP1 eps centre width S i ∧ ∃ j ∈ S, ¬ passesP1 eps centre width S j ∧
        allLe (bigM eps (centre j) (centre i)) (vadd (width i) (width j)) = true) := by
  simp only [auerPareto, ← mem_auerP1_iff_passesP1]
  rw [mem_removeAll hS, mem_auerNewPareto]
  refine and_congr_right fun h1 => ?_
  simp only [(mem_auerP1.mp h1).1, h1, true_and, Classical.not_forall, exists_prop,
    Bool.not_eq_false]

/-- Designs that fail stage 1 always stay in `S`; `S' ⊆ S`; members never leave `P`. -/
theorem auer_pareto_mono (eps : Rat) (centre width : Nat → Vec) {S : List Nat} (P : List Nat)
    (hS : S.Nodup) :
    (∀ i ∈ S, ¬ passesP1 eps centre width S i → i ∈ (auerPareto eps centre width S P).1) ∧
    (auerPareto eps centre width S P).1.Sublist S ∧
    P <+: (auerPareto eps centre width S P).2 := by
  refine ⟨fun i hi hnp => ?_, removeAll_sublist _ _, addAll_prefix _ _⟩
  simp only [auerPareto]
  rw [mem_removeAll hS, mem_auerNewPareto]
  exact ⟨hi, fun h => hnp (mem_auerP1_iff_passesP1.mp h.1)⟩

/-- **Where the code's positional lookup is right**: if `beta_t` is aligned with the iteration
order of the set that `pareto_updating()` scans (nothing was discarded in between,
`rows = S.map width`), position lookup is own-width lookup. -/
theorem auer_pareto_position_ok (eps : Rat) (centre width : Nat → Vec) (S P : List Nat) :
    auerParetoPos eps centre (S.map width) S P = auerPareto eps centre width S P := by
  unfold auerParetoPos auerPareto
  rw [byPosition_aligned]

/-- **What the code's positional lookup reads in general.**  When `S` has at most as many
elements as `beta_t` has rows, `pareto_updating()` behaves as the own-width rule would with the
width function "row at my *position* in the current `S`". -/
theorem auer_pareto_position_reads (eps : Rat) (centre : Nat → Vec) (rows : List Vec)
    {S : List Nat} (P : List Nat) (hS : S.Nodup) (hlen : S.length ≤ rows.length) :
    auerParetoPos eps centre rows S P =
      auerPareto eps centre (fun i => rows.getD (S.idxOf i) []) S P := by
  unfold auerParetoPos auerPareto
  rw [byPosition_eq_byDesign_idx hS rows hlen]

/-- **D2 stated exactly.**  In a round of the code (`beta_t` aligned with `S` before discarding),
after `discarding()` left `S₁ ⊆ S`, design `i ∈ S₁` is compared using the row at its position in
`S₁` of the table computed for `S` — the width of the design `S[S₁.idxOf i]`, which is `i` itself
only if nothing before it was discarded. -/
theorem auer_round_position_reads (eps : Rat) (centre width : Nat → Vec) {S : List Nat}
    (P : List Nat) (hS : S.Nodup) :
    auerRoundPos eps centre (S.map width) S P =
      auerPareto eps centre
        (fun i => (S.map width).getD ((auerDiscard centre width S).idxOf i) [])
        (auerDiscard centre width S) P := by
  unfold auerRoundPos
  rw [auerDiscardPos_aligned]
  exact auer_pareto_position_reads eps centre _ P (nodup_removeAll hS)
    (by rw [List.length_map]; exact (removeAll_sublist S _).length_le)

/-- If `discarding()` removes nothing, the whole round as the code runs it equals the round with
own widths. -/
theorem auer_round_position_ok_of_no_discard (eps : Rat) (centre width : Nat → Vec) (S P : List Nat)
    (h : auerDiscard centre width S = S) :
    auerRoundPos eps centre (S.map width) S P = auerRound eps centre width S P := by
  unfold auerRoundPos auerRound
  rw [auerDiscardPos_aligned, h, auer_pareto_position_ok]

/-- **…and where it is not (DESIGN §5 D2).**  With `beta_t` aligned to the *pre-discard* order and
re-read by position after `S` shrank, the round differs from the own-width rule: one objective,
design 0 far below (discarded), designs 1 and 2 at the same centre with widths 1/32 and 1/2,
ε = 1/16.  Own widths: `M = 1/16 < 1/32 + 1/2`, nobody passes stage 1, `P` stays empty.  By
position design 1 reads row 0 and design 2 reads row 1 (sum 1/16, not `> M`), both pass and both
enter `P`. -/
theorem auer_position_defect :
    ∃ (eps : Rat) (centre width : Nat → Vec) (S P : List Nat), S.Nodup ∧
      auerRoundPos eps centre (S.map width) S P ≠ auerRound eps centre width S P := by
  refine ⟨1/16, fun i => if i = 0 then [-8] else [5/4],
    fun i => if i = 2 then [1/2] else [1/32], [0, 1, 2], [], by decide, ?_⟩
  decide +kernel

/-- **Order independence (Auer, own widths).** -/
theorem auer_pareto_perm (eps : Rat) (centre width : Nat → Vec) {S S₂ P P₂ : List Nat}
    (hS : S.Nodup) (hP : P.Nodup) (h1 : S.Perm S₂) (h2 : P.Perm P₂) :
    sortNat (auerPareto eps centre width S P).1 = sortNat (auerPareto eps centre width S₂ P₂).1 ∧
    sortNat (auerPareto eps centre width S P).2 = sortNat (auerPareto eps centre width S₂ P₂).2 := by
  have hnew : ∀ x, x ∈ auerNewParetoCore eps centre (byDesign width S) ↔
      x ∈ auerNewParetoCore eps centre (byDesign width S₂) :=
    fun x => by simp only [mem_auerNewPareto, mem_auerP1, h1.mem_iff]
  exact ⟨sortNat_eq_of_perm (removeAll_perm hS h1 hnew), sortNat_eq_of_perm (addAll_perm hP h2 hnew)⟩

/-- **Single candidate (Auer)**: it passes both stages and enters `P`. -/
theorem auer_pareto_single (eps : Rat) (centre width : Nat → Vec) (i : Nat) (P : List Nat) :
    auerPareto eps centre width [i] P = ([], addAll P [i]) := by
  simp [auerPareto, auerNewParetoCore, auerP1Core, byDesign, anyOtherP, removeAll]

/-- non-vacuity (hold-back): one objective, ε = 0, centres 0, 1, 10, widths 1.  Design 2 passes
stage 1 (`M(c_2, ·) ≥ 9 > 2`) but the non-passing designs 0, 1 (`M(c_0, c_1) = 0 < 2`) have
`M(c_j, c_2) = 0 ≤ 2`: it may still be needed to dominate them and is held back. -/
example : auerPareto 0 (fun i => if i = 0 then [0] else if i = 1 then [1] else [10]) (fun _ => [1])
    [0, 1, 2] [] = ([0, 1, 2], []) := by decide +kernel

/-- non-vacuity (entry): two objectives; design 2 at (10, −10) is incomparable with 0 and 1 by more
than the widths in both directions → passes both stages and enters `P`. -/
example : auerPareto 0 (fun i => if i = 0 then [0, 0] else if i = 1 then [1, 1] else [10, -10])
    (fun _ => [1, 1]) [0, 1, 2] [] = ([0, 1], [2]) := by decide +kernel

/-! ## End to end with the geometry of C10 (no oracle left for rectangles and balls)

Here the oracle is the EXECUTABLE exact predicate — `Steps.rectCov` / `Steps.ballCov`: "the model of
`is_covered` answers `1`" (`Covered.rectIsCovered`, `Covered.ballIsCovered`, the functions the
drivers run) — and the bridge hypothesis of the `*_semantic` theorems above is discharged by the
decision theorems of C10 (`rect_isCovered_iff`, `ball_isCovered_iff`: Fourier–Motzkin / active-set
completeness, never `inconclusive`).  Regions and points are over `ℝ` (`Covered.box`, `Covered.ball`,
`C10.Coverable`: `∃ z ∈ R_i, ∃ z' ∈ R_j, ∀ facets w, w·(z' − z − s) ≥ 0`, i.e. `z' ≽ z ⊕ s`;
`C10.CoverableFacet`: `w_n·(z' − z) ≥ t_n`).

General ellipsoids (arbitrary `Σ`: PaVeBaGP type "DE", PaVeBaPartialGP "hyperellipsoid") stay
parametric — `paveba_entry_semantic`, `paveba_useful_semantic` with the hypothesis `hC10` — because
C10 proves certificate *soundness* for them (`ell_verdict_sound`), not a decision procedure. -/

/-- **P-entry, rectangular regions (PaVeBaGP type "IH", PaVeBaPartialGP "hyperrectangle"), real
points.**  Design `k` displays the box `[L k, U k]` in `m` objectives, `W` has `m` columns, the
slack is handed over as the code does (a scalar or an `m`-vector; `s` is its broadcast form, applied
as a shift in objective space).  `S` is the candidate set after discarding.  A design enters `P` in
this round exactly when it is a candidate and NO other active design's displayed box contains a
point `z'` such that `z' ≽ z ⊕ s` for some point `z` of its own box. -/
theorem paveba_rect_entry_real (W : Mat) (L U : Nat → Vec) (slack s : Vec) (m : Nat)
    (hL : ∀ k, (L k).length = m) (hU : ∀ k, (U k).length = m) (hm : Covered.ncols W = m)
    (hW : ∀ w ∈ W, w.length = m) (hs : Covered.expandSlack m slack = some s)
    (S P Us : List Nat) (i : Nat) :
    (i ∈ (pavebaPareto (rectCov W L U slack) S P Us).2 ∧ i ∉ P) ↔
      (i ∈ S ∧ i ∉ P ∧ ∀ j, (j ∈ S ∨ j ∈ Us) → j ≠ i →
        ¬ VOPy.C10.Coverable (Covered.box (L i) (U i)) (Covered.box (L j) (U j)) W s) := by
  rw [paveba_pareto_new_iff]
  simp only [← Bool.not_eq_true, rectCov_iff W L U slack s m hL hU hm hW hs]

/-- **Useful set, rectangular regions, real points.**  `U'` is exactly the set of members `p` of `P`
for which some remaining candidate `c ∈ S` has a point `z` in its box and `p`'s box a point `z'`
with `z' ≽ z ⊕ s`. -/
theorem paveba_rect_useful_real (W : Mat) (L U : Nat → Vec) (slack s : Vec) (m : Nat)
    (hL : ∀ k, (L k).length = m) (hU : ∀ k, (U k).length = m) (hm : Covered.ncols W = m)
    (hW : ∀ w ∈ W, w.length = m) (hs : Covered.expandSlack m slack = some s)
    (S P : List Nat) (p : Nat) :
    p ∈ pavebaUseful (rectCov W L U slack) S P ↔
      (p ∈ P ∧ ∃ c ∈ S,
        VOPy.C10.Coverable (Covered.box (L c) (U c)) (Covered.box (L p) (U p)) W s) := by
  rw [paveba_useful_iff]
  simp only [rectCov_iff W L U slack s m hL hU hm hW hs]

/-- **ε-covering, rectangular regions (VOGP, ε-PAL), real points.**  The slack is `ε·u*` (an
`m`-vector) or the scalar `ε` (broadcast to every objective); the scan runs over `W = S ∪ P`. -/
theorem cover_rect_entry_real (W : Mat) (L U : Nat → Vec) (slack s : Vec) (m : Nat)
    (hL : ∀ k, (L k).length = m) (hU : ∀ k, (U k).length = m) (hm : Covered.ncols W = m)
    (hW : ∀ w ∈ W, w.length = m) (hs : Covered.expandSlack m slack = some s)
    (S P : List Nat) (i : Nat) :
    (i ∈ (epsilonCovering (rectCov W L U slack) S P).2 ∧ i ∉ P) ↔
      (i ∈ S ∧ i ∉ P ∧ ∀ j, (j ∈ S ∨ j ∈ P) → j ≠ i →
        ¬ VOPy.C10.Coverable (Covered.box (L i) (U i)) (Covered.box (L j) (U j)) W s) :=
  paveba_rect_entry_real W L U slack s m hL hU hm hW hs S P P i

/-- **ε-covering of VOGP_AD with the depth gate and the latch, rectangular regions, real points.**
A node enters `P` exactly when the gate is open (latch already on, or every candidate at the maximum
discretisation depth) and no other active node's box contains a point that ε-dominates a point of
its box. -/
theorem coverAD_rect_entry_real (W : Mat) (L U : Nat → Vec) (slack s : Vec) (m : Nat)
    (hL : ∀ k, (L k).length = m) (hU : ∀ k, (U k).length = m) (hm : Covered.ncols W = m)
    (hW : ∀ w ∈ W, w.length = m) (hs : Covered.expandSlack m slack = some s)
    (depth : Nat → Nat) (maxDepth : Nat) (enabled : Bool) (S P : List Nat) (i : Nat) :
    (i ∈ (epsilonCoveringAD (rectCov W L U slack) depth maxDepth enabled S P).2.1 ∧ i ∉ P) ↔
      ((enabled = true ∨ ∀ k ∈ S, depth k = maxDepth) ∧ i ∈ S ∧ i ∉ P ∧
        ∀ j, (j ∈ S ∨ j ∈ P) → j ≠ i →
          ¬ VOPy.C10.Coverable (Covered.box (L i) (U i)) (Covered.box (L j) (U j)) W s) := by
  rw [coverAD_new_iff]
  simp only [← Bool.not_eq_true, rectCov_iff W L U slack s m hL hU hm hW hs]

/-- **P-entry, PaVeBa (balls `B(c_k, a_k)`, `Σ = I`), real points.**  The slack is per facet
(`ε·α`, one entry per row of `W`, or a scalar repeated; `t` is its expanded form).  A design enters
`P` exactly when it is a candidate and no other active design's ball contains a point `z'` with
`w_n·(z' − z) ≥ t_n` on every facet for some point `z` of its own ball. -/
theorem paveba_ball_entry_real (W : Mat) (c : Nat → Vec) (a : Nat → Rat) (slack t : Vec) (m : Nat)
    (hc : ∀ k, (c k).length = m) (ha : ∀ k, 0 ≤ a k) (hW : ∀ w ∈ W, w.length = m)
    (hs : Covered.expandSlack W.length slack = some t) (S P Us : List Nat) (i : Nat) :
    (i ∈ (pavebaPareto (ballCov W c a slack) S P Us).2 ∧ i ∉ P) ↔
      (i ∈ S ∧ i ∉ P ∧ ∀ j, (j ∈ S ∨ j ∈ Us) → j ≠ i →
        ¬ VOPy.C10.CoverableFacet (Covered.ball (c i) (a i)) (Covered.ball (c j) (a j)) W t) := by
  rw [paveba_pareto_new_iff]
  simp only [← Bool.not_eq_true, ballCov_iff W c a slack t m hc ha hW hs]

/-- **Useful set, PaVeBa balls, real points.** -/
theorem paveba_ball_useful_real (W : Mat) (c : Nat → Vec) (a : Nat → Rat) (slack t : Vec) (m : Nat)
    (hc : ∀ k, (c k).length = m) (ha : ∀ k, 0 ≤ a k) (hW : ∀ w ∈ W, w.length = m)
    (hs : Covered.expandSlack W.length slack = some t) (S P : List Nat) (p : Nat) :
    p ∈ pavebaUseful (ballCov W c a slack) S P ↔
      (p ∈ P ∧ ∃ d ∈ S,
        VOPy.C10.CoverableFacet (Covered.ball (c d) (a d)) (Covered.ball (c p) (a p)) W t) := by
  rw [paveba_useful_iff]
  simp only [ballCov_iff W c a slack t m hc ha hW hs]

/-- non-vacuity (rectangles, componentwise order, scalar slack 1/4): boxes `[0,1]²` (design 0),
`[2,3]²` (design 1) and `[5,6]×[−4,−3]` (design 2 ∈ P, useful so far).  Design 1 can cover design 0
(`z' = (2,2) ≽ (0,0) + 1/4`), nothing can cover design 1, design 2 is incomparable with both →
1 enters `P`, 0 stays; `U'` = {1}: design 1 can still cover candidate 0, design 2 cannot. -/
example :
    let L : Nat → Vec := fun k => if k = 0 then [0, 0] else if k = 1 then [2, 2] else [5, -4]
    let U : Nat → Vec := fun k => if k = 0 then [1, 1] else if k = 1 then [3, 3] else [6, -3]
    pavebaPareto (rectCov [[1, 0], [0, 1]] L U [1/4]) [0, 1] [2] [2] = ([0], [2, 1]) ∧
    pavebaUseful (rectCov [[1, 0], [0, 1]] L U [1/4]) [0] [2, 1] = [1] := by
  decide +kernel

/-- non-vacuity (balls of radius 1/2 at (0,0), (2,2); per-facet slack (1/4, 1/4)): the upper ball
can cover the lower one, not conversely → the upper design enters `P` and stays useful. -/
example :
    let c : Nat → Vec := fun k => if k = 0 then [0, 0] else [2, 2]
    pavebaPareto (ballCov [[1, 0], [0, 1]] c (fun _ => 1/2) [1/4, 1/4]) [0, 1] [] [] = ([0], [1]) ∧
    pavebaUseful (ballCov [[1, 0], [0, 1]] c (fun _ => 1/2) [1/4, 1/4]) [0] [1] = [1] := by
  decide +kernel

/-- the hypotheses of the end-to-end theorems are satisfiable: scalar and vector slack forms -/
example : Covered.expandSlack 2 [1/4] = some [1/4, 1/4] ∧
    Covered.expandSlack 2 [1/8, 1/4] = some [1/8, 1/4] ∧ Covered.ncols [[1, 0], [0, 1]] = 2 := by
  decide +kernel

/-! ## State invariants (the hypotheses `S.Nodup`, `S ∩ P = ∅` used above hold in every round) -/

/-- **PaVeBa family**: if `S`, `P` are sets with `S ∩ P = ∅`, then after a whole round the new
`S`, `P` are again disjoint sets, `S' ⊆ S`, and `U' ⊆ P'`. -/
theorem paveba_round_invariant (isDom isCov : Rel) {S P : List Nat} (U : List Nat) (hS : S.Nodup)
    (hP : P.Nodup) (hSP : ∀ x ∈ S, x ∉ P) :
    (pavebaRound isDom isCov S P U).1.Nodup ∧ (pavebaRound isDom isCov S P U).2.1.Nodup ∧
    (pavebaRound isDom isCov S P U).1.Sublist S ∧
    (∀ x ∈ (pavebaRound isDom isCov S P U).1, x ∉ (pavebaRound isDom isCov S P U).2.1) ∧
    (pavebaRound isDom isCov S P U).2.2.Sublist (pavebaRound isDom isCov S P U).2.1 :=
  have t := (pavebaRound_trans isDom isCov U hS hP hSP).1
  ⟨t.nodupS, t.nodupP, t.sub, t.disj, List.filter_sublist⟩

/-- **VOGP / ε-PAL**: the same invariant for discarding + ε-covering. -/
theorem vogp_round_invariant (isDom isCov pessDom : Rel) {S P : List Nat} (hS : S.Nodup)
    (hP : P.Nodup) (hSP : ∀ x ∈ S, x ∉ P) :
    (vogpRound isDom isCov pessDom S P).1.Nodup ∧ (vogpRound isDom isCov pessDom S P).2.Nodup ∧
    (vogpRound isDom isCov pessDom S P).1.Sublist S ∧
    (∀ x ∈ (vogpRound isDom isCov pessDom S P).1, x ∉ (vogpRound isDom isCov pessDom S P).2) :=
  have t := vogpRound_trans isDom isCov pessDom hS hP hSP
  ⟨t.nodupS, t.nodupP, t.sub, t.disj⟩

/-- **Auer** (own widths): the same invariant for discarding + pareto_updating. -/
theorem auer_round_invariant (eps : Rat) (centre width : Nat → Vec) {S P : List Nat}
    (hS : S.Nodup) (hP : P.Nodup) (hSP : ∀ x ∈ S, x ∉ P) :
    (auerRound eps centre width S P).1.Nodup ∧ (auerRound eps centre width S P).2.Nodup ∧
    (auerRound eps centre width S P).1.Sublist S ∧
    (∀ x ∈ (auerRound eps centre width S P).1, x ∉ (auerRound eps centre width S P).2) :=
  have t := auerRound_trans eps centre width hS hP hSP
  ⟨t.nodupS, t.nodupP, t.sub, t.disj⟩

end VOPy.C03
