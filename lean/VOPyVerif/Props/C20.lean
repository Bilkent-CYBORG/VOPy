import VOPyVerif.Proofs.Problem
import VOPyVerif.Proofs.ProblemScale
import VOPyVerif.Proofs.ProblemNoise
import VOPyVerif.Proofs.ProblemStd
import VOPyVerif.Proofs.ProblemMeasure
import VOPyVerif.Proofs.ProblemGauss
import VOPyVerif.Proofs.ProblemInvariance
/-!
# C20 — problems return the nearest design's value plus configured noise; data scaled

Property theorems only (helper lemmas live in `Proofs/Problem*.lean`).  They are about the
executable model `Model/Problem.lean` that the driver `driver_c20` runs against
`ProblemFromDataset` / `ContinuousProblem` / `DecoupledEvaluationProblem`,
`get_closest_indices_from_points`, `get_noisy_evaluations_chol`, `Dataset.__init__` and
`normalize` / `unnormalize`.
-/
namespace VOPy.C20
open VOPy VOPy.Problem

/-! ## nearest design -/

/-- **Nearest design, first among ties (characterisation).**  `nearestFirst x X` returns index `i`
exactly when `i` is a valid design index, no design is strictly closer to `x` than design `i`
(squared Euclidean distance), and every design *before* `i` is strictly farther — i.e. `i` is the
first index attaining the minimum distance (`np.argmin`).  In particular the answer is unique. -/
theorem nearestFirst_eq_some_iff (x : Vec) (X : Mat) (i : Nat) :
    nearestFirst x X = some i ↔ ∃ hi : i < X.length,
      (∀ (j : Nat) (hj : j < X.length), sqDist x X[i] ≤ sqDist x X[j]) ∧
      (∀ (j : Nat) (hj : j < i), sqDist x X[i] < sqDist x (X[j]'(Nat.lt_trans hj hi))) :=
  nearestFirst_some_iff x X i

/-- **Totality.**  With at least one design the lookup always answers, and its answer is a nearest
design, the first among ties. -/
theorem nearestFirst_spec (x : Vec) (X : Mat) (hX : X ≠ []) :
    ∃ i, nearestFirst x X = some i ∧ ∃ hi : i < X.length,
      (∀ (j : Nat) (hj : j < X.length), sqDist x X[i] ≤ sqDist x X[j]) ∧
      (∀ (j : Nat) (hj : j < i), sqDist x X[i] < sqDist x (X[j]'(Nat.lt_trans hj hi))) :=
  exists_nearestFirst x X hX

/-- no design, no answer (the code returns an empty index list) -/
theorem nearestFirst_nil (x : Vec) : nearestFirst x [] = none := rfl

/-- non-vacuity: a tie between designs 1 and 2 (both at squared distance 1/4) is resolved to 1;
design 0 is farther -/
example : nearestFirst [1/2, 0] [[2, 0], [1, 0], [0, 0], [1/2, 5]] = some 1 := by decide +kernel

/-- **Squared distance is a genuine distance.**  It is non-negative and, between points of
equal dimension, vanishes exactly when the points are equal. -/
theorem sqDist_nonneg_and_eq_zero_iff (a b : Vec) (hlen : a.length = b.length) :
    0 ≤ sqDist a b ∧ (sqDist a b = 0 ↔ a = b) :=
  ⟨sqDist_nonneg a b, fun h => sqDist_eq_zero hlen h, fun h => h ▸ sqDist_self a⟩

/-- **On-grid query.**  If the query point *is* one of the designs (all designs of the query's
dimension), the design returned has exactly the query's coordinates, and it is the first such
design. -/
theorem nearestFirst_on_grid (x : Vec) (X : Mat) (hdim : ∀ r ∈ X, r.length = x.length)
    (hx : x ∈ X) :
    ∃ i, nearestFirst x X = some i ∧ ∃ hi : i < X.length, X[i] = x ∧
      ∀ (j : Nat) (hj : j < i), X[j]'(Nat.lt_trans hj hi) ≠ x := by
  obtain ⟨i, hi, hn⟩ := exists_nearestFirst x X (List.ne_nil_of_mem hx)
  have hxi := hn.getElem_eq hx hdim
  refine ⟨i, hi, hn.1, hxi, fun j hj hjx => (hn.2.2 j hj).not_ge ?_⟩
  rw [hjx, hxi]

/-- **Noiseless evaluation is row lookup at the nearest design.**  With at least one design and as
many objective rows as designs, `evaluate` answers for every batch, returns one row per query
point, and row `r` is the objective vector `Y[i]` of the design `i = nearestFirst xs[r] X`. -/
theorem evaluate_spec (X Y xs : Mat) (hX : X ≠ []) (hXY : X.length = Y.length) :
    ∃ out, evaluate X Y xs = some out ∧ out.length = xs.length ∧
      ∀ (r : Nat) (hr : r < xs.length), ∃ i, nearestFirst xs[r] X = some i ∧
        ∃ hi : i < Y.length, out[r]? = some Y[i] := by
  have hall : ∀ x ∈ xs, ((nearestFirst x X).bind (fun i => Y[i]?)).isSome := by
    intro x _
    obtain ⟨i, hi, hil, _⟩ := nearestFirst_spec x X hX
    rw [hi]
    simp only [Option.bind_some]
    rw [List.getElem?_eq_getElem (hXY ▸ hil)]; rfl
  obtain ⟨out, hout⟩ := mapM_option_isSome hall
  refine ⟨out, hout, mapM_option_length hout, fun r hr => ?_⟩
  obtain ⟨i, hi, hil, _⟩ := nearestFirst_spec xs[r] X hX
  refine ⟨i, hi, hXY ▸ hil, ?_⟩
  rw [mapM_option_getElem? hout, List.getElem?_eq_getElem hr, Option.bind_some, hi, Option.bind_some,
    List.getElem?_eq_getElem (hXY ▸ hil)]

example : evaluate [[0, 0], [1, 0]] [[5, 6], [7, 8]] [[1/4, 0], [3/4, 0], [1/2, 0]]
    = some [[5, 6], [7, 8], [5, 6]] := by decide +kernel

/-! ## decoupled evaluation -/

/-- **`evaluation_index = None`** returns the full evaluation, unchanged. -/
theorem decoupled_all (n : Nat) (values : Mat) : decoupled n values .all = .full values := rfl

/-- **`evaluation_index = k` (an int).**  If every row of the full evaluation has a component `k`,
the result has one entry per row and entry `r` is exactly component `k` of row `r`. -/
theorem decoupled_one (n : Nat) (values : Mat) (k : Nat) (hk : ∀ row ∈ values, k < row.length) :
    ∃ v, decoupled n values (.one k) = .comps v ∧ v.length = values.length ∧
      ∀ (r : Nat) (hr : r < values.length),
        v[r]? = some ((values[r])[k]'(hk _ (List.getElem_mem hr))) := by
  obtain ⟨v, hv, h⟩ := column_spec values k hk
  exact ⟨v, by simp [decoupled, hv], h⟩

/-- **`evaluation_index = [k₀, k₁, …]` (one index per point).**  If the list has as many entries as
`len(x)` (the guard of the code) and not more than there are evaluated rows, and every requested
component exists, entry `r` of the result is exactly component `k_r` of row `r` of the full
evaluation. -/
theorem decoupled_perRow (n : Nat) (values : Mat) (ks : List Nat) (hn : n = ks.length)
    (hlen : ks.length ≤ values.length)
    (hk : ∀ (r : Nat) (hr : r < ks.length), ks[r] < (values[r]'(Nat.lt_of_lt_of_le hr hlen)).length) :
    ∃ v, decoupled n values (.perRow ks) = .comps v ∧ v.length = ks.length ∧
      ∀ (r : Nat) (hr : r < ks.length),
        v[r]? = some ((values[r]'(Nat.lt_of_lt_of_le hr hlen))[ks[r]]'(hk r hr)) := by
  obtain ⟨v, hv, h⟩ := pick_spec values ks hlen hk
  exact ⟨v, by simp [decoupled, hn, hv], h⟩

/-- **The `ValueError` guard** fires exactly for an index *list* whose length differs from `len(x)`. -/
theorem decoupled_valueError_iff (n : Nat) (values : Mat) (ix : EvalIndex) :
    decoupled n values ix = .valueError ↔ ∃ ks, ix = .perRow ks ∧ n ≠ ks.length := by
  cases ix with
  | all => simp [decoupled]
  | one k =>
    simp only [decoupled, reduceCtorEq, false_and, exists_false, iff_false]
    cases column values k <;> simp
  | perRow ks =>
    simp only [decoupled, EvalIndex.perRow.injEq, exists_eq_left', ne_eq]
    by_cases h : n = ks.length
    · simp only [h, not_true_eq_false, ↓reduceIte, iff_false]
      cases pick values ks <;> simp
    · simp [h]

/-- an int index is out of range (numpy's `IndexError`) exactly when some evaluated row is too short -/
theorem decoupled_one_indexError_iff (n : Nat) (values : Mat) (k : Nat) :
    decoupled n values (.one k) = .indexError ↔ ∃ row ∈ values, row.length ≤ k := by
  rw [← column_eq_none_iff]
  simp only [decoupled]
  cases column values k <;> simp

/-- a per-point index list that passes the guard ends in numpy's `IndexError` exactly when some
requested entry does not exist (row `r` missing — e.g. a single 1-D point with a longer list — or
component `k_r` out of range) -/
theorem decoupled_perRow_indexError_iff (n : Nat) (values : Mat) (ks : List Nat) :
    decoupled n values (.perRow ks) = .indexError ↔ n = ks.length ∧
      ∃ (r : Nat) (hr : r < ks.length), (values[r]?).bind (fun row : Vec => row[ks[r]]?) = none := by
  rw [← pick_eq_none_iff]
  simp only [decoupled]
  by_cases h : n = ks.length
  · simp only [h, ne_eq, not_true_eq_false, ↓reduceIte, true_and]
    cases pick values ks <;> simp
  · simp [h]

example : decoupled 2 [[1, 2], [3, 4]] (.perRow [1, 0]) = .comps [2, 3] := by decide +kernel
example : decoupled 2 [[1, 2], [3, 4]] (.one 1) = .comps [2, 4] := by decide +kernel
example : decoupled 2 [[1, 2], [3, 4]] (.perRow [1]) = .valueError := by decide +kernel
/-- a single 1-D point of dimension 2 (`len(x) = 2`) with a one-element index list is rejected -/
example : decoupled 2 [[1, 2]] (.perRow [1]) = .valueError := by decide +kernel

/-! ## data scaling -/

/-- **Min-max scaling of a non-constant column** keeps the length, puts every entry in `[0, 1]`, and
attains both ends: the minimum of the scaled column is exactly 0 and its maximum exactly 1. -/
theorem minMax_unit_interval (col : Vec) (a b : Rat) (ha : a ∈ col) (hb : b ∈ col) (hab : a ≠ b) :
    (minMax col).length = col.length ∧ (∀ y ∈ minMax col, 0 ≤ y ∧ y ≤ 1) ∧
      colMin (minMax col) = 0 ∧ colMax (minMax col) = 1 := by
  have hlt := colMin_lt_colMax ha hb hab
  have hr : colMax col - colMin col ≠ 0 := ne_of_gt (sub_pos.mpr hlt)
  have hpos : 0 < colMax col - colMin col := sub_pos.mpr hlt
  have hcol : col ≠ [] := List.ne_nil_of_mem ha
  have hmm : minMax col = col.map (fun x => (x - colMin col) / (colMax col - colMin col)) := by
    rw [minMax_eq, if_neg hr]
  have hbound : ∀ y ∈ minMax col, 0 ≤ y ∧ y ≤ 1 := by
    intro y hy
    rw [hmm] at hy
    obtain ⟨x, hx, rfl⟩ := List.mem_map.mp hy
    constructor
    · exact div_nonneg (sub_nonneg.mpr (colMin_le hx)) (le_of_lt hpos)
    · rw [div_le_one hpos]; exact sub_le_sub_right (le_colMax hx) _
  have h0 : (0 : Rat) ∈ minMax col := by
    rw [hmm]; exact List.mem_map.mpr ⟨colMin col, colMin_mem hcol, by rw [sub_self, zero_div]⟩
  have h1 : (1 : Rat) ∈ minMax col := by
    rw [hmm]; exact List.mem_map.mpr ⟨colMax col, colMax_mem hcol, div_self hr⟩
  exact ⟨by rw [hmm, List.length_map], hbound, colMin_eq_of h0 (fun y hy => (hbound y hy).1),
    colMax_eq_of h1 (fun y hy => (hbound y hy).2)⟩

example : minMax [1, 3, 2] = [0, 1, 1/2] := by decide +kernel

/-- **Min-max scaling preserves the order of the entries** (any column: the divisor is positive). -/
theorem minMax_order (col : Vec) (i j : Nat) (hi : i < col.length) (hj : j < col.length) :
    (minMax col)[i]'(by rw [minMax_eq, List.length_map]; exact hi) ≤
      (minMax col)[j]'(by rw [minMax_eq, List.length_map]; exact hj) ↔ col[i] ≤ col[j] := by
  simp only [minMax_eq, List.getElem_map]
  rw [div_le_div_iff_of_pos_right (minMax_divisor_pos col)]
  exact sub_le_sub_iff_right _

/-- a constant column is mapped to zeros (sklearn divides by 1 instead of the zero range) -/
theorem minMax_const (col : Vec) (c : Rat) (h : ∀ y ∈ col, y = c) : ∀ y ∈ minMax col, y = 0 := by
  intro y hy
  rw [minMax_eq] at hy
  obtain ⟨x, hx, rfl⟩ := List.mem_map.mp hy
  have hcol : col ≠ [] := List.ne_nil_of_mem hx
  rw [h x hx, ← h _ (colMin_mem hcol), sub_self, zero_div]

/-- **Standardisation with the population standard deviation** (`s² =` population variance `≠ 0`)
yields mean 0 and population variance 1. -/
theorem standardiseWith_spec (col : Vec) (s : Rat) (hcol : col ≠ []) (hs : s * s = popVar col)
    (hv : popVar col ≠ 0) :
    mean (standardiseWith s col) = 0 ∧ popVar (standardiseWith s col) = 1 :=
  standardiseWith_moments s col hcol hs hv

/-- **`standardise`** (the exact `StandardScaler`): whenever it answers on a column of non-zero
variance, the result has the column's length, mean 0 and population variance 1. -/
theorem standardise_spec (col out : Vec) (hcol : col ≠ []) (hv : popVar col ≠ 0)
    (h : standardise col = some out) :
    out.length = col.length ∧ mean out = 0 ∧ popVar out = 1 := by
  unfold standardise at h
  simp only [hv, ↓reduceIte, Option.map_eq_some_iff] at h
  obtain ⟨s, hs, rfl⟩ := h
  obtain ⟨hss, _⟩ := ratSqrt?_sound hs
  exact ⟨by simp [standardiseWith], standardiseWith_moments s col hcol hss hv⟩

/-- `standardise` declines (`none`) exactly when the population variance has no rational square
root, i.e. when the exact standard deviation is irrational (then only `standardiseF` applies). -/
theorem standardise_eq_none_iff (col : Vec) :
    standardise col = none ↔ ¬ ∃ s : Rat, s * s = popVar col := by
  unfold standardise
  by_cases hv : popVar col = 0
  · simp only [hv, ↓reduceIte, reduceCtorEq, false_iff, not_not]
    exact ⟨0, by simp⟩
  · simp only [hv, ↓reduceIte, Option.map_eq_none_iff]
    constructor
    · rintro h ⟨s, hs⟩
      rw [← hs, ratSqrt?_complete] at h
      cases h
    · intro h
      cases hq : ratSqrt? (popVar col) with
      | none => rfl
      | some s => exact absurd ⟨s, (ratSqrt?_sound hq).1⟩ h

example : standardise [1, 3, 1, 3] = some [-1, 1, -1, 1] := by decide +kernel
example : standardise [1, 2, 3] = none := by decide +kernel

/-- **`unnormalize ∘ normalize = id`** for bounds with `upper ≠ lower`: whenever `normalize`
accepts the data (every row has one entry per bound), `unnormalize` accepts its result and returns
the original data. -/
theorem unnormalize_normalize (data d' : Mat) (b : List (Rat × Rat)) (hb : boundsOK b = true)
    (h : Problem.normalize data b = some d') : unnormalize d' b = some data :=
  mapRows_inverse normalizeCol unnormalizeCol b
    (fun p hp x => unnormalizeCol_normalizeCol p.1 p.2 x ((boundsOK_iff b).mp hb p hp)) data d' h

/-- **`normalize ∘ unnormalize = id`** for bounds with `upper ≠ lower`. -/
theorem normalize_unnormalize (data d' : Mat) (b : List (Rat × Rat)) (hb : boundsOK b = true)
    (h : unnormalize data b = some d') : Problem.normalize d' b = some data :=
  mapRows_inverse unnormalizeCol normalizeCol b
    (fun p hp x => normalizeCol_unnormalizeCol p.1 p.2 x ((boundsOK_iff b).mp hb p hp)) data d' h

/-- the `ValueError` guard of both utilities fires exactly when some row has a number of entries
different from the number of bounds; otherwise both answer -/
theorem normalize_eq_none_iff (data : Mat) (b : List (Rat × Rat)) :
    (Problem.normalize data b = none ↔ ∃ r ∈ data, r.length ≠ b.length) ∧
    (unnormalize data b = none ↔ ∃ r ∈ data, r.length ≠ b.length) :=
  ⟨mapRows_eq_none_iff normalizeCol data b, mapRows_eq_none_iff unnormalizeCol data b⟩

/-- entrywise meaning of the two maps -/
theorem normalizeCol_def (lo hi x : Rat) :
    normalizeCol lo hi x = (x - lo) / (hi - lo) ∧ unnormalizeCol lo hi x = x * (hi - lo) + lo :=
  ⟨rfl, rfl⟩

example : Problem.normalize [[1, 2], [3, 4]] [(0, 2), (0, 4)] = some [[1/2, 1/2], [3/2, 1]] := by decide +kernel
example : unnormalize [[1/2, 1/2], [3/2, 1]] [(0, 2), (0, 4)] = some [[1, 2], [3, 4]] := by
  decide +kernel

/-! ## noise

`toRows` is the list-of-rows encoding the driver receives.  The model's noise map is the matrix
expression `F + Z·M`; the second-moment theorems are stated for *any* finite weighted family of
vectors (no probability theory needed: a distribution enters only through its first and second
moments), over any commutative ring. -/

open Matrix in
/-- **The model's noise map is `F + Z·M`.**  On list-of-rows encodings of an `n × m` mean matrix
`F`, an `n × d` draw `Z` and a `d × m` applied matrix `M` (`d > 0`), the executable
`Problem.noisy` — which the harness compares with `get_noisy_evaluations_chol` exactly — computes
the encoding of the matrix `F + Z * M`; the code applies `M = L`, the factor it is handed. -/
theorem noisy_eq_matrix {n d m : Nat} (hd : 0 < d) (F : Matrix (Fin n) (Fin m) ℚ)
    (Z : Matrix (Fin n) (Fin d) ℚ) (L : Matrix (Fin d) (Fin m) ℚ) :
    noisy (toRows F) (toRows Z) (appliedM (toRows L)) = toRows (F + Z * L) :=
  noisy_toRows hd F Z L

open Matrix in
/-- **Second moment of `x ↦ x·M`.**  For any finite family of vectors `x_k` with weights `p_k` whose
second-moment matrix is the identity (`Σ p_k x_kᵀx_k = I`, e.g. the atoms of any distribution with
uncorrelated unit-variance zero-mean coordinates), the second-moment matrix of the transformed
vectors `x_k·M` is `MᵀM`. -/
theorem noise_second_moment {R : Type} [CommRing R] {ι : Type} [Fintype ι] {d m : Nat}
    (p : ι → R) (x : ι → Fin d → R) (M : Matrix (Fin d) (Fin m) R)
    (h : ∑ k, p k • vecMulVec (x k) (x k) = 1) :
    ∑ k, p k • vecMulVec (x k ᵥ* M) (x k ᵥ* M) = Mᵀ * M := by
  rw [second_moment_vecMul, h, Matrix.mul_one]

open Matrix in
/-- **The noise has zero mean**: if the weights sum to 1 and the family has mean 0, the mean of
`f + x_k·M` is `f`. -/
theorem noise_mean {R : Type} [CommRing R] {ι : Type} [Fintype ι] {d m : Nat}
    (p : ι → R) (x : ι → Fin d → R) (M : Matrix (Fin d) (Fin m) R) (f : Fin m → R)
    (hp : ∑ k, p k = 1) (h0 : ∑ k, p k • x k = 0) :
    ∑ k, p k • (f + x k ᵥ* M) = f := by
  simp only [smul_add]
  rw [Finset.sum_add_distrib, ← Finset.sum_smul, hp, one_smul, first_moment_vecMul, h0,
    Matrix.zero_vecMul, add_zero]

open Matrix in
/-- **The configured covariance `Σ = L Lᵀ` is obtained iff `MᵀM = L Lᵀ`** (for every family with
identity second moment). -/
theorem noise_cov_iff {R : Type} [CommRing R] {ι : Type} [Fintype ι] {d : Nat}
    (p : ι → R) (x : ι → Fin d → R) (M L : Matrix (Fin d) (Fin d) R)
    (h : ∑ k, p k • vecMulVec (x k) (x k) = 1) :
    ∑ k, p k • vecMulVec (x k ᵥ* M) (x k ᵥ* M) = L * Lᵀ ↔ Mᵀ * M = L * Lᵀ := by
  rw [noise_second_moment p x M h]

open Matrix in
/-- **What the code delivers.**  Multiplying by the factor itself (`M = L`, `np.dot(X, L)`) gives
second moment `LᵀL`, so the configured covariance `L Lᵀ` is obtained iff `LᵀL = L Lᵀ`. -/
theorem noise_cov_of_code {R : Type} [CommRing R] {ι : Type} [Fintype ι] {d : Nat}
    (p : ι → R) (x : ι → Fin d → R) (L : Matrix (Fin d) (Fin d) R)
    (h : ∑ k, p k • vecMulVec (x k) (x k) = 1) :
    ∑ k, p k • vecMulVec (x k ᵥ* L) (x k ᵥ* L) = Lᵀ * L ∧
    (∑ k, p k • vecMulVec (x k ᵥ* L) (x k ᵥ* L) = L * Lᵀ ↔ Lᵀ * L = L * Lᵀ) :=
  ⟨noise_second_moment p x L h, noise_cov_iff p x L L h⟩

open Matrix in
/-- non-vacuity of the moment hypotheses: the Rademacher vector — the four atoms `(±1, ±1)` with
probability 1/4 each — has total mass 1, mean 0 and identity second moment -/
example :
    let sg : Bool → ℚ := fun b => if b then 1 else -1
    let x : Bool × Bool → Fin 2 → ℚ := fun k => ![sg k.1, sg k.2]
    (∑ _k : Bool × Bool, (1 : ℚ) / 4 = 1) ∧ (∑ k : Bool × Bool, ((1 : ℚ) / 4) • x k = 0) ∧
      ∑ k : Bool × Bool, ((1 : ℚ) / 4) • vecMulVec (x k) (x k) = 1 := by
  decide +kernel

open Matrix in
/-- **The driver's decision `covOK` is the matrix identity `MᵀM = L Lᵀ`** on encodings of square
matrices. -/
theorem covOK_iff {d : Nat} (hd : 0 < d) (M L : Matrix (Fin d) (Fin d) ℚ) :
    covOK (toRows M) (toRows L) = true ↔ Mᵀ * M = L * Lᵀ :=
  covOK_toRows hd M L

open Matrix in
/-- **The required matrix**: multiplying by the transposed factor `M = Lᵀ` always yields the
configured covariance. -/
theorem covOK_transpose {d : Nat} (hd : 0 < d) (L : Matrix (Fin d) (Fin d) ℚ) :
    covOK (VOPy.Problem.transpose (toRows L)) (toRows L) = true := by
  rw [transpose_toRows hd, covOK_toRows hd, Matrix.transpose_transpose]

open Matrix in
/-- **Diagonal (more generally symmetric) factors hide the difference**: for `Lᵀ = L` — in
particular the factors `√noise_var · I` that `ProblemFromDataset` and `ContinuousProblem` build —
multiplying by `L` itself gives the configured covariance. -/
theorem covOK_of_symmetric {d : Nat} (hd : 0 < d) (L : Matrix (Fin d) (Fin d) ℚ) (hs : Lᵀ = L) :
    covOK (appliedM (toRows L)) (toRows L) = true := by
  unfold appliedM
  rw [covOK_toRows hd, hs]

open Matrix in
/-- the factors the problem classes build are diagonal, hence covered by `covOK_of_symmetric` -/
theorem covOK_of_diagonal {d : Nat} (hd : 0 < d) (v : Fin d → ℚ) :
    covOK (appliedM (toRows (diagonal v))) (toRows (diagonal v)) = true :=
  covOK_of_symmetric hd _ (diagonal_transpose v)

/-- **The tolerance form of the decision** (`covclose`, used when `√noise_var` is not exactly
representable) at tolerance 0 is exact equality `MᵀM = Σ`. -/
theorem covClose_zero_iff (M Sigma : Mat) : covClose 0 M Sigma = true ↔ gram M = Sigma :=
  matClose_zero_iff _ _

/-- **A correlated lower factor exposes it**: for `L = [[1, 0], [1/2, 1]]` the matrix the code
applies (`L` itself) does *not* give the configured covariance `L Lᵀ = [[1, 1/2], [1/2, 5/4]]`
(it gives `LᵀL = [[5/4, 1/2], [1/2, 1]]`), whereas `Lᵀ` does. -/
theorem covOK_correlated_counterexample :
    covOK (appliedM [[1, 0], [1/2, 1]]) [[1, 0], [1/2, 1]] = false ∧
    gram (appliedM [[1, 0], [1/2, 1]]) = [[5/4, 1/2], [1/2, 1]] ∧
    llt [[1, 0], [1/2, 1]] = [[1, 1/2], [1/2, 5/4]] ∧
    covOK (VOPy.Problem.transpose [[1, 0], [1/2, 1]]) [[1, 0], [1/2, 1]] = true := by
  decide +kernel

open MeasureTheory Matrix in
/-- **The sampling law, measure-theoretically.**  Let `X` be a random vector on any probability
space whose coordinates are integrable with mean 0 and whose products are integrable with
`E[X_i X_j] = δ_ij` (as for i.i.d. standard normals — the assumption made about numpy's generator).
Then the noisy evaluation `Y = f + X·M` has mean `f` and covariance
`E[(Y_a − f_a)(Y_b − f_b)] = (MᵀM)_{ab}`.  With the code's `M = L` this is `LᵀL`. -/
theorem noise_law {Ω : Type} [MeasurableSpace Ω] (μ : Measure Ω) [IsProbabilityMeasure μ]
    {d m : Nat} (X : Ω → Fin d → ℝ) (M : Matrix (Fin d) (Fin m) ℝ) (f : Fin m → ℝ)
    (hint1 : ∀ i, Integrable (fun ω => X ω i) μ) (h1 : ∀ i, ∫ ω, X ω i ∂μ = 0)
    (hint2 : ∀ i j, Integrable (fun ω => X ω i * X ω j) μ)
    (h2 : ∀ i j, ∫ ω, X ω i * X ω j ∂μ = if i = j then 1 else 0) :
    (∀ a, ∫ ω, (f + X ω ᵥ* M) a ∂μ = f a) ∧
    (∀ a b, ∫ ω, ((f + X ω ᵥ* M) a - f a) * ((f + X ω ᵥ* M) b - f b) ∂μ = (Mᵀ * M) a b) := by
  constructor
  · intro a
    simp only [Pi.add_apply]
    rw [integral_add (integrable_const _) (integrable_vecMul μ X M hint1 a),
      integral_vecMul μ X M hint1 h1 a]
    simp
  · intro a b
    simp only [Pi.add_apply, add_sub_cancel_left]
    exact integral_vecMul_mul_vecMul μ X M hint2 h2 a b

open MeasureTheory Matrix WithLp ProbabilityTheory in
/-- non-vacuity of `noise_law`: the standard Gaussian vector of `ℝᵈ` satisfies all four moment
hypotheses, so for it `E[f + x·M] = f` and `Cov(f + x·M) = MᵀM` -/
example {d m : Nat} (M : Matrix (Fin d) (Fin m) ℝ) (f : Fin m → ℝ) :
    let μ := stdGaussian (EuclideanSpace ℝ (Fin d))
    (∀ a, ∫ ω, (f + ofLp ω ᵥ* M) a ∂μ = f a) ∧
    (∀ a b, ∫ ω, ((f + ofLp ω ᵥ* M) a - f a) * ((f + ofLp ω ᵥ* M) b - f b) ∂μ = (Mᵀ * M) a b) :=
  noise_law (stdGaussian (EuclideanSpace ℝ (Fin d))) (fun ω => ofLp ω) M f
    (fun i => (stdGaussian_memLp_coord i).integrable (by norm_num))
    (fun i => stdGaussian_integral_coord i)
    (fun i j => (stdGaussian_memLp_coord i).integrable_mul (stdGaussian_memLp_coord j))
    (fun i j => stdGaussian_integral_coord_mul i j)

open MeasureTheory Matrix WithLp ProbabilityTheory in
/-- **The sampling law for Gaussian draws.**  If the row `x` is a standard Gaussian vector of `ℝᵈ`
(i.i.d. standard normal coordinates — what `np.random.normal(size=(n, d))` is assumed to deliver per
row), the noisy evaluation `f + x·M` is *exactly* multivariate Gaussian with mean `f` and
covariance matrix `MᵀM` (equality of measures on `ℝᵈ`). -/
theorem noise_gaussian_law {d : Nat} (f : EuclideanSpace ℝ (Fin d)) (M : Matrix (Fin d) (Fin d) ℝ) :
    (stdGaussian (EuclideanSpace ℝ (Fin d))).map (fun x => toLp 2 (ofLp f + ofLp x ᵥ* M)) =
      multivariateGaussian f (Mᵀ * M) :=
  map_add_vecMul_stdGaussian f M

open MeasureTheory Matrix WithLp ProbabilityTheory in
/-- **…and it is the configured Gaussian `N(f, L Lᵀ)` iff `MᵀM = L Lᵀ`.** -/
theorem noise_gaussian_law_iff {d : Nat} (f : EuclideanSpace ℝ (Fin d))
    (M L : Matrix (Fin d) (Fin d) ℝ) :
    (stdGaussian (EuclideanSpace ℝ (Fin d))).map (fun x => toLp 2 (ofLp f + ofLp x ᵥ* M)) =
      multivariateGaussian f (L * Lᵀ) ↔ Mᵀ * M = L * Lᵀ := by
  rw [map_add_vecMul_stdGaussian,
    multivariateGaussian_inj (posSemidef_transpose_mul_self M) (posSemidef_self_mul_transpose L)]

open MeasureTheory Matrix WithLp ProbabilityTheory in
/-- **The defect, as a statement about laws.**  For the correlated lower factor
`L = [[1, 0], [1/2, 1]]`, multiplying standard Gaussian rows by `L` itself (what
`get_noisy_evaluations_chol` does) does **not** produce the configured law `N(f, L Lᵀ)`. -/
theorem noise_gaussian_law_code_wrong (f : EuclideanSpace ℝ (Fin 2)) :
    (stdGaussian (EuclideanSpace ℝ (Fin 2))).map
        (fun x => toLp 2 (ofLp f + ofLp x ᵥ* (!![1, 0; 1/2, 1] : Matrix (Fin 2) (Fin 2) ℝ))) ≠
      multivariateGaussian f ((!![1, 0; 1/2, 1] : Matrix (Fin 2) (Fin 2) ℝ) * !![1, 0; 1/2, 1]ᵀ) := by
  rw [Ne, noise_gaussian_law_iff]
  intro h
  have := congrFun (congrFun h 0) 0
  simp [Matrix.mul_apply, Fin.sum_univ_two] at this

/-! ## the `RealLike` standardisation formula at `ℝ` -/

/-- **`standardiseF`** — the term `(x − mean) / sqrt(population variance)` that the driver evaluates
at `Float` against `StandardScaler` — instantiated at `ℝ`: on a non-empty column with non-zero
variance the result has the same length, mean 0 and population variance 1. -/
theorem standardiseF_spec (col : List ℝ) (hcol : col ≠ []) (hv : popVarF col ≠ 0) :
    (standardiseF col).length = col.length ∧ meanF (standardiseF col) = 0 ∧
      popVarF (standardiseF col) = 1 :=
  standardiseF_moments col hcol hv

/-- non-vacuity: the column `[1, 3]` has population variance 1 -/
example : popVarF ([1, 3] : List ℝ) ≠ 0 := by
  rw [popVarF_real, meanF_real]
  norm_num

/-! ## the band relation used by the harness -/

/-- **`nearestBand`** (the relation (R) the harness evaluates on the implementation's output): with
at least one design, index `j` is in the band iff it is a valid design index whose squared distance
exceeds no other design's by more than `tol`; for `tol = 0` these are exactly the nearest designs. -/
theorem mem_nearestBand (x : Vec) (X : Mat) (tol : Rat) (hX : X ≠ []) (j : Nat) :
    j ∈ nearestBand x X tol ↔ ∃ hj : j < X.length,
      ∀ (k : Nat) (hk : k < X.length), sqDist x X[j] ≤ sqDist x X[k] + tol :=
  mem_nearestBand_iff x X tol hX j

end VOPy.C20

/-! # INVARIANCE — the nearest-design lookup depends on differences only

What the metamorphic checks of the harness rely on ("translated / rescaled designs and queries give the
identical index"): the *index* returned by `nearestFirst` (`np.argmin` of the squared distances, first
minimum) is unchanged — the tie rule included, because the whole list of distances is unchanged
(translation) or multiplied by one positive constant (scaling). -/
namespace VOPy.C20
open VOPy VOPy.Problem

/-- **Translation invariance.**  Translating every design and the query by a common vector `t` (all of
the length of `t`) leaves the list of squared distances literally unchanged, hence the returned index
(first among ties) and the band of near-ties. -/
theorem nearestFirst_translate (x t : Vec) (X : Mat) (hx : x.length = t.length)
    (hX : ∀ r ∈ X, r.length = t.length) :
    dists (vadd x t) (X.map (fun r => vadd r t)) = dists x X ∧
    nearestFirst (vadd x t) (X.map (fun r => vadd r t)) = nearestFirst x X ∧
    ∀ tol, nearestBand (vadd x t) (X.map (fun r => vadd r t)) tol = nearestBand x X tol := by
  have h := dists_translate x t X hx hX
  refine ⟨h, ?_, fun tol => ?_⟩
  · simp only [nearestFirst, h]
  · simp only [nearestBand, h]

/-- **Scaling invariance.**  Multiplying every design and the query by `c ≠ 0` multiplies every squared
distance by `c² > 0`; `np.argmin`'s first-minimum scan returns the same index: ties stay ties, strict
inequalities stay strict. -/
theorem nearestFirst_scale (c : Rat) (hc : c ≠ 0) (x : Vec) (X : Mat) :
    dists (smul c x) (X.map (smul c)) = (dists x X).map (fun d => c * c * d) ∧
    nearestFirst (smul c x) (X.map (smul c)) = nearestFirst x X := by
  have h := dists_scale c x X
  refine ⟨h, ?_⟩
  simp only [nearestFirst, h]
  exact argminFirst_map _ (mul_sq_lt_iff c hc) _

/-- **The first-minimum rule is order-theoretic**: `np.argmin` (first index of the minimum) commutes
with every strictly increasing re-labelling of the values. -/
theorem argmin_strictMono_invariant (f : Rat → Rat) (hf : ∀ x y, f x < f y ↔ x < y) (l : List Rat) :
    argminFirst (l.map f) = argminFirst l :=
  argminFirst_map f hf l

/-- **`evaluate` is invariant**: looking up the translated (resp. rescaled) queries among the
translated (resp. rescaled) designs returns the same objective rows. -/
theorem evaluate_translate_scale (X Y xs : Mat) (t : Vec) (c : Rat) (hc : c ≠ 0)
    (hX : ∀ r ∈ X, r.length = t.length) (hxs : ∀ x ∈ xs, x.length = t.length) :
    evaluate (X.map (fun r => vadd r t)) Y (xs.map (fun r => vadd r t)) = evaluate X Y xs ∧
    evaluate (X.map (smul c)) Y (xs.map (smul c)) = evaluate X Y xs := by
  exact ⟨evaluate_congr _ fun x hx => (nearestFirst_translate x t X (hxs x hx) hX).2.1,
    evaluate_congr _ fun x _ => (nearestFirst_scale c hc x X).2⟩

/-! ### non-vacuity: offset `2^20`, distances of size `2^-10` -/

/-- a tie between designs 1 and 2 (both at squared distance `2^-22` from the query) next to the offset
`(2^20, −2^20)`: the first of the two is returned, before and after translation, and after scaling by
`2^20` -/
example :
    nearestFirst [1/2048, 0] [[2/1024, 0], [1/1024, 0], [0, 0], [1/2048, 5]] = some 1 ∧
    nearestFirst (vadd [1/2048, 0] [1048576, -1048576])
      ([[2/1024, 0], [1/1024, 0], [0, 0], [1/2048, 5]].map (fun r => vadd r [1048576, -1048576])) = some 1 ∧
    nearestFirst (smul 1048576 [1/2048, 0])
      ([[2/1024, 0], [1/1024, 0], [0, 0], [1/2048, 5]].map (smul 1048576)) = some 1 := by
  decide +kernel

example :
    nearestFirst (vadd [1/2048, 0] [1048576, -1048576])
      ([[2/1024, 0], [1/1024, 0], [0, 0], [1/2048, 5]].map (fun r => vadd r [1048576, -1048576])) =
    nearestFirst [1/2048, 0] [[2/1024, 0], [1/1024, 0], [0, 0], [1/2048, 5]] :=
  (nearestFirst_translate [1/2048, 0] [1048576, -1048576] [[2/1024, 0], [1/1024, 0], [0, 0], [1/2048, 5]]
    rfl (by decide)).2.1

end VOPy.C20
