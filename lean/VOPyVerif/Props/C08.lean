import VOPyVerif.Proofs.NaiveModel
import VOPyVerif.Proofs.NaiveCompose
import VOPyVerif.Props.C13
/-!
# C08 — NaiveElimination with its default sample count is (ε, δ)-PAC; its reported P is always the
exact Pareto set of the per-design means of all observations so far

Property theorems only.  They are about the definitions of `Model/Naive.lean` the driver executes:
the run state machine `init/step/runSteps/State.P`, `rowMeans`, `naiveP` (the shared `Pareto.fast`
under `dominates W`), and the formula terms `coneBeta`, `naiveC`, `naiveLreal`, `naiveLcode`
(what the constructor computes), `naiveLprop` (what the property's mechanism states: σ is the noise
standard deviation) instantiated at `ℝ`.

Definitions used in the statements (in `Proofs/NaiveDet.lean`, `Proofs/NaiveCompose.lean`):
* `GapExceeds W mu K i ε` — some design `j < K` has `m(i,j) > ε`: `∃ s > ε, ∀ u ∈ C, ‖u‖ ≤ 1 →
  μ_j − μ_i − s·u ∈ C` (the paper's gap; `Δ_i = max_j m(i,j)` is what `vopy.utils.get_delta`
  computes, so `Δ_i > ε` implies `GapExceeds`);
* `Covered W ε x y` — `∃ z ∈ C, ‖z‖ ≤ ε, y + z − x ∈ C`: the feasibility problem of
  `vopy.utils.is_covered(x, y, ε, W)`;
* `Accurate W mu K ε P` — every `i ∈ P` is a valid index whose gap does not exceed `ε`, and every
  design `i < K` (in particular every Pareto-optimal one) is `ε`-covered by some member of `P`.
-/
open MeasureTheory ProbabilityTheory
open scoped NNReal

namespace VOPy.C08
open VOPy VOPy.Naive

/-- **State of a run after any history.**  Feed `run_one_step` any list `news` of observation
matrices (`K` rows each), starting from the constructor's state: exactly the first `L` matrices are
consumed (calls after completion change nothing), `round` is their number, `sample_count = K·round`,
the tensor has `K` rows and row `i` lists the `i`-th rows of the consumed matrices in order. -/
theorem run_state (K L : Nat) (news : List (List Vec)) (hshape : ∀ new ∈ news, new.length = K) :
    let s := runSteps (init K L) news
    s.L = L ∧ s.K = K ∧ s.round = (news.take L).length ∧ s.sampleCount = K * (news.take L).length ∧
    s.samples.length = K ∧
    ∀ i, i < K → s.samples[i]? = some ((news.take L).filterMap (·[i]?)) :=
  run_init K L news hshape

/-- the call that reaches round `L` returns `True`, earlier calls `False`, later calls `True` without
touching the state -/
theorem step_done (s : State) (new : List Vec) :
    (step s new).2 = true ↔ (s.round = s.L ∨ s.round + 1 = s.L) := by
  unfold step
  by_cases h : s.round = s.L
  · simp [h]
  · simp [h]

/-- **P is the exact Pareto set of the per-design arithmetic means of all observations so far.**
For every cone matrix `W`, every `K`, `L`, `m` and every history `news` of `K × m` observation
matrices with at least one consumed: the model's `P` is `Pareto.fast (dominates W)` of
`rowMeans samples`; mean `i`, coordinate `c` is the sum over all consumed rounds of observation
`(i, c)` divided by the number of rounds; and hence (C13, `dominates_fast_spec`) `P` consists of
valid, strictly increasing indices of pairwise non-dominating means, every design's mean is
dominated by the mean of a member of `P`, and no member's mean is strictly dominated. -/
theorem naive_P_is_pareto_of_means (W : Mat) (K L m : Nat) (news : List (List Vec))
    (hshape : ∀ new ∈ news, new.length = K ∧ ∀ o ∈ new, o.length = m)
    (hpos : 0 < (news.take L).length) :
    let s := runSteps (init K L) news
    let means := rowMeans s.samples
    let idx := s.P W
    idx = Pareto.fast (dominates W) means ∧
    means.length = K ∧
    (∀ i c, i < K → c < m → ∃ mean, means[i]? = some mean ∧
      mean[c]? = some ((((news.take L).filterMap (·[i]?)).map (fun o => o[c]?.getD 0)).sum
                        / ((news.take L).length : Rat))) ∧
    (∀ i ∈ idx, i < K) ∧
    idx.Pairwise (· < ·) ∧
    (∀ i ∈ idx, ∀ j ∈ idx, i ≠ j → ∀ a b, means[i]? = some a → means[j]? = some b →
      dominates W a b = false) ∧
    (∀ x ∈ means, ∃ i ∈ idx, ∃ a, means[i]? = some a ∧ dominates W a x = true) ∧
    (∀ i ∈ idx, ∀ a, means[i]? = some a → ∀ x ∈ means, dominates W x a = true →
      dominates W a x = true) := by
  intro s means idx
  obtain ⟨-, -, hround, -, hlenS, hrows⟩ := run_init K L news fun n hn => (hshape n hn).1
  have hshapeS := run_samples_shape K L m news hshape
  have hP : idx = Pareto.fast (dominates W) means :=
    State.P_of_round_ne_zero W s (hround ▸ hpos.ne')
  have hmlen : means.length = K := (List.length_map ..).trans hlenS
  have hspec := C13.dominates_fast_spec W m means (length_of_mem_rowMeans _ m _ hpos hshapeS)
  rw [← hP, hmlen] at hspec
  refine ⟨hP, hmlen, ?_, hspec⟩
  intro i c hi hc
  obtain ⟨hl, hall⟩ := hshapeS _ (List.mem_of_getElem? (hrows i hi))
  refine ⟨_, (List.getElem?_map).trans (congrArg (Option.map rowMean) (hrows i hi)), ?_⟩
  rw [rowMean_getElem? _ c (List.ne_nil_of_length_pos (hl ▸ hpos))
    (fun o ho => (hall o ho).symm ▸ hc), hl]

/-- non-vacuity: three designs, two rounds consumed of three fed (`L = 2`), orthant cone -/
example :
    (runSteps (init 3 2) [[[1, 2], [0, 0], [5, 0]], [[3, 4], [0, 0], [5, 0]], [[9, 9], [9, 9], [9, 9]]]).P
      (identMat 2) = [0, 2] := by decide +kernel

/-- **Relation of `GapExceeds` to VOPy's `m(i,j)` formula.**  If `α₁, α₂` bound the facet
functionals on the unit ball of the cone (`α_n ≥ max{w_n·u | u ∈ C, ‖u‖ ≤ 1}`, which is how
`OrderingCone.alpha` is defined) and some design `j` has `w_n·(μ_j − μ_i) ≥ s·α_n` on both facets
for some `s > ε` — i.e. `m(i,j) = min_n max(0, w_n·(μ_j − μ_i))/α_n > ε`, the quantity
`get_smallmij`/`get_delta` compute — then `GapExceeds` holds.  So the designs the theorems exclude
include every design whose VOPy gap `Δ_i` exceeds `ε`. -/
theorem gapExceeds_of_facet_margins (W : Cone2) (mu : ℕ → ℝ × ℝ) (K i j : ℕ) (hj : j < K)
    (ε s α1 α2 : ℝ) (hs : ε < s) (hs0 : 0 ≤ s)
    (hα1 : ∀ u, W.mem u → nsq u ≤ 1 → W.f1 u ≤ α1) (hα2 : ∀ u, W.mem u → nsq u ≤ 1 → W.f2 u ≤ α2)
    (h1 : s * α1 ≤ W.f1 (mu j - mu i)) (h2 : s * α2 ≤ W.f2 (mu j - mu i)) :
    GapExceeds W mu K i ε := by
  refine ⟨j, hj, s, hs, ?_⟩
  intro u hu hun
  constructor
  · rw [W.f1_sub, W.f1_smul]
    exact sub_nonneg.mpr ((mul_le_mul_of_nonneg_left (hα1 u hu hun) hs0).trans h1)
  · rw [W.f2_sub, W.f2_smul]
    exact sub_nonneg.mpr ((mul_le_mul_of_nonneg_left (hα2 u hu hun) hs0).trans h2)

/-- **Deterministic accuracy, general 2 × 2 rational cone (the matrix the driver is given).**
`W = [[a1, a2], [c1, c2]]` with linearly independent rows; `B2 ≥ 1` and, when the cone is acute
(`w₁·w₂ < 0`), `B2 ≥ ‖w₁‖²‖w₂‖² / (‖w₁‖²‖w₂‖² − (w₁·w₂)²)` (`B2 = β²`).  If every rational sample
mean of the model is within `ρ` (Euclidean) of its true mean `mu i` and `β·2ρ ≤ ε`
(stated as `B2·4ρ² ≤ ε²`), then `naiveP W samples` — the executable definition — is accurate:
no member's gap exceeds `ε` and every design is `ε`-covered by a member. -/
theorem naive_deterministic_gram (a1 a2 c1 c2 : ℚ) (hdet : a1 * c2 - a2 * c1 ≠ 0)
    (B2 : ℝ) (hB1 : 1 ≤ B2)
    (hB : (coneOfRat a1 a2 c1 c2).g < 0 →
      (coneOfRat a1 a2 c1 c2).p * (coneOfRat a1 a2 c1 c2).q
        ≤ B2 * ((coneOfRat a1 a2 c1 c2).p * (coneOfRat a1 a2 c1 c2).q - (coneOfRat a1 a2 c1 c2).g ^ 2))
    (samples : List (List Vec)) (hlen : ∀ x ∈ rowMeans samples, x.length = 2)
    (mu : ℕ → ℝ × ℝ) (ε ρ : ℝ) (hε : 0 < ε) (hρ : B2 * (4 * ρ ^ 2) ≤ ε ^ 2)
    (hclose : ∀ i (h : i < (rowMeans samples).length),
      nsq (toR2 (rowMeans samples)[i] - mu i) ≤ ρ ^ 2) :
    Accurate (coneOfRat a1 a2 c1 c2) mu samples.length ε (naiveP [[a1, a2], [c1, c2]] samples) := by
  have hdetR : (coneOfRat a1 a2 c1 c2).det ≠ 0 := by
    rw [coneOfRat_det]; exact Rat.cast_ne_zero.mpr hdet
  exact accurate_naiveP a1 a2 c1 c2 samples hlen mu ε ρ hclose fun xs hxs =>
    det_real _ B2 (zero_le_one.trans hB1) (planar _ hdetR B2 hB1 hB) (exists_interior _ hdetR)
      xs mu ε ρ hε hρ hxs

/-- non-vacuity of `naive_deterministic_gram`: the acute integer cone `[[2,-1],[-1,2]]`
(`p = q = 5`, `g = -4`, `pq/(pq − g²) = 25/9`), `B2 = 25/9`, two designs. -/
example : Accurate (coneOfRat 2 (-1) (-1) 2) (fun i => if i = 0 then (0, 0) else (3, 3)) 2 1
    (naiveP [[2, -1], [-1, 2]] [[[0, 0]], [[3, 3]]]) := by
  have h := naive_deterministic_gram 2 (-1) (-1) 2 (by norm_num) (25 / 9) (by norm_num)
    (by intro _; simp only [Cone2.p, Cone2.q, Cone2.g, coneOfRat]; norm_num)
    [[[0, 0]], [[3, 3]]] (by decide +kernel)
    (fun i => if i = 0 then (0, 0) else (3, 3)) 1 0 (by norm_num) (by norm_num)
    (by
      have e : rowMeans [[[0, 0]], [[3, 3]]] = [[0, 0], [3, 3]] := by decide +kernel
      rw [e]
      intro i hi
      match i, hi with
      | 0, _ => simp [toR2, nsq]
      | 1, _ => simp [toR2, nsq])
  exact h

/-- **Deterministic accuracy for the θ-cone (the statement of the property's mechanism).**
2-D cone with rational unit facet normals `w₁ = (a1, a2)`, `w₂ = (c1, c2)`, `w₁·w₂ = −cos θ`,
`θ ∈ (0°, 180°)`, and `β = coneBeta θ` — the same term `ConeTheta2D.beta` is compared against
(`1/sin θ` for `θ < 90°`, else `1`).  If every sample mean of the model is within
`ρ ≤ ε/(2β)` of its true mean, the Pareto set of the sample means `naiveP W samples` contains no
design whose gap exceeds `ε` and `ε`-covers every design (so every truly Pareto-optimal one). -/
theorem naive_deterministic (a1 a2 c1 c2 : ℚ) (θdeg : ℝ)
    (hθ : ThetaCone (coneOfRat a1 a2 c1 c2) θdeg)
    (samples : List (List Vec)) (hlen : ∀ x ∈ rowMeans samples, x.length = 2)
    (mu : ℕ → ℝ × ℝ) (ε ρ : ℝ) (hε : 0 < ε) (hρ0 : 0 ≤ ρ) (hρ : ρ ≤ ε / (2 * coneBeta θdeg))
    (hclose : ∀ i (h : i < (rowMeans samples).length),
      nsq (toR2 (rowMeans samples)[i] - mu i) ≤ ρ ^ 2) :
    Accurate (coneOfRat a1 a2 c1 c2) mu samples.length ε (naiveP [[a1, a2], [c1, c2]] samples) :=
  accurate_naiveP a1 a2 c1 c2 samples hlen mu ε ρ hclose fun xs hxs =>
    det_theta _ θdeg hθ xs mu ε ρ hε hρ0 hρ hxs

/-- non-vacuity of the θ-cone hypotheses: the orthant is the 90° cone (`−cos 90° = 0`) -/
example : ThetaCone (coneOfRat 1 0 0 1) 90 := by
  refine ⟨by norm_num, by norm_num, by simp [coneOfRat], by simp [coneOfRat], ?_⟩
  simp only [coneOfRat]
  have : (90 : ℝ) / 180 * Real.pi = Real.pi / 2 := by ring
  rw [this, Real.cos_pi_div_two]; simp

/-- **The constructor's pre-ceiling value is the property's multiplied by the noise variance.**
`NaiveElimination.__init__` evaluates the formula with `noise_var` where the standard deviation
`σ = √noise_var` belongs; therefore it asks for `noise_var` times the samples the property's
mechanism states — fewer whenever the variance is below 1 (suspected defect D1). -/
theorem naive_code_formula_scales_with_variance (nv β ε δ : ℝ) (hnv : 0 ≤ nv) (m K : ℕ) :
    naiveLreal (naiveC : ℝ) nv β ε δ m K
      = nv * naiveLreal (naiveC : ℝ) (RealLike.sqrt nv) β ε δ m K := by
  rw [naiveLreal_real, naiveLreal_real, RealLike.sqrt_real]
  have : (naiveC * nv * β / ε) ^ 2 = nv * (naiveC * √nv * β / ε) ^ 2 := by
    rw [div_pow, div_pow, mul_pow, mul_pow, mul_pow, mul_pow, Real.sq_sqrt hnv]; ring
  rw [this]; ring

/-- **PAC, probabilistic half, with the property's sample count.**  `K ≥ 2` designs, `m = 2`
objectives, noise coordinates i.i.d. `N(0, noise_var)` (a product Gaussian measure indexed by
design × round × objective), `θ ∈ (0°, 180°)`, `0 < δ ≤ 1`, `ε > 0`.  If the number of rounds `L`
is at least `naiveLprop = ⌈4 (cσβ/ε)² log(4·2 / (2δ/(K(K−1))))⌉` with `c = 1 + √2`,
`σ = √noise_var` (the STANDARD DEVIATION) and `β = coneBeta θ`, then the probability that some
design's sample mean deviates from its true mean by more than `ε/(2β)` in Euclidean norm is at
most `δ`. -/
theorem naive_pac (K : ℕ) (hK : 2 ≤ K) (nv : ℝ≥0) (hnv : nv ≠ 0) (ε δ θdeg : ℝ)
    (hε : 0 < ε) (hδ : 0 < δ) (hδ1 : δ ≤ 1) (hθ0 : 0 < θdeg) (hθ1 : θdeg < 180)
    (L : ℕ) (hL : naiveLprop (nv : ℝ) ε δ θdeg 2 K ≤ L) :
    (noiseMeasure (NoiseIdx K L) nv).real
        {ξ | ∃ i : Fin K, (ε / (2 * coneBeta θdeg)) ^ 2 < ∑ c : Fin 2, (dev ξ i c) ^ 2} ≤ δ := by
  have hnv0 : (0 : ℝ) < nv := NNReal.coe_pos.mpr (pos_iff_ne_zero.mpr hnv)
  have hLpos := pos_of_naiveLprop_le hK hnv0 hε hδ hδ1 hθ0 hθ1 hL
  have ha := pac_arith K hK _ _ _ ε δ two_le_naiveC (Real.sqrt_pos.mpr hnv0) (coneBeta_pos hθ0 hθ1)
    hε hδ hδ1 L (naiveLreal_le_of_naiveLprop_le hL)
  rw [Real.sq_sqrt hnv0.le] at ha
  exact (dev_event_bound K L hLpos nv hnv (ε / (2 * coneBeta θdeg))).trans ha

/-- non-vacuity of `naive_pac`: variance 1/100 (σ = 1/10), ε = 1/10, δ = 1/20, θ = 90°, K = 3, and `L`
the property's count itself -/
example :
    (noiseMeasure (NoiseIdx 3 (naiveLprop (((1 / 100 : ℝ≥0)) : ℝ) (1 / 10) (1 / 20) 90 2 3)) (1 / 100)).real
        {ξ | ∃ i : Fin 3, ((1 / 10 : ℝ) / (2 * coneBeta (90 : ℝ))) ^ 2 < ∑ c : Fin 2, (dev ξ i c) ^ 2}
      ≤ 1 / 20 :=
  naive_pac 3 (by norm_num) (1 / 100) (by norm_num) (1 / 10) (1 / 20) 90 (by norm_num) (by norm_num)
    (by norm_num) (by norm_num) (by norm_num) _ le_rfl

/-- **(ε, δ)-PAC for the θ-cone with the property's sample count (composition, over `ℝ`).**
True means `mu`, observations `mu i + ξ(i, t, ·)` with i.i.d. `N(0, noise_var)` noise, `L ≥
naiveLprop` rounds, a 2-D cone with unit normals at angle `θ`: the probability that the Pareto set
(shared `Pareto.fast` loop, real cone order) of the `K` sample means is NOT accurate — contains a
design whose gap exceeds `ε`, or fails to `ε`-cover some design — is at most `δ`. -/
theorem naive_pac_accuracy (W : Cone2) (θdeg : ℝ) (hW : ThetaCone W θdeg)
    (K : ℕ) (hK : 2 ≤ K) (nv : ℝ≥0) (hnv : nv ≠ 0) (ε δ : ℝ)
    (hε : 0 < ε) (hδ : 0 < δ) (hδ1 : δ ≤ 1)
    (L : ℕ) (hL : naiveLprop (nv : ℝ) ε δ θdeg 2 K ≤ L) (mu : ℕ → ℝ × ℝ) :
    (noiseMeasure (NoiseIdx K L) nv).real
        {ξ | ¬ Accurate W mu K ε (Pareto.fast W.domB (sampleMeansR mu ξ))} ≤ δ := by
  have hLpos := pos_of_naiveLprop_le hK (NNReal.coe_pos.mpr (pos_iff_ne_zero.mpr hnv)) hε hδ hδ1
    hW.pos hW.lt hL
  -- outside the deviation event every sample mean is within `ε/(2β)` of its true mean
  refine le_trans (measureReal_mono (fun ξ hξ => ?_) (measure_ne_top _ _))
    (naive_pac K hK nv hnv ε δ θdeg hε hδ hδ1 hW.pos hW.lt L hL)
  by_contra hcon
  simp only [Set.mem_ofPred_eq, not_exists, not_lt] at hcon
  exact hξ (accurate_sampleMeansR W θdeg hW hLpos mu ε hε ξ hcon)

/-- non-vacuity of `naive_pac_accuracy`: the orthant (90° cone), three designs -/
example (mu : ℕ → ℝ × ℝ) :
    (noiseMeasure (NoiseIdx 3 (naiveLprop (((1 / 100 : ℝ≥0)) : ℝ) (1 / 10) (1 / 20) 90 2 3)) (1 / 100)).real
        {ξ | ¬ Accurate ⟨1, 0, 0, 1⟩ mu 3 (1 / 10)
              (Pareto.fast (Cone2.domB ⟨1, 0, 0, 1⟩) (sampleMeansR mu ξ))} ≤ 1 / 20 := by
  refine naive_pac_accuracy ⟨1, 0, 0, 1⟩ 90 ⟨by norm_num, by norm_num, by norm_num, by norm_num, ?_⟩
    3 (by norm_num) (1 / 100) (by norm_num) (1 / 10) (1 / 20) (by norm_num) (by norm_num) (by norm_num)
    _ le_rfl mu
  have : (90 : ℝ) / 180 * Real.pi = Real.pi / 2 := by ring
  rw [this, Real.cos_pi_div_two]; simp

/-- **Where the constructor's own count suffices.**  For noise variance `≥ 1` the code's default
`L` (`naiveLcode`, variance in place of σ) is at least the property's `naiveLprop`, so the PAC
bound holds for the code as written; for variance `< 1` it is smaller by the factor `noise_var`
(`naive_code_formula_scales_with_variance`) and the harness exhibits failing inputs. -/
theorem naive_code_count_suffices_of_var_ge_one (K : ℕ) (hK : 2 ≤ K) (nv ε δ θdeg : ℝ)
    (hnv : 1 ≤ nv) (hε : 0 < ε) (hδ : 0 < δ) (hδ1 : δ ≤ 1) (hθ0 : 0 < θdeg) (hθ1 : θdeg < 180) :
    naiveLprop nv ε δ θdeg 2 K ≤ naiveLcode nv ε δ θdeg 2 K := by
  simp only [naiveLprop, naiveLcode, CeilNat.ceilNat]
  apply Nat.ceil_le_ceil
  rw [naive_code_formula_scales_with_variance nv _ ε δ (zero_le_one.trans hnv) 2 K]
  rw [RealLike.sqrt_real]
  exact le_mul_of_one_le_left (naiveLreal_pos K hK (√nv) (coneBeta θdeg) ε δ
    (Real.sqrt_pos.mpr (zero_lt_one.trans_le hnv)) (coneBeta_pos hθ0 hθ1) hε hδ hδ1).le hnv

/-! ### monotonicity of the required sample count -/

/-- **A stricter request never needs fewer samples.**  The real number handed to `np.ceil` is antitone in
the accuracy `ε` and in the confidence parameter `δ`: for `0 < ε' ≤ ε`, `0 < δ' ≤ δ ≤ 1`, `K ≥ 2`,
`m ≥ 1`, the value for `(ε', δ')` is at least the value for `(ε, δ)` (any `c, s, β`).  Together with the
monotonicity of `ceil` the default `L` can only grow when `ε` or `δ` shrinks. -/
theorem naiveLreal_antitone (c s β ε ε' δ δ' : ℝ) (m K : ℕ) (hK : 2 ≤ K) (hm : 1 ≤ m)
    (hε' : 0 < ε') (hε : ε' ≤ ε) (hδ' : 0 < δ') (hδ : δ' ≤ δ) (hδ1 : δ ≤ 1) :
    naiveLreal c s β ε δ m K ≤ naiveLreal c s β ε' δ' m K := by
  rw [naiveLreal_real, naiveLreal_real]
  have harg := four_le_logArg m K hK hm δ (hδ'.trans_le hδ) hδ1
  have hsq : (c * s * β / ε) ^ 2 ≤ (c * s * β / ε') ^ 2 := by
    rw [div_pow, div_pow]
    exact div_le_div_of_nonneg_left (sq_nonneg _) (pow_pos hε' 2) (pow_le_pow_left₀ hε'.le hε 2)
  exact mul_le_mul (mul_le_mul_of_nonneg_left hsq zero_le_four)
    (Real.log_le_log (four_pos.trans_le harg) (div_le_div_of_nonneg_left
      (mul_nonneg (mul_nonneg zero_le_two (Nat.cast_nonneg m)) (Nat.cast_nonneg _)) hδ' hδ))
    (Real.log_nonneg (Nat.one_le_ofNat.trans harg))
    (mul_nonneg zero_le_four (sq_nonneg _))

/-- **The default sample count is a genuine count: at least one round.**  For `K ≥ 2` designs, `m ≥ 1`
objectives, `0 < δ ≤ 1` and positive `c, s, β, ε` the real number handed to `np.ceil` is strictly positive
(the argument of the logarithm is at least `4`), so the default `L = ⌈·⌉` is a positive integer: the run
samples every design at least once and `round == L` becomes true after finitely many steps.  (A
reformulation of the logarithm's argument that can reach 0 or a negative value — `log(2mK(K−1)/δ)` at
`K = 1` — has no such bound: `ceil(-inf).astype(int)` is −2⁶³ and the run never completes.) -/
theorem naiveLreal_pos (c s β ε δ : ℝ) (m K : ℕ) (hK : 2 ≤ K) (hm : 1 ≤ m)
    (hc : 0 < c) (hs : 0 < s) (hβ : 0 < β) (hε : 0 < ε) (hδ : 0 < δ) (hδ1 : δ ≤ 1) :
    0 < naiveLreal c s β ε δ m K :=
  naiveLreal_pos_general c s β ε δ m K hK hm hc hs hβ hε hδ hδ1

/-- non-vacuity: K = 2, m = 2, δ = 1/10, c = s = β = ε = 1 -/
example : 0 < naiveLreal (1 : ℝ) 1 1 1 (1/10) 2 2 :=
  naiveLreal_pos 1 1 1 1 (1/10) 2 2 (by norm_num) (by norm_num) one_pos one_pos one_pos one_pos
    (by norm_num) (by norm_num)

end VOPy.C08
