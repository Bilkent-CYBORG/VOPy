import VOPyVerif.Proofs.CoveredComplete
import VOPyVerif.Proofs.InvCovered
/-!
# C10 — "is covered" decides `∃ z ∈ R₁, ∃ z' ∈ R₂ : z' dominates z by the slack`

Property theorems only (helper lemmas: `Proofs/LinCert.lean`, `Proofs/LinCertComplete.lean`,
`Proofs/LinCertKKT.lean`, `Proofs/Covered.lean`, `Proofs/CoveredGeom.lean`,
`Proofs/CoveredComplete.lean`).  They are about the executable definitions the driver runs
(`Model/LinCert.lean`, `Model/Covered.lean`): every `1`/`0` the driver prints has been accepted by
one of the checkers below, so it is a *theorem* about the exported (rational) inputs; the harness
compares these certified verdicts with `confidence_region_is_covered`.

Two layers:

* **soundness** ("sound when it answers"): witness ⇒ ∃, Farkas ⇒ ¬∃, KKT ⇒ exact distance, and the
  verdict functions built on them (`rect_verdict_sound`, `ball_verdict_sound`, `ell_verdict_sound`);
* **decision** ("always answers"): Fourier–Motzkin elimination with multiplier tracking is complete
  (`fm_complete`, `feasible_complete`, `feasible_decides`), the active-set search finds the KKT point
  of every non-empty polyhedron (`nearest_complete`), hence the rectangle and the ball verdicts are
  genuine decision procedures for `Coverable` over `ℝ`: `rect_isCovered_iff`, `rect_band_iff`,
  `ball_isCovered_iff`, `ball_band_iff` — `inconclusive` is impossible on well-formed input.
  (General ellipsoids stay certificate-checked: their certificates come from the harness.)

Real vectors are lists (`RVec = List ℝ`); `castV` embeds the rational data.

* `Coverable R₁ R₂ W s`     : `∃ z ∈ R₁, z' ∈ R₂, ∀ facets w, w·(z' − z − s) ≥ 0`   (rectangles:
                               slack `s` in objective space, `z' ≽ z + s` in the cone order)
* `CoverableFacet R₁ R₂ W t` : `∃ z ∈ R₁, z' ∈ R₂, ∀ i, wᵢ·(z' − z) ≥ tᵢ`            (ellipsoids:
                               slack per facet)
* `Cov R₁ R₂ W s t`          : both at once (`wᵢ·(z' − z − s) ≥ tᵢ`); the borderline band of the
                               harness perturbs `t`.
-/
namespace VOPy.C10
open VOPy VOPy.LinCert VOPy.Covered

/-- objective-space slack: some `z' ∈ R₂` dominates `z + s` for some `z ∈ R₁` -/
def Coverable (R₁ R₂ : Set RVec) (W : Mat) (s : Vec) : Prop :=
  ∃ z ∈ R₁, ∃ z' ∈ R₂, ∀ w ∈ W, 0 ≤ rdot (castV w) (rsub (rsub z' z) (castV s))

/-- per-facet slack: `wᵢ·(z' − z) ≥ tᵢ` for every facet -/
def CoverableFacet (R₁ R₂ : Set RVec) (W : Mat) (t : Vec) : Prop :=
  ∃ z ∈ R₁, ∃ z' ∈ R₂, FacetGe W (rsub z' z) t

/-! ## The three generic checkers (untrusted search + verified checker, DESIGN §2.3) -/

/-- **Witness ⇒ ∃.**  If `checkWitness` accepts `x`, the (cast of) `x` has `n` entries and satisfies
every inequality `a·x ≥ b` of the system over `ℝ`. -/
theorem witness_sound (n : ℕ) (S : Sys) (x : Vec) (h : checkWitness n S x = true) :
    (castV x).length = n ∧ ∀ r ∈ S, (r.b : ℝ) ≤ rdot (castV r.a) (castV x) :=
  checkWitness_sound h

/-- **Farkas ⇒ ¬∃.**  If `checkFarkas` accepts `y` (`y ≥ 0`, `yᵀA = 0`, `yᵀb > 0`), no real vector
with `n` entries satisfies all inequalities of the system. -/
theorem farkas_sound (n : ℕ) (S : Sys) (y : Vec) (h : checkFarkas n S y = true) :
    ¬ ∃ x : RVec, x.length = n ∧ ∀ r ∈ S, (r.b : ℝ) ≤ rdot (castV r.a) x :=
  checkFarkas_sound h

/-- **KKT ⇒ exact squared distance.**  If `checkKKT` accepts `(x, lam)`, then `x` is feasible and
`‖x − c‖² ≤ ‖x' − c‖²` for every real feasible `x'`: `normSq (x − c)` *is* the squared distance of
`c` to the polyhedron. -/
theorem kkt_sound (n : ℕ) (S : Sys) (c x lam : Vec) (h : checkKKT n S c x lam = true) :
    RSat n S (castV x) ∧
    ∀ x' : RVec, RSat n S x' →
      ((normSq (vsub x c) : ℚ) : ℝ) ≤ rnormSq (rsub x' (castV c)) := by
  have := checkKKT_sound h
  refine ⟨this.1, fun x' hx' => ?_⟩
  rw [cast_normSq, castV_vsub]
  exact this.2 x' hx'

/-- `LinCert.feasible` only answers with a checked certificate. -/
theorem feasible_sound (n : ℕ) (S : Sys) :
    (feasible n S = some true → ∃ x : RVec, RSat n S x) ∧
    (feasible n S = some false → ¬ ∃ x : RVec, RSat n S x) :=
  ⟨fun h => (certified_sound n S (solve n S)).of_yes (Verdict.ofOpt_eq_yes.2 h),
    fun h => (certified_sound n S (solve n S)).of_no (Verdict.ofOpt_eq_no.2 h)⟩

/-! ## Semantic predicates: relation between the three forms, monotonicity -/

/-- `Cov` with zero margin is the objective-space predicate `Coverable`. -/
theorem cov_zero_margin_iff (R₁ R₂ : Set RVec) (W : Mat) (s : Vec) :
    Cov R₁ R₂ W s (zeros W.length) ↔ Coverable R₁ R₂ W s := by
  simp only [Cov, Coverable, facetGe_zeros_iff]

/-- `Cov` with zero shift is the per-facet predicate `CoverableFacet` (regions of `m`-vectors). -/
theorem cov_zero_shift_iff (m : ℕ) (R₁ R₂ : Set RVec) (W : Mat) (t : Vec)
    (h₁ : ∀ z ∈ R₁, z.length = m) (h₂ : ∀ z ∈ R₂, z.length = m) :
    Cov R₁ R₂ W (zeros m) t ↔ CoverableFacet R₁ R₂ W t := by
  constructor
  · rintro ⟨z, hz, z', hz', h⟩
    rw [rsub_castV_zeros _ _ (by simp [h₁ z hz, h₂ z' hz'])] at h
    exact ⟨z, hz, z', hz', h⟩
  · rintro ⟨z, hz, z', hz', h⟩
    refine ⟨z, hz, z', hz', ?_⟩
    rw [rsub_castV_zeros _ _ (by simp [h₁ z hz, h₂ z' hz'])]
    exact h

/-- **Monotone in the margin** (any regions, any cone): lowering every per-facet threshold keeps a
configuration coverable.  This is what makes the harness's borderline band sound: "covered with
margin `+τ`" implies covered, "not covered with margin `−τ`" implies not covered. -/
theorem coverable_mono_margin (R₁ R₂ : Set RVec) (W : Mat) (s t t' : Vec)
    (h : List.Forall₂ (· ≤ ·) t' t) : Cov R₁ R₂ W s t → Cov R₁ R₂ W s t' :=
  cov_mono_margin R₁ R₂ W s t t' h

/-- **Monotone in the slack, in the cone order**: if `s − s'` lies in the cone (`W (s − s') ≥ 0`),
covering with slack `s` implies covering with slack `s'`. -/
theorem coverable_mono_slack (m : ℕ) (R₁ R₂ : Set RVec) (W : Mat) (s s' : Vec)
    (hR₁ : ∀ z ∈ R₁, z.length = m) (hR₂ : ∀ z ∈ R₂, z.length = m)
    (hW : ∀ w ∈ W, w.length = m) (hs : s.length = m) (hs' : s'.length = m)
    (hc : ∀ w ∈ W, 0 ≤ dot w (vsub s s')) : Coverable R₁ R₂ W s → Coverable R₁ R₂ W s' := by
  rw [← cov_zero_margin_iff, ← cov_zero_margin_iff]
  exact cov_mono_shift m R₁ R₂ W s s' _ hR₁ hR₂ hW hs hs' hc

/-- per-facet form of the monotonicity -/
theorem coverableFacet_mono (R₁ R₂ : Set RVec) (W : Mat) (t t' : Vec)
    (h : List.Forall₂ (· ≤ ·) t' t) : CoverableFacet R₁ R₂ W t → CoverableFacet R₁ R₂ W t' := by
  rintro ⟨z, hz, z', hz', hf⟩
  exact ⟨z, hz, z', hz', FacetGe.mono W _ t t' h hf⟩

/-- **Objective-space slack versus per-facet slack.**  Shifting by `s` in objective space is the
same as the per-facet slack `wᵢ · s` (plus the margin): `Cov R₁ R₂ W s t ↔
CoverableFacet R₁ R₂ W (W s + t)`.  (For the orthant `W = I` the two notions coincide; for other
cones an `N`-vector `ε·α` handed to the rectangular test is *not* the per-facet slack `ε·α`.) -/
theorem shift_slack_is_facet_slack (m : ℕ) (R₁ R₂ : Set RVec) (W : Mat) (s t : Vec)
    (h₁ : ∀ z ∈ R₁, z.length = m) (h₂ : ∀ z ∈ R₂, z.length = m)
    (hW : ∀ w ∈ W, w.length = m) (hs : s.length = m) (ht : W.length = t.length) :
    Cov R₁ R₂ W s t ↔ CoverableFacet R₁ R₂ W (vadd (matVec W s) t) := by
  constructor
  · rintro ⟨z, hz, z', hz', h⟩
    exact ⟨z, hz, z', hz',
      (facetGe_shift_iff m _ s (by simp [h₁ z hz, h₂ z' hz']) hs W t hW ht).1 h⟩
  · rintro ⟨z, hz, z', hz', h⟩
    exact ⟨z, hz, z', hz',
      (facetGe_shift_iff m _ s (by simp [h₁ z hz, h₂ z' hz']) hs W t hW ht).2 h⟩

/-! ## Rectangles -/

/-- **The LP the code builds is the semantic predicate.**  A real point `z ++ z'` satisfies
`rectSys W l₁ u₁ l₂ u₂ s t` (rows in the order of `RectangularConfidenceRegion.is_covered`) iff
`z ∈ [l₁,u₁]`, `z' ∈ [l₂,u₂]` and `wᵢ·(z' − z − s) ≥ tᵢ` for every facet. -/
theorem rect_lp_iff (W : Mat) (l1 u1 l2 u2 s t : Vec) (z z' : RVec)
    (h1 : u1.length = l1.length) (h2 : l2.length = l1.length) (h3 : u2.length = l1.length)
    (hs : s.length = l1.length) (ht : W.length = t.length) (hW : ∀ w ∈ W, w.length = l1.length)
    (hz : z.length = l1.length) (hz' : z'.length = l1.length) :
    RSat (2 * l1.length) (rectSys W l1 u1 l2 u2 s t) (z ++ z') ↔
      z ∈ box l1 u1 ∧ z' ∈ box l2 u2 ∧ FacetGe W (rsub (rsub z' z) (castV s)) t :=
  rectSys_sat ⟨h1, h2, h3, hs, ht, hW⟩ hz hz'

/-- **Rectangles, certified verdicts are correct** (any per-facet margin `t`):
`rectVerdict = yes ⇒ ∃ z ∈ [l₁,u₁], z' ∈ [l₂,u₂], W (z' − z − s) ≥ t`, and `= no ⇒` no such pair. -/
theorem rect_verdict_sound (W : Mat) (l1 u1 l2 u2 s t : Vec)
    (h1 : u1.length = l1.length) (h2 : l2.length = l1.length) (h3 : u2.length = l1.length)
    (hs : s.length = l1.length) (ht : W.length = t.length) (hW : ∀ w ∈ W, w.length = l1.length) :
    (rectVerdict W l1 u1 l2 u2 s t = .yes → Cov (box l1 u1) (box l2 u2) W s t) ∧
    (rectVerdict W l1 u1 l2 u2 s t = .no → ¬ Cov (box l1 u1) (box l2 u2) W s t) :=
  ⟨(rectVerdict_iff ⟨h1, h2, h3, hs, ht, hW⟩).1.1, (rectVerdict_iff ⟨h1, h2, h3, hs, ht, hW⟩).2.1⟩

/-- **Box reduction.**  For non-empty boxes of equal dimension the two-point question is a
one-point question about the difference box:
`∃ z ∈ [l₁,u₁], z' ∈ [l₂,u₂] : W (z' − z − s) ≥ t  ↔  ∃ d ∈ [l₂ − u₁, u₂ − l₁] : W (d − s) ≥ t`. -/
theorem coverable_box_iff_diff (W : Mat) (l1 u1 l2 u2 s t : Vec)
    (h1 : List.Forall₂ (· ≤ ·) l1 u1) (h2 : List.Forall₂ (· ≤ ·) l2 u2)
    (hl : l2.length = l1.length) :
    Cov (box l1 u1) (box l2 u2) W s t ↔
      ∃ d ∈ box (vsub l2 u1) (vsub u2 l1), FacetGe W (rsub d (castV s)) t :=
  cov_box_iff W l1 u1 l2 u2 s t h1 h2 hl

/-! ## Balls (the PaVeBa case `Σ = I`) -/

/-- **Ball reduction.**  `B(c₁,a₁)`, `B(c₂,a₂)` are coverable with per-facet slack `t` iff some `d`
with `‖d − (c₂ − c₁)‖ ≤ a₁ + a₂` satisfies `W d ≥ t`, i.e. iff the distance of `c₂ − c₁` to the
polyhedron `{d | W d ≥ t}` is at most `a₁ + a₂`. -/
theorem coverable_ball_iff_dist (W : Mat) (c1 c2 t : Vec) (a1 a2 : ℚ) (ha1 : 0 ≤ a1) (ha2 : 0 ≤ a2)
    (hc : c2.length = c1.length) :
    CoverableFacet (ball c1 a1) (ball c2 a2) W t ↔
      ∃ d : RVec, d.length = c1.length ∧
        rnormSq (rsub d (castV (vsub c2 c1))) ≤ ((a1 : ℝ) + a2) ^ 2 ∧ FacetGe W d t := by
  rw [← cov_ball_iff ha1 ha2 hc]
  exact (cov_zero_shift_iff c1.length _ _ W t ball_length
    (fun z hz => (ball_length z hz).trans hc)).symm

/-- **Balls, certified verdicts are correct.**  `ballVerdict` (exact KKT projection of `c₂ − c₁` on
`{d | W d ≥ t}`, squared distance compared with `(a₁ + a₂)²`; Farkas if the polyhedron is empty):
`yes ⇒` coverable, `no ⇒` not coverable. -/
theorem ball_verdict_sound (W : Mat) (c1 c2 t : Vec) (a1 a2 : ℚ) (ht : W.length = t.length) :
    (ballVerdict W c1 a1 c2 a2 t = .yes → CoverableFacet (ball c1 a1) (ball c2 a2) W t) ∧
    (ballVerdict W c1 a1 c2 a2 t = .no → ¬ CoverableFacet (ball c1 a1) (ball c2 a2) W t) :=
  ((ballVerdict_sound ht).congr (cov_zero_shift_iff_left c1.length _ _ W t ball_length)).spec

/-- **`EllipsoidalConfidenceRegion.is_covered` for `Σ = I`, model side, with the band.**  Slack
guard of the code (size 1 → one entry per facet, size `N` → as is).  For `τ ≥ 0`: `yes` with the
slack raised by `τ` ⇒ coverable with the exact slack; `no` with the slack lowered by `τ` ⇒ not
coverable with the exact slack (`τ = 0` is the exact statement). -/
theorem ball_band_sound (W : Mat) (c1 c2 slack : Vec) (a1 a2 tau : ℚ) (htau : 0 ≤ tau) :
    (ballIsCoveredTol W c1 a1 c2 a2 slack tau = some .yes →
      ∃ t, expandSlack W.length slack = some t ∧ CoverableFacet (ball c1 a1) (ball c2 a2) W t) ∧
    (ballIsCoveredTol W c1 a1 c2 a2 slack (-tau) = some .no →
      ∃ t, expandSlack W.length slack = some t ∧ ¬ CoverableFacet (ball c1 a1) (ball c2 a2) W t) := by
  have snd := fun τ : ℚ => map_sound (o := expandSlack W.length slack)
    (f := fun t => ballVerdict W c1 a1 c2 a2 (t.map (· + τ)))
    (P := fun t => CoverableFacet (ball c1 a1) (ball c2 a2) W (t.map (· + τ))) fun t ht =>
      (ballVerdict_sound (by rw [List.length_map, expandSlack_length ht])).congr
        (cov_zero_shift_iff_left c1.length _ _ W _ ball_length)
  have e0 : ∀ t : Vec, t.map (· + (0 : ℚ)) = t := fun t => by simp only [add_zero, List.map_id']
  constructor
  · intro h
    obtain ⟨t, ht, hc⟩ := (snd tau).1 h
    exact ⟨t, ht, e0 t ▸ coverableFacet_mono _ _ W _ _ (forall₂_map_add_le t 0 tau htau) hc⟩
  · intro h
    obtain ⟨t, ht, hc⟩ := (snd (-tau)).2 h
    exact ⟨t, ht, fun hc' => hc (coverableFacet_mono _ _ W _ _
      (forall₂_map_add_le t (-tau) 0 (neg_nonpos.2 htau)) (by rwa [e0]))⟩

/-! ## General ellipsoids `{c + L u | ‖u‖ ≤ a}` (certificates proposed by the harness) -/

/-- **Witness pair ⇒ coverable.**  If `checkEllWitness` accepts `(u₁, u₂)` (`‖uᵢ‖² ≤ aᵢ²`, the
points `cᵢ + Lᵢuᵢ` satisfy `W (z' − z) ≥ t` exactly), the two ellipsoids are coverable. -/
theorem ell_witness_sound (W : Mat) (c1 : Vec) (L1 : Mat) (a1 : ℚ) (c2 : Vec) (L2 : Mat) (a2 : ℚ)
    (t u1 u2 : Vec) (ht : W.length = t.length)
    (h : checkEllWitness W c1 L1 a1 c2 L2 a2 t u1 u2 = true) :
    CoverableFacet (ell c1 L1 a1) (ell c2 L2 a2) W t := by
  obtain ⟨hL1, hc2, hL2⟩ := wf_of_witness h
  exact (cov_zero_shift_iff c1.length _ _ W t (ell_length rfl hL1) (ell_length hc2 hL2)).1
    (checkEllWitness_sound W c1 L1 a1 c2 L2 a2 t u1 u2 ht h)

/-- **Separating multiplier ⇒ not coverable** (Cauchy–Schwarz).  If `checkEllSep` accepts `lam`
(`lam ≥ 0` and, with `v = Wᵀlam`, `v·(c₂−c₁) + a₁‖L₁ᵀv‖ + a₂‖L₂ᵀv‖ < lam·t`, decided over `ℚ` by
squaring twice), no pair of points of the two ellipsoids satisfies `W (z' − z) ≥ t`. -/
theorem ell_sep_sound (W : Mat) (c1 : Vec) (L1 : Mat) (a1 : ℚ) (c2 : Vec) (L2 : Mat) (a2 : ℚ)
    (t lam : Vec) (h : checkEllSep W c1 L1 a1 c2 L2 a2 t lam = true) :
    ¬ CoverableFacet (ell c1 L1 a1) (ell c2 L2 a2) W t := by
  obtain ⟨hL1, hc2, hL2⟩ := wf_of_sep h
  exact fun hc => checkEllSep_sound W c1 L1 a1 c2 L2 a2 t lam h
    ((cov_zero_shift_iff c1.length _ _ W t (ell_length rfl hL1) (ell_length hc2 hL2)).2 hc)

/-- **General ellipsoids, certified verdicts are correct**: whatever certificates are proposed,
`ellVerdict = yes ⇒` coverable and `ellVerdict = no ⇒` not coverable. -/
theorem ell_verdict_sound (W : Mat) (c1 : Vec) (L1 : Mat) (a1 : ℚ) (c2 : Vec) (L2 : Mat) (a2 : ℚ)
    (t u1 u2 lam : Vec) (ht : W.length = t.length) :
    (ellVerdict W c1 L1 a1 c2 L2 a2 t u1 u2 lam = .yes →
      CoverableFacet (ell c1 L1 a1) (ell c2 L2 a2) W t) ∧
    (ellVerdict W c1 L1 a1 c2 L2 a2 t u1 u2 lam = .no →
      ¬ CoverableFacet (ell c1 L1 a1) (ell c2 L2 a2) W t) := by
  have h : (ellVerdict W c1 L1 a1 c2 L2 a2 t u1 u2 lam).Sound
      (CoverableFacet (ell c1 L1 a1) (ell c2 L2 a2) W t) := by
    unfold ellVerdict
    split
    · exact .yes (ell_witness_sound W c1 L1 a1 c2 L2 a2 t u1 u2 ht ‹_›)
    · exact .ite_no fun h => ell_sep_sound W c1 L1 a1 c2 L2 a2 t lam h
  exact h.spec

/-- **The ellipsoid of the model is the ellipsoid of the code.**  If `M` inverts `L` (as maps on
real `m`-vectors) then `{c + L u | ‖u‖ ≤ a} = {z | ‖L⁻¹(z − c)‖ ≤ a}`, which for `L Lᵀ = Σ` is
`{z | (z − c)ᵀ Σ⁻¹ (z − c) ≤ a²}` — the set `‖Σ^{-1/2}(z − c)‖ ≤ α` the code hands to the solver. -/
theorem ellipsoid_code_form (m : ℕ) (c : Vec) (L M : Mat) (a : ℚ) (hc : c.length = m)
    (hL : L.length = m) (hM : M.length = m)
    (hML : ∀ u : RVec, u.length = m → rmatVec M (rmatVec L u) = u)
    (hLM : ∀ x : RVec, x.length = m → rmatVec L (rmatVec M x) = x) (z : RVec) :
    z ∈ ell c L a ↔
      0 ≤ a ∧ z.length = m ∧ rnormSq (rmatVec M (rsub z (castV c))) ≤ (a : ℝ) ^ 2 :=
  ell_iff_inverse m c L M a hc hL hM hML hLM z

/-- **Balls are the ellipsoids with `L = I`**: the two model paths (`ballVerdict` with the exact KKT
projection, `ellVerdict` with proposed certificates) speak about the same sets when `Σ = I`. -/
theorem ball_is_ell_identity (c : Vec) (a : ℚ) : ball c a = ell c (identMat c.length) a :=
  ball_eq_ell_identMat c a

/-! ## Decision theorems: the searches are complete, the verdicts are total -/

/-- **Fourier–Motzkin elimination with multiplier tracking is complete.**  For every rational system
`A x ≥ b` whose rows have `n` coefficients, the plain elimination `solvePlain` returns either a point
that `checkWitness` accepts or multipliers that `checkFarkas` accepts. -/
theorem fm_complete (n : ℕ) (S : Sys) (hwf : wf n S = true) :
    (∃ x, solvePlain n S = .witness x ∧ checkWitness n S x = true) ∨
    (∃ y, solvePlain n S = .farkas y ∧ checkFarkas n S y = true) := by
  cases h : solvePlain n S with
  | witness x => exact Or.inl ⟨x, rfl, solvePlain_witness hwf h⟩
  | farkas y => exact Or.inr ⟨y, rfl, solvePlain_farkas hwf h⟩

/-- **The certified feasibility decision never answers `none`**: `feasibleC` (fast pruned search,
then the complete search if that produced no accepted certificate) returns `some true` or
`some false` for every well-formed system; so does the complete search `feasibleFM` alone. -/
theorem feasible_complete (n : ℕ) (S : Sys) (hwf : wf n S = true) :
    (feasibleC n S = some true ∨ feasibleC n S = some false) ∧
    (feasibleFM n S = some true ∨ feasibleFM n S = some false) :=
  ⟨feasibleC_complete n S hwf, feasibleFM_complete n S hwf⟩

/-- **`feasibleC` decides feasibility over `ℝ`**: `some true` exactly when a real solution exists,
`some false` exactly when none exists. -/
theorem feasible_decides (n : ℕ) (S : Sys) (hwf : wf n S = true) :
    (feasibleC n S = some true ↔ ∃ x : RVec, RSat n S x) ∧
    (feasibleC n S = some false ↔ ¬ ∃ x : RVec, RSat n S x) :=
  feasibleC_decides n S hwf

/-- **Farkas' lemma for rational data**, as a by-product: a well-formed system has a *rational*
solution or non-negative rational multipliers `y` with `yᵀA = 0`, `yᵀb > 0` — never both; in
particular a rational system with a real solution has a rational one. -/
theorem farkas_lemma (n : ℕ) (S : Sys) (hwf : wf n S = true) :
    ((∃ x : Vec, checkWitness n S x = true) ∨ (∃ y : Vec, checkFarkas n S y = true)) ∧
    ¬ ((∃ x : Vec, checkWitness n S x = true) ∧ (∃ y : Vec, checkFarkas n S y = true)) ∧
    ((∃ x : RVec, RSat n S x) → ∃ x : Vec, checkWitness n S x = true) := by
  refine ⟨farkas_alternative n S hwf, ?_, rat_solution_of_real hwf⟩
  rintro ⟨⟨x, hx⟩, ⟨y, hy⟩⟩
  exact checkFarkas_sound hy ⟨castV x, checkWitness_sound hx⟩

/-- **The active-set search for the nearest point is complete.**  For a well-formed system with a
(rational) solution and a centre `c` of the right dimension, `nearest` returns a point with
multipliers that `checkKKT` accepts: the nearest point of a non-empty rational polyhedron to a
rational point exists, is rational, and has KKT multipliers supported on linearly independent active
rows — which is exactly what the enumeration of active sets looks for. -/
theorem nearest_complete (n : ℕ) (S : Sys) (c : Vec) (hwf : wf n S = true) (hc : c.length = n)
    (hne : ∃ y : Vec, checkWitness n S y = true) :
    ∃ x lam, nearest n S c = some (x, lam) ∧ checkKKT n S c x lam = true := by
  obtain ⟨x, lam, h⟩ := LinCert.nearest_complete n S c hwf hc hne
  exact ⟨x, lam, h, nearest_some h⟩

/-- **The rectangle verdict is total**: with cone rows of `m` entries it is never `inconclusive`. -/
theorem rect_verdict_total (W : Mat) (l1 u1 l2 u2 s t : Vec) (hW : ∀ w ∈ W, w.length = l1.length) :
    rectVerdict W l1 u1 l2 u2 s t = .yes ∨ rectVerdict W l1 u1 l2 u2 s t = .no := by
  cases h : rectVerdict W l1 u1 l2 u2 s t with
  | yes => exact Or.inl rfl
  | no => exact Or.inr rfl
  | inconclusive => exact absurd h (rectVerdict_total W l1 u1 l2 u2 s t hW)

/-- **The rectangle verdict decides the semantic predicate** (any per-facet margin `t`):
`yes ↔ ∃ z ∈ [l₁,u₁], z' ∈ [l₂,u₂], W (z' − z − s) ≥ t` and `no ↔` no such pair. -/
theorem rect_verdict_iff (W : Mat) (l1 u1 l2 u2 s t : Vec)
    (h1 : u1.length = l1.length) (h2 : l2.length = l1.length) (h3 : u2.length = l1.length)
    (hs : s.length = l1.length) (ht : W.length = t.length) (hW : ∀ w ∈ W, w.length = l1.length) :
    (rectVerdict W l1 u1 l2 u2 s t = .yes ↔ Cov (box l1 u1) (box l2 u2) W s t) ∧
    (rectVerdict W l1 u1 l2 u2 s t = .no ↔ ¬ Cov (box l1 u1) (box l2 u2) W s t) :=
  rectVerdict_iff ⟨h1, h2, h3, hs, ht, hW⟩

/-- **`RectangularConfidenceRegion.is_covered`, model side, as a decision.**  For boxes of one
dimension `m`, a cone matrix with `m` columns and any slack: the model answers

* `1` exactly when the slack has an admissible size (1 or `m`) and some point of the second box
  dominates some point of the first box shifted by the slack (`Coverable` over `ℝ`),
* `0` exactly when the slack has an admissible size and no such pair exists,
* `ValueError` exactly when the slack size is not admissible,

and never `inconclusive`.  (`l ≤ u` is not needed: an empty box is not coverable and the verdict is
`0`; for `l ≤ u` see `coverable_box_iff_diff`.) -/
theorem rect_isCovered_iff (W : Mat) (l1 u1 l2 u2 slack : Vec)
    (h1 : u1.length = l1.length) (h2 : l2.length = l1.length) (h3 : u2.length = l1.length)
    (hm : ncols W = l1.length) (hW : ∀ w ∈ W, w.length = l1.length) :
    (rectIsCovered W l1 u1 l2 u2 slack = some .yes ↔
      ∃ s, expandSlack l1.length slack = some s ∧ Coverable (box l1 u1) (box l2 u2) W s) ∧
    (rectIsCovered W l1 u1 l2 u2 slack = some .no ↔
      ∃ s, expandSlack l1.length slack = some s ∧ ¬ Coverable (box l1 u1) (box l2 u2) W s) ∧
    (rectIsCovered W l1 u1 l2 u2 slack = none ↔ expandSlack l1.length slack = none) ∧
    rectIsCovered W l1 u1 l2 u2 slack ≠ some .inconclusive := by
  unfold rectIsCovered
  rw [hm]
  exact map_decides fun s hs => ⟨by
    rw [← cov_zero_margin_iff]
    exact rectVerdict_iff ⟨h1, h2, h3, expandSlack_length hs, (zeros_length _).symm, hW⟩,
      rectVerdict_total W l1 u1 l2 u2 s _ hW⟩

/-- `rect_isCovered_iff` for a slack of admissible size (`expandSlack` succeeds with `s`): the model
answers `1` iff `Coverable box₁ box₂ W s` holds over `ℝ`, and `0` iff it does not. -/
theorem rect_isCovered_decides (W : Mat) (l1 u1 l2 u2 slack s : Vec)
    (h1 : u1.length = l1.length) (h2 : l2.length = l1.length) (h3 : u2.length = l1.length)
    (hm : ncols W = l1.length) (hW : ∀ w ∈ W, w.length = l1.length)
    (hs : expandSlack l1.length slack = some s) :
    (rectIsCovered W l1 u1 l2 u2 slack = some .yes ↔ Coverable (box l1 u1) (box l2 u2) W s) ∧
    (rectIsCovered W l1 u1 l2 u2 slack = some .no ↔ ¬ Coverable (box l1 u1) (box l2 u2) W s) := by
  obtain ⟨hy, hn, -, -⟩ := rect_isCovered_iff W l1 u1 l2 u2 slack h1 h2 h3 hm hW
  rw [hy, hn, hs]
  simp

/-- **The band verdicts are decisions too.**  `rectIsCoveredTol … τ` (every facet inequality
tightened by the margin `τ`, any sign) answers `1` / `0` exactly according to
`∃ z ∈ [l₁,u₁], z' ∈ [l₂,u₂], ∀ i, wᵢ·(z' − z − s) ≥ τ`, and never `inconclusive`.  Together with
`coverable_mono_margin` this is the sandwich the harness uses: `1` at `+τ` ⇒ coverable ⇒ `1` at
`−τ`. -/
theorem rect_band_iff (W : Mat) (l1 u1 l2 u2 slack : Vec) (tau : ℚ)
    (h1 : u1.length = l1.length) (h2 : l2.length = l1.length) (h3 : u2.length = l1.length)
    (hm : ncols W = l1.length) (hW : ∀ w ∈ W, w.length = l1.length) :
    (rectIsCoveredTol W l1 u1 l2 u2 slack tau = some .yes ↔
      ∃ s, expandSlack l1.length slack = some s ∧
        Cov (box l1 u1) (box l2 u2) W s (List.replicate W.length tau)) ∧
    (rectIsCoveredTol W l1 u1 l2 u2 slack tau = some .no ↔
      ∃ s, expandSlack l1.length slack = some s ∧
        ¬ Cov (box l1 u1) (box l2 u2) W s (List.replicate W.length tau)) ∧
    rectIsCoveredTol W l1 u1 l2 u2 slack tau ≠ some .inconclusive := by
  unfold rectIsCoveredTol
  rw [hm]
  have := map_decides (o := expandSlack l1.length slack) fun s hs =>
    ⟨rectVerdict_iff ⟨h1, h2, h3, expandSlack_length hs, List.length_replicate.symm, hW⟩,
      rectVerdict_total W l1 u1 l2 u2 s (List.replicate W.length tau) hW⟩
  exact ⟨this.1, this.2.1, this.2.2.2⟩

/-- **The certified rectangle verdicts are monotone in the margin** (what the harness's
`model-monotone` assertion checks at run time): for `τ ≤ τ'`, `1` at the larger margin `τ'` forces
`1` at `τ`, and `0` at `τ` forces `0` at `τ'`. -/
theorem rect_band_monotone (W : Mat) (l1 u1 l2 u2 slack : Vec) (tau tau' : ℚ) (hle : tau ≤ tau')
    (h1 : u1.length = l1.length) (h2 : l2.length = l1.length) (h3 : u2.length = l1.length)
    (hm : ncols W = l1.length) (hW : ∀ w ∈ W, w.length = l1.length) :
    (rectIsCoveredTol W l1 u1 l2 u2 slack tau' = some .yes →
      rectIsCoveredTol W l1 u1 l2 u2 slack tau = some .yes) ∧
    (rectIsCoveredTol W l1 u1 l2 u2 slack tau = some .no →
      rectIsCoveredTol W l1 u1 l2 u2 slack tau' = some .no) := by
  obtain ⟨hy, hn, -⟩ := rect_band_iff W l1 u1 l2 u2 slack tau h1 h2 h3 hm hW
  obtain ⟨hy', hn', -⟩ := rect_band_iff W l1 u1 l2 u2 slack tau' h1 h2 h3 hm hW
  have mono : ∀ s, Cov (box l1 u1) (box l2 u2) W s (List.replicate W.length tau') →
      Cov (box l1 u1) (box l2 u2) W s (List.replicate W.length tau) := fun s =>
    cov_mono_margin _ _ W s _ _ (forall₂_replicate_le _ tau tau' hle)
  constructor
  · intro h
    obtain ⟨s, hs, hc⟩ := hy'.1 h
    exact hy.2 ⟨s, hs, mono s hc⟩
  · intro h
    obtain ⟨s, hs, hc⟩ := hn.1 h
    exact hn'.2 ⟨s, hs, fun hc' => hc (mono s hc')⟩

/-- **`RectangularConfidenceRegion.is_covered`, model side.**  With the slack guard of the code
(size 1 → broadcast, size `m` → as is): the model's answer `yes` means some point of the second box
dominates some point of the first box shifted by the slack (`z' ≽ z + s` in the cone order); `no`
means no such pair exists. -/
theorem rect_isCovered_sound (W : Mat) (l1 u1 l2 u2 slack : Vec)
    (h1 : u1.length = l1.length) (h2 : l2.length = l1.length) (h3 : u2.length = l1.length)
    (hm : ncols W = l1.length) (hW : ∀ w ∈ W, w.length = l1.length) :
    (rectIsCovered W l1 u1 l2 u2 slack = some .yes →
      ∃ s, expandSlack l1.length slack = some s ∧ Coverable (box l1 u1) (box l2 u2) W s) ∧
    (rectIsCovered W l1 u1 l2 u2 slack = some .no →
      ∃ s, expandSlack l1.length slack = some s ∧ ¬ Coverable (box l1 u1) (box l2 u2) W s) :=
  have h := rect_isCovered_iff W l1 u1 l2 u2 slack h1 h2 h3 hm hW
  ⟨h.1.1, h.2.1.1⟩

/-- **The borderline band is sound for rectangles.**  For `τ ≥ 0`: if the model certifies `yes`
with every facet inequality tightened by `τ`, the exact configuration is coverable; if it certifies
`no` with every facet inequality relaxed by `τ`, the exact configuration is not coverable.  (The
harness compares the code only in these two cases.) -/
theorem rect_band_sound (W : Mat) (l1 u1 l2 u2 slack : Vec) (tau : ℚ) (htau : 0 ≤ tau)
    (h1 : u1.length = l1.length) (h2 : l2.length = l1.length) (h3 : u2.length = l1.length)
    (hm : ncols W = l1.length) (hW : ∀ w ∈ W, w.length = l1.length) :
    (rectIsCoveredTol W l1 u1 l2 u2 slack tau = some .yes →
      ∃ s, expandSlack l1.length slack = some s ∧ Coverable (box l1 u1) (box l2 u2) W s) ∧
    (rectIsCoveredTol W l1 u1 l2 u2 slack (-tau) = some .no →
      ∃ s, expandSlack l1.length slack = some s ∧ ¬ Coverable (box l1 u1) (box l2 u2) W s) := by
  -- the band is monotone, and margin 0 is `is_covered`
  have m := rect_band_monotone W l1 u1 l2 u2 slack
  have h0 := rect_isCovered_sound W l1 u1 l2 u2 slack h1 h2 h3 hm hW
  exact ⟨fun h => h0.1 ((m 0 tau htau h1 h2 h3 hm hW).1 h),
    fun h => h0.2 ((m (-tau) 0 (neg_nonpos.2 htau) h1 h2 h3 hm hW).2 h)⟩

/-- **The ball verdict is total** under the guard of the model (radii `≥ 0`, centres of one
dimension `m`, cone rows with `m` entries). -/
theorem ball_verdict_total (W : Mat) (c1 c2 t : Vec) (a1 a2 : ℚ) (ha1 : 0 ≤ a1) (ha2 : 0 ≤ a2)
    (hc : c2.length = c1.length) (hW : ∀ w ∈ W, w.length = c1.length) :
    ballVerdict W c1 a1 c2 a2 t = .yes ∨ ballVerdict W c1 a1 c2 a2 t = .no := by
  cases h : ballVerdict W c1 a1 c2 a2 t with
  | yes => exact Or.inl rfl
  | no => exact Or.inr rfl
  | inconclusive => exact absurd h (ballVerdict_total ha1 ha2 hc hW)

/-- **The ball verdict decides coverability of two balls** (per-facet slack `t`): `yes ↔` some
`z ∈ B(c₁,a₁)`, `z' ∈ B(c₂,a₂)` satisfy `W (z' − z) ≥ t`, `no ↔` none do. -/
theorem ball_verdict_iff (W : Mat) (c1 c2 t : Vec) (a1 a2 : ℚ) (ha1 : 0 ≤ a1) (ha2 : 0 ≤ a2)
    (hc : c2.length = c1.length) (hW : ∀ w ∈ W, w.length = c1.length) (ht : W.length = t.length) :
    (ballVerdict W c1 a1 c2 a2 t = .yes ↔ CoverableFacet (ball c1 a1) (ball c2 a2) W t) ∧
    (ballVerdict W c1 a1 c2 a2 t = .no ↔ ¬ CoverableFacet (ball c1 a1) (ball c2 a2) W t) := by
  have e := cov_zero_shift_iff c1.length (ball c1 a1) (ball c2 a2) W t ball_length
    (fun z hz => (ball_length z hz).trans hc)
  rw [← e]
  exact ballVerdict_iff ha1 ha2 hc hW ht

/-- **`EllipsoidalConfidenceRegion.is_covered` for `Σ = I`, model side, as a decision** (and its
band versions: `τ = 0` is the exact statement).  Under the guard (radii `≥ 0`, one dimension, cone
rows of that dimension) the model answers `1` / `0` exactly according to whether the slack has an
admissible size (1 or the number of facets) and the two balls are coverable with the per-facet slack
`t + τ`; it answers `ValueError` exactly for an inadmissible slack size and never `inconclusive`. -/
theorem ball_band_iff (W : Mat) (c1 c2 slack : Vec) (a1 a2 tau : ℚ) (ha1 : 0 ≤ a1) (ha2 : 0 ≤ a2)
    (hc : c2.length = c1.length) (hW : ∀ w ∈ W, w.length = c1.length) :
    (ballIsCoveredTol W c1 a1 c2 a2 slack tau = some .yes ↔
      ∃ t, expandSlack W.length slack = some t ∧
        CoverableFacet (ball c1 a1) (ball c2 a2) W (t.map (· + tau))) ∧
    (ballIsCoveredTol W c1 a1 c2 a2 slack tau = some .no ↔
      ∃ t, expandSlack W.length slack = some t ∧
        ¬ CoverableFacet (ball c1 a1) (ball c2 a2) W (t.map (· + tau))) ∧
    (ballIsCoveredTol W c1 a1 c2 a2 slack tau = none ↔ expandSlack W.length slack = none) ∧
    ballIsCoveredTol W c1 a1 c2 a2 slack tau ≠ some .inconclusive :=
  map_decides fun t ht => ⟨ball_verdict_iff W c1 c2 _ a1 a2 ha1 ha2 hc hW
    (by rw [List.length_map, expandSlack_length ht]), ballVerdict_total ha1 ha2 hc hW⟩

/-- **The certified ball verdicts are monotone in the margin**: for `τ ≤ τ'`, `1` at `τ'` forces `1`
at `τ`, and `0` at `τ` forces `0` at `τ'`. -/
theorem ball_band_monotone (W : Mat) (c1 c2 slack : Vec) (a1 a2 tau tau' : ℚ) (hle : tau ≤ tau')
    (ha1 : 0 ≤ a1) (ha2 : 0 ≤ a2) (hc : c2.length = c1.length)
    (hW : ∀ w ∈ W, w.length = c1.length) :
    (ballIsCoveredTol W c1 a1 c2 a2 slack tau' = some .yes →
      ballIsCoveredTol W c1 a1 c2 a2 slack tau = some .yes) ∧
    (ballIsCoveredTol W c1 a1 c2 a2 slack tau = some .no →
      ballIsCoveredTol W c1 a1 c2 a2 slack tau' = some .no) := by
  obtain ⟨hy, hn, -, -⟩ := ball_band_iff W c1 c2 slack a1 a2 tau ha1 ha2 hc hW
  obtain ⟨hy', hn', -, -⟩ := ball_band_iff W c1 c2 slack a1 a2 tau' ha1 ha2 hc hW
  have mono : ∀ t : Vec, CoverableFacet (ball c1 a1) (ball c2 a2) W (t.map (· + tau')) →
      CoverableFacet (ball c1 a1) (ball c2 a2) W (t.map (· + tau)) := fun t =>
    coverableFacet_mono _ _ W _ _ (forall₂_map_add_le t tau tau' hle)
  constructor
  · intro h
    obtain ⟨t, ht, hcv⟩ := hy'.1 h
    exact hy.2 ⟨t, ht, mono t hcv⟩
  · intro h
    obtain ⟨t, ht, hcv⟩ := hn.1 h
    exact hn'.2 ⟨t, ht, fun hc' => hcv (mono t hc')⟩

/-- the exact (`τ = 0`) form of `ball_band_iff` for `ballIsCovered` -/
theorem ball_isCovered_iff (W : Mat) (c1 c2 slack : Vec) (a1 a2 : ℚ) (ha1 : 0 ≤ a1) (ha2 : 0 ≤ a2)
    (hc : c2.length = c1.length) (hW : ∀ w ∈ W, w.length = c1.length) :
    (ballIsCovered W c1 a1 c2 a2 slack = some .yes ↔
      ∃ t, expandSlack W.length slack = some t ∧ CoverableFacet (ball c1 a1) (ball c2 a2) W t) ∧
    (ballIsCovered W c1 a1 c2 a2 slack = some .no ↔
      ∃ t, expandSlack W.length slack = some t ∧ ¬ CoverableFacet (ball c1 a1) (ball c2 a2) W t) ∧
    (ballIsCovered W c1 a1 c2 a2 slack = none ↔ expandSlack W.length slack = none) ∧
    ballIsCovered W c1 a1 c2 a2 slack ≠ some .inconclusive :=
  map_decides fun t ht => ⟨ball_verdict_iff W c1 c2 t a1 a2 ha1 ha2 hc hW (expandSlack_length ht).symm,
    ballVerdict_total ha1 ha2 hc hW⟩

/-! ## Non-vacuity: concrete instances evaluated by the kernel -/

/-- the unit box is covered by `[2,3]²` under the orthant order, even with margin 1 on each facet -/
example : rectVerdict [[1, 0], [0, 1]] [0, 0] [1, 1] [2, 2] [3, 3] [0, 0] [1, 1] = .yes := by
  decide +kernel

/-- … and not the other way round (Farkas certificate found and checked) -/
example : rectVerdict [[1, 0], [0, 1]] [2, 2] [3, 3] [0, 0] [1, 1] [0, 0] [0, 0] = .no := by
  decide +kernel

/-- a slack decides: `[0,1]²` vs `[1/2,2]×[-3,5/4]` with slack `(1/4,1/8)` is covered, with slack
`(1/4,11/8)` it is not -/
example : rectIsCovered [[1, 0], [0, 1]] [0, 0] [1, 1] [1/2, -3] [2, 5/4] [1/4, 1/8] = some .yes ∧
    rectIsCovered [[1, 0], [0, 1]] [0, 0] [1, 1] [1/2, -3] [2, 5/4] [1/4, 11/8] = some .no := by
  decide +kernel

/-- balls: `B((3,4),2)` vs `B(0,3)` touch under the orthant order (distance 5 = 2 + 3): covered;
with radii 2 and 2 they are not -/
example : ballVerdict [[1, 0], [0, 1]] [3, 4] 2 [0, 0] 3 [0, 0] = .yes ∧
    ballVerdict [[1, 0], [0, 1]] [3, 4] 2 [0, 0] 2 [0, 0] = .no := by
  decide +kernel

/-- a separating multiplier for two ellipsoids and a witness pair for two others -/
example : checkEllSep [[1, 0], [0, 1]] [3, 3] [[1, 0], [1/2, 1]] 1 [0, 0] [[1, 0], [0, 1/2]] 1
      [0, 0] [1, 1] = true ∧
    checkEllWitness [[1, 0], [0, 1]] [0, 0] [[1, 0], [1/2, 1]] 1 [1, 1] [[1, 0], [0, 1/2]] 1
      [0, 0] [1/2, 0] [1/2, 1/2] = true := by
  decide +kernel

/-- the complete search answers on its own: a feasible and an infeasible system in two unknowns
(`x ≥ 0, y ≥ 0, −x − y ≥ −1` and the same with `−x − y ≥ 1`) -/
example : feasibleFM 2 [⟨[1, 0], 0⟩, ⟨[0, 1], 0⟩, ⟨[-1, -1], -1⟩] = some true ∧
    feasibleFM 2 [⟨[1, 0], 0⟩, ⟨[0, 1], 0⟩, ⟨[-1, -1], 1⟩] = some false := by
  decide +kernel

/-- … and on the full LP of the code for the boxes of the first two examples (the fallback path of
`rectVerdict`, which the fast path never reaches in practice) -/
example : feasibleFM 4 (rectSys [[1, 0], [0, 1]] [0, 0] [1, 1] [2, 2] [3, 3] [0, 0] [1, 1]) =
      some true ∧
    feasibleFM 4 (rectSys [[1, 0], [0, 1]] [2, 2] [3, 3] [0, 0] [1, 1] [0, 0] [0, 0]) =
      some false := by
  decide +kernel

/-- the decision theorem applied: from the kernel-evaluated verdicts, `[0,1]²` is coverable by
`[1/2,2]×[-3,5/4]` with slack `(1/4,1/8)` over `ℝ` and *not* coverable with slack `(1/4,11/8)` -/
example : Coverable (box [0, 0] [1, 1]) (box [1/2, -3] [2, 5/4]) [[1, 0], [0, 1]] [1/4, 1/8] ∧
    ¬ Coverable (box [0, 0] [1, 1]) (box [1/2, -3] [2, 5/4]) [[1, 0], [0, 1]] [1/4, 11/8] := by
  have hW : ∀ w ∈ ([[1, 0], [0, 1]] : Mat), w.length = ([0, 0] : Vec).length := by decide
  constructor
  · obtain ⟨s, hs, h⟩ := (rect_isCovered_iff [[1, 0], [0, 1]] [0, 0] [1, 1] [1/2, -3] [2, 5/4]
      [1/4, 1/8] rfl rfl rfl rfl hW).1.1 (by decide +kernel)
    cases hs; exact h
  · obtain ⟨s, hs, h⟩ := (rect_isCovered_iff [[1, 0], [0, 1]] [0, 0] [1, 1] [1/2, -3] [2, 5/4]
      [1/4, 11/8] rfl rfl rfl rfl hW).2.1.1 (by decide +kernel)
    cases hs; exact h

/-- … and conversely a semantic fact forces the verdict: the unit box is coverable by itself
(`z = z'`), so the model must answer `1` -/
example : rectIsCovered [[1, 0], [0, 1]] [0, 0] [1, 1] [0, 0] [1, 1] [0] = some .yes := by
  have hW : ∀ w ∈ ([[1, 0], [0, 1]] : Mat), w.length = ([0, 0] : Vec).length := by decide
  have h0 : ((0 : ℚ) : ℝ) ≤ 0 := Rat.cast_zero.le
  have h1 : (0 : ℝ) ≤ ((1 : ℚ) : ℝ) := by rw [Rat.cast_one]; exact zero_le_one
  refine (rect_isCovered_iff [[1, 0], [0, 1]] [0, 0] [1, 1] [0, 0] [1, 1] [0] rfl rfl rfl rfl
    hW).1.2 ⟨[0, 0], rfl, [0, 0], ⟨h0, h1, h0, h1, trivial⟩, [0, 0], ⟨h0, h1, h0, h1, trivial⟩, ?_⟩
  -- `z' − z − s = 0`
  have e : rsub (rsub [0, 0] [0, 0]) (castV [0, 0]) = [0, 0] := by
    simp only [rsub, castV, List.map_cons, List.map_nil, List.zipWith_cons_cons,
      List.zipWith_nil_right, Rat.cast_zero, sub_zero]
  rw [e]
  simp only [List.forall_mem_cons, castV_cons, castV_nil, rdot_cons, rdot_nil_left, mul_zero,
    add_zero, le_refl, List.not_mem_nil, false_imp_iff, implies_true, and_self]

/-- the active-set search on a polyhedron with a redundant (linearly dependent) active row: the
nearest point of `{x ≥ 1, y ≥ 1, x + y ≥ 2}` to the origin is `(1,1)` -/
example : (nearest 2 [⟨[1, 0], 1⟩, ⟨[0, 1], 1⟩, ⟨[1, 1], 2⟩] [0, 0]).map (·.1) = some [1, 1] := by
  decide +kernel

/-! ## INVARIANCES — translation, positive scaling, cone-row scaling and permutation

For the decisions the driver ops `rect` / `ball` evaluate (`rectVerdict`, `rectIsCovered(Tol)`,
`ballVerdict`, `ballIsCovered(Tol)`), for the certificate-checked verdict of general ellipsoids
(`ellVerdict`) and for the semantic predicate `Cov` over ellipsoids (helpers: `Proofs/InvCovered.lean`).
Hypotheses are the well-formedness conditions of `rect_verdict_iff` / `ball_verdict_iff` only (one
dimension, cone rows of that dimension); nothing about `l ≤ u` or the sign of the radii.  These are
the statements the metamorphic checks of the harness rely on (translated / rescaled / large-offset
cases, non-unit and re-ordered cone rows give the same verdict). -/

section Invariance

/-- **Rectangles: common translation.**  The certified verdict (any objective-space slack `s`, any
per-facet margins `t`) does not change when both boxes are translated by one vector `τ`; hence
neither do `is_covered` (`rectIsCovered`) and its band versions, whatever the slack argument. -/
theorem rect_isCovered_translate (W : Mat) (l1 u1 l2 u2 τ : Vec)
    (h1 : u1.length = l1.length) (h2 : l2.length = l1.length) (h3 : u2.length = l1.length)
    (hm : ncols W = l1.length) (hW : ∀ w ∈ W, w.length = l1.length) (hτ : τ.length = l1.length) :
    (∀ s t : Vec, s.length = l1.length → W.length = t.length →
      rectVerdict W (vadd l1 τ) (vadd u1 τ) (vadd l2 τ) (vadd u2 τ) s t = rectVerdict W l1 u1 l2 u2 s t) ∧
    (∀ (slack : Vec) (tau : ℚ),
      rectIsCoveredTol W (vadd l1 τ) (vadd u1 τ) (vadd l2 τ) (vadd u2 τ) slack tau =
        rectIsCoveredTol W l1 u1 l2 u2 slack tau) ∧
    (∀ slack : Vec,
      rectIsCovered W (vadd l1 τ) (vadd u1 τ) (vadd l2 τ) (vadd u2 τ) slack =
        rectIsCovered W l1 u1 l2 u2 slack) := by
  have base := fun (s t : Vec) hs ht => rectVerdict_translate (s := s) (t := t) ⟨h1, h2, h3, hs, ht, hW⟩ hτ
  have tol : ∀ (slack : Vec) (tau : ℚ), _ = rectIsCoveredTol W l1 u1 l2 u2 slack tau :=
    fun slack tau => Option.map_congr fun sv hs =>
      base sv _ ((expandSlack_length hs).trans hm) List.length_replicate.symm
  -- `is_covered` is the band at margin 0
  exact ⟨base, tol, fun slack => tol slack 0⟩

/-- **Rectangles: positive scaling.**  Scaling both boxes, the slack and the margins by `k > 0` leaves
the verdict unchanged (`is_covered` with the slack scaled; band margin `τ ↦ k·τ`). -/
theorem rect_isCovered_scale (W : Mat) (k : ℚ) (hk : 0 < k) (l1 u1 l2 u2 : Vec)
    (h1 : u1.length = l1.length) (h2 : l2.length = l1.length) (h3 : u2.length = l1.length)
    (hm : ncols W = l1.length) (hW : ∀ w ∈ W, w.length = l1.length) :
    (∀ s t : Vec, s.length = l1.length → W.length = t.length →
      rectVerdict W (smul k l1) (smul k u1) (smul k l2) (smul k u2) (smul k s) (smul k t) =
        rectVerdict W l1 u1 l2 u2 s t) ∧
    (∀ (slack : Vec) (tau : ℚ),
      rectIsCoveredTol W (smul k l1) (smul k u1) (smul k l2) (smul k u2) (smul k slack) (k * tau) =
        rectIsCoveredTol W l1 u1 l2 u2 slack tau) ∧
    (∀ slack : Vec,
      rectIsCovered W (smul k l1) (smul k u1) (smul k l2) (smul k u2) (smul k slack) =
        rectIsCovered W l1 u1 l2 u2 slack) := by
  have base := fun (s t : Vec) hs ht => rectVerdict_scale (s := s) (t := t) k hk ⟨h1, h2, h3, hs, ht, hW⟩
  have tol : ∀ (slack : Vec) (tau : ℚ),
      rectIsCoveredTol W (smul k l1) (smul k u1) (smul k l2) (smul k u2) (smul k slack) (k * tau) =
        rectIsCoveredTol W l1 u1 l2 u2 slack tau := by
    intro slack tau
    unfold rectIsCoveredTol
    rw [expandSlack_smul, Option.map_map]
    refine Option.map_congr fun sv hs => ?_
    have := base sv (List.replicate W.length tau) ((expandSlack_length hs).trans hm)
      List.length_replicate.symm
    rwa [smul_replicate] at this
  -- `is_covered` is the band at margin 0
  exact ⟨base, tol, fun slack => (congrArg _ (mul_zero k).symm).trans (tol slack 0)⟩

/-- **Rectangles: cone rows may be rescaled and re-ordered.**  Multiplying row `n` of `W` and margin
`t n` by the same `D n > 0` leaves the verdict unchanged; `is_covered` itself (margins 0,
objective-space slack) is therefore unchanged by a positive row scaling *with the same slack*, and
`is_covered` and all its band versions are unchanged by a permutation of the rows. -/
theorem rect_isCovered_rows (W : Mat) (l1 u1 l2 u2 : Vec)
    (h1 : u1.length = l1.length) (h2 : l2.length = l1.length) (h3 : u2.length = l1.length)
    (hm : ncols W = l1.length) (hW : ∀ w ∈ W, w.length = l1.length) :
    (∀ (D s t : Vec), (∀ e ∈ D, 0 < e) → D.length = W.length → s.length = l1.length →
      W.length = t.length →
      rectVerdict (List.zipWith smul D W) l1 u1 l2 u2 s (List.zipWith (· * ·) D t) =
        rectVerdict W l1 u1 l2 u2 s t) ∧
    (∀ (D slack : Vec), (∀ e ∈ D, 0 < e) → D.length = W.length →
      rectIsCovered (List.zipWith smul D W) l1 u1 l2 u2 slack = rectIsCovered W l1 u1 l2 u2 slack) ∧
    (∀ (W' : Mat) (slack : Vec) (tau : ℚ), W.Perm W' →
      rectIsCoveredTol W' l1 u1 l2 u2 slack tau = rectIsCoveredTol W l1 u1 l2 u2 slack tau) := by
  have base := fun (D s t : Vec) hD hlen hs ht =>
    rectVerdict_scaleRows (s := s) (t := t) D hD hlen ⟨h1, h2, h3, hs, ht, hW⟩
  refine ⟨base, ?_, ?_⟩
  · intro D slack hD hlen
    unfold rectIsCovered
    rw [ncols_scaleRows D W hlen]
    refine Option.map_congr fun sv hs => ?_
    have := base D sv (zeros W.length) hD hlen ((expandSlack_length hs).trans hm)
      (zeros_length _).symm
    rw [List.length_zipWith, hlen, Nat.min_self]
    rwa [zipWith_mul_zeros D W.length hlen] at this
  · intro W' slack tau hp
    unfold rectIsCoveredTol
    rw [ncols_perm hp hW]
    exact Option.map_congr fun sv hs => (rectVerdict_perm_const hp tau ⟨h1, h2, h3,
      (expandSlack_length hs).trans hm, List.length_replicate.symm, hW⟩).symm

/-- **Balls: common translation, positive scaling.**  The certified ball verdict (per-facet slack `t`)
is unchanged when both centres are translated by `τ`, and when centres, both radii and the slack are
scaled by `k > 0`; so are `is_covered` for `Σ = I` (`ballIsCovered`) and its band versions.  No sign
condition on the radii. -/
theorem ball_isCovered_translate_scale (W : Mat) (c1 c2 : Vec) (a1 a2 : ℚ)
    (hc : c2.length = c1.length) (hW : ∀ w ∈ W, w.length = c1.length) :
    (∀ t τ : Vec, W.length = t.length → τ.length = c1.length →
      ballVerdict W (vadd c1 τ) a1 (vadd c2 τ) a2 t = ballVerdict W c1 a1 c2 a2 t) ∧
    (∀ (slack τ : Vec) (tau : ℚ), τ.length = c1.length →
      ballIsCoveredTol W (vadd c1 τ) a1 (vadd c2 τ) a2 slack tau = ballIsCoveredTol W c1 a1 c2 a2 slack tau) ∧
    (∀ (k : ℚ) (t : Vec), 0 < k → W.length = t.length →
      ballVerdict W (smul k c1) (k * a1) (smul k c2) (k * a2) (smul k t) = ballVerdict W c1 a1 c2 a2 t) ∧
    (∀ (k : ℚ) (slack : Vec) (tau : ℚ), 0 < k →
      ballIsCoveredTol W (smul k c1) (k * a1) (smul k c2) (k * a2) (smul k slack) (k * tau) =
        ballIsCoveredTol W c1 a1 c2 a2 slack tau) := by
  refine ⟨fun t τ _ hτ => ballVerdict_translate hc hτ, ?_,
    fun k t hk ht => ballVerdict_scale hk hc hW ht, ?_⟩
  · exact fun slack τ tau hτ => Option.map_congr fun sv _ => ballVerdict_translate hc hτ
  · intro k slack tau hk
    unfold ballIsCoveredTol
    rw [expandSlack_smul, Option.map_map]
    refine Option.map_congr fun sv hs => ?_
    have e : (smul k sv).map (· + k * tau) = smul k (sv.map (· + tau)) := by
      simp only [smul, List.map_map, Function.comp_def, mul_add]
    rw [Function.comp_apply, e]
    exact ballVerdict_scale hk hc hW
      (by rw [List.length_map, expandSlack_length hs])

/-- **Balls: a cone row may be rescaled together with its slack entry, and the facets re-ordered.**
The ellipsoid slack is per facet: row `n` and slack entry `n` multiplied by the same `D n > 0`, or
the (row, slack) pairs permuted, give the same verdict. -/
theorem ball_isCovered_rows (c1 c2 : Vec) (a1 a2 : ℚ) (hc : c2.length = c1.length) :
    (∀ (W : Mat) (D t : Vec), (∀ e ∈ D, 0 < e) → D.length = W.length →
      (∀ w ∈ W, w.length = c1.length) → W.length = t.length →
      ballVerdict (List.zipWith smul D W) c1 a1 c2 a2 (List.zipWith (· * ·) D t) =
        ballVerdict W c1 a1 c2 a2 t) ∧
    (∀ ws ws' : List (Vec × ℚ), ws.Perm ws' → (∀ p ∈ ws, p.1.length = c1.length) →
      ballVerdict (ws.map Prod.fst) c1 a1 c2 a2 (ws.map Prod.snd) =
        ballVerdict (ws'.map Prod.fst) c1 a1 c2 a2 (ws'.map Prod.snd)) :=
  ⟨fun _ _ _ hD hlen hW ht => ballVerdict_scaleRows hD hlen hc hW ht,
   fun _ _ h hW => ballVerdict_perm h hc hW⟩

/-- **General ellipsoids.**  (i) The certificates of a case certify every translate of it: with the
same proposed witness `u₁, u₂` and multiplier `lam`, `ellVerdict` answers the same after a common
translation of the centres.  (ii) The semantic predicate itself (any slack `s`, margins `t`) is
invariant under a common translation of the centres and under scaling centres, radii `alpha`, slack
and margins by `k > 0` (the factors `L` fixed: `{k·c + L u | ‖u‖ ≤ k·a} = k·{c + L u | ‖u‖ ≤ a}`). -/
theorem ell_isCovered_translate_scale (W : Mat) (c1 c2 : Vec) (L1 L2 : Mat) (a1 a2 : ℚ) (s t : Vec) :
    (∀ (u1 u2 lam τ : Vec), c1.length = τ.length → c2.length = τ.length →
      ellVerdict W (vadd c1 τ) L1 a1 (vadd c2 τ) L2 a2 t u1 u2 lam =
        ellVerdict W c1 L1 a1 c2 L2 a2 t u1 u2 lam) ∧
    (∀ τ : Vec, c1.length = τ.length → c2.length = τ.length →
      (Cov (ell (vadd c1 τ) L1 a1) (ell (vadd c2 τ) L2 a2) W s t ↔
        Cov (ell c1 L1 a1) (ell c2 L2 a2) W s t)) ∧
    (∀ k : ℚ, 0 < k →
      (Cov (ell (smul k c1) L1 (k * a1)) (ell (smul k c2) L2 (k * a2)) W (smul k s) (smul k t) ↔
        Cov (ell c1 L1 a1) (ell c2 L2 a2) W s t)) :=
  ⟨fun u1 u2 lam τ h1 h2 => ellVerdict_translate W c1 L1 a1 c2 L2 a2 t u1 u2 lam τ h1 h2,
   fun τ h1 h2 => cov_ell_translate W c1 c2 s t τ L1 L2 a1 a2 h1 h2,
   fun k hk => cov_ell_scale W k hk c1 c2 s t L1 L2 a1 a2⟩

/-- non-vacuity, large offset and tiny gap: `[0,1]²` against `[−1, 2⁻²⁰]²` is covered under the
orthant order (the boxes overlap by `2⁻²⁰`) and `[−1, −2⁻²⁰]²` is not; both verdicts survive the
translation by `(2²⁰, −2²⁰)` -/
example :
    rectIsCovered [[1, 0], [0, 1]] [0, 0] [1, 1] [-1, -1] [1 / 1048576, 1 / 1048576] [0] = some .yes ∧
    rectIsCovered [[1, 0], [0, 1]] (vadd [0, 0] [1048576, -1048576]) (vadd [1, 1] [1048576, -1048576])
      (vadd [-1, -1] [1048576, -1048576]) (vadd [1 / 1048576, 1 / 1048576] [1048576, -1048576]) [0] = some .yes ∧
    rectIsCovered [[1, 0], [0, 1]] [0, 0] [1, 1] [-1, -1] [-1 / 1048576, -1 / 1048576] [0] = some .no ∧
    rectIsCovered [[1, 0], [0, 1]] (vadd [0, 0] [1048576, -1048576]) (vadd [1, 1] [1048576, -1048576])
      (vadd [-1, -1] [1048576, -1048576]) (vadd [-1 / 1048576, -1 / 1048576] [1048576, -1048576]) [0] = some .no := by
  decide +kernel

/-- … balls `B((3,4),2)`, `B(0,3)` (touching: distance 5) translated by `(2²⁰, 2²⁰)`, and scaled by
`2⁻²⁰` -/
example :
    ballVerdict [[1, 0], [0, 1]] (vadd [3, 4] [1048576, 1048576]) 2 (vadd [0, 0] [1048576, 1048576]) 3 [0, 0] = .yes ∧
    ballVerdict [[1, 0], [0, 1]] (vadd [3, 4] [1048576, 1048576]) 2 (vadd [0, 0] [1048576, 1048576]) (3 - 1 / 1048576) [0, 0] = .no ∧
    ballVerdict [[1, 0], [0, 1]] (smul (1 / 1048576) [3, 4]) (1 / 1048576 * 2) (smul (1 / 1048576) [0, 0])
      (1 / 1048576 * 3) (smul (1 / 1048576) [0, 0]) = .yes := by
  decide +kernel

end Invariance

end VOPy.C10
