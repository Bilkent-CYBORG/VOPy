import VOPyVerif.Proofs.RegionUpdate
import VOPyVerif.Proofs.InvRegion
import Mathlib.Analysis.Real.Sqrt
/-!
# C14 — displayed confidence regions are exactly the model's prediction scaled

Property theorems only (helper lemmas: `Proofs/RegionUpdate.lean`).  They are about the executable
model `Region.update` / `Rect.update` / `Rect.intersect` / `Ell.update` / `Region.run`
(`Model/RegionUpdate.lean`) that the driver replays against `FixedPointsDesignSpace.update`,
`AdaptivelyDiscretizedDesignSpace.update` and the two region classes.

The model takes `std = sqrt(diag cov)` as an input next to `cov` (the harness exports numpy's value
and checks `std ≥ 0`, `std² ≈ cov_jj`); `rect_update_sqrt` turns the hypothesis
`0 ≤ std_j ∧ std_j² = cov_jj` into the statement with `Real.sqrt`.  "Disjoint" in the property is read
as *interior-disjoint*: rectangles that only touch are treated by the code as not intersecting
(`intersect_rule`).
-/
namespace VOPy.C14
open VOPy VOPy.Region

/-- **Rectangle update, entry by entry.**  Without iterative intersection a successful update
replaces the rectangle by `[mean_j − std_j·s_j, mean_j + std_j·s_j]` in every objective `j`, where
`s` is the scale row broadcast to the objective dimension (a row of size `m` as is, a row of size 1
repeated); the centre `(lower + upper)/2` is exactly the mean; the flag is kept. -/
theorem rect_update_entries (r r' : Rect) (p : Pred) (scale : Vec)
    (h : r.update p scale = .ok r') (hi : r.iter = false) :
    r'.iter = false ∧ r'.lower.length = p.std.length ∧ r'.upper.length = p.std.length ∧
    ∃ s', bcast p.std.length scale = some s' ∧
      ∀ (j : Nat) (μ σ a : Rat), p.mean[j]? = some μ → p.std[j]? = some σ → s'[j]? = some a →
        r'.lower[j]? = some (μ - σ * a) ∧ r'.upper[j]? = some (μ + σ * a) ∧ r'.center[j]? = some μ := by
  obtain ⟨_, L, U, hb, rfl⟩ := rect_update_eq_ok.1 h
  rw [hi, if_neg Bool.false_ne_true]
  obtain ⟨h1, h2, s', hs', hent⟩ := bounds_entry hb
  refine ⟨rfl, h1, h2, s', hs', ?_⟩
  intro j μ σ a hμ hσ ha
  obtain ⟨e1, e2⟩ := hent j μ σ a hμ hσ ha
  refine ⟨e1, e2, ?_⟩
  simp only [Rect.center, List.getElem?_zipWith, e1, e2]
  simp only [Option.some.injEq]
  ring

/-- The update succeeds exactly on well-shaped input: square covariance, mean and std of the same
length `m`, scale row of size `m` or 1; otherwise it is a `ValueError`. -/
theorem rect_update_ok_iff (r : Rect) (p : Pred) (scale : Vec) :
    (∃ r', r.update p scale = .ok r') ↔
      (isSquare p.cov = true ∧ p.mean.length = p.std.length ∧
        (scale.length = p.std.length ∨ scale.length = 1)) := by
  rw [← bounds_isSome]
  constructor
  · rintro ⟨r', h⟩
    obtain ⟨hsq, L, U, hb, _⟩ := rect_update_eq_ok.1 h
    exact ⟨hsq, L, U, hb⟩
  · rintro ⟨hsq, L, U, hb⟩
    exact ⟨_, rect_update_eq_ok.2 ⟨hsq, L, U, hb, rfl⟩⟩

/-- **The half-width is `scale × √cov_jj`.**  If the given `std` is the non-negative square root of
the covariance diagonal (`0 ≤ std_j`, `std_j² = cov_jj`), the updated rectangle is, over ℝ,
`[mean_j − s_j·√cov_jj, mean_j + s_j·√cov_jj]`. -/
theorem rect_update_sqrt (r r' : Rect) (p : Pred) (scale : Vec)
    (h : r.update p scale = .ok r') (hi : r.iter = false)
    (hstd : ∀ (j : Nat) (σ c : Rat), p.std[j]? = some σ → (p.cov[j]?.bind (·[j]?)) = some c → 0 ≤ σ ∧ σ * σ = c) :
    ∃ s', bcast p.std.length scale = some s' ∧
      ∀ (j : Nat) (μ σ a c lo up : Rat), p.mean[j]? = some μ → p.std[j]? = some σ → s'[j]? = some a →
        (p.cov[j]?.bind (·[j]?)) = some c → r'.lower[j]? = some lo → r'.upper[j]? = some up →
        (lo : ℝ) = (μ : ℝ) - (a : ℝ) * Real.sqrt (c : ℝ) ∧ (up : ℝ) = (μ : ℝ) + (a : ℝ) * Real.sqrt (c : ℝ) := by
  obtain ⟨_, _, _, s', hs', hent⟩ := rect_update_entries r r' p scale h hi
  refine ⟨s', hs', ?_⟩
  intro j μ σ a c lo up hμ hσ ha hc hlo hup
  obtain ⟨e1, e2, _⟩ := hent j μ σ a hμ hσ ha
  obtain ⟨h0, hsq⟩ := hstd j σ c hσ hc
  have hroot : Real.sqrt (c : ℝ) = (σ : ℝ) := by
    rw [← hsq, Rat.cast_mul]
    exact Real.sqrt_mul_self (Rat.cast_nonneg.2 h0)
  obtain rfl := Option.some.inj (e1.symm.trans hlo)
  obtain rfl := Option.some.inj (e2.symm.trans hup)
  rw [hroot, Rat.cast_sub, Rat.cast_add, Rat.cast_mul, mul_comm (σ : ℝ)]
  exact ⟨rfl, rfl⟩

/-- non-vacuity: variance 1/4 and 4 (std 1/2 and 2), scalar scale 3 -/
example :
    ({ lower := [0, 0], upper := [1, 1], iter := false } : Rect).update
      { mean := [1, -2], cov := [[1/4, 1/8], [1/8, 4]], std := [1/2, 2] } [3]
      = .ok { lower := [-1/2, -8], upper := [5/2, 4], iter := false } := by decide +kernel

/-- **Ellipsoid update.**  With a square covariance and a scale of size one the ellipsoid becomes
exactly `(center, sigma, alpha) = (mean, cov, scale)`; any other scale size is a `ValueError`. -/
theorem ell_update (e : Ell) (p : Pred) (scale : Vec) (hsq : isSquare p.cov = true) :
    (∀ a, scale = [a] → e.update p scale = .ok { center := p.mean, sigma := p.cov, alpha := a }) ∧
    (scale.length ≠ 1 → e.update p scale = .error .valueError) := by
  constructor
  · rintro a rfl
    exact ell_update_eq_ok.2 ⟨hsq, a, rfl, rfl⟩
  · intro hl
    unfold Ell.update
    simp only [hsq, Bool.not_true, Bool.false_eq_true, if_false]
    split
    · simp at hl
    · rfl

/-- **Listed designs get their own prediction; the others are untouched.**  For a duplicate-free index
list and a call that raises nothing: the number of regions is unchanged; every design that is not
listed keeps its region; and the design at position `k` of the list, say `i`, ends with
`Region.update` of *its own previous region* by *row `i` of the full-matrix prediction* and the scale
row of position `k` (scalar: `[s]`; 1-D: the vector; 2-D: row `k`). -/
theorem update_listed_unlisted (regs : List Region) (table : List Pred) (sc : Scale) (idx : List Nat)
    (hnd : idx.Nodup) (hok : (update regs table sc idx).2 = none) :
    (update regs table sc idx).1.length = regs.length ∧
    (∀ d, d ∉ idx → (update regs table sc idx).1[d]? = regs[d]?) ∧
    (∀ k i, idx[k]? = some i → ∃ (r : Region) (p : Pred) (r' : Region), regs[i]? = some r ∧ table[i]? = some p ∧
        r.update p (scaleRow sc k) = .ok r' ∧ (update regs table sc idx).1[i]? = some r') :=
  ⟨update_length regs table sc idx, fun d hd => update_unlisted regs table sc idx d hd,
   fun k i hk => update_listed regs table sc idx hnd hok k i hk⟩

/-- **The property for hyper-rectangles, end to end.**  After `update` with a duplicate-free list
(no exception), the design `i` at position `k`, if its rectangle does not intersect iteratively, is
displayed as `[mean_j − s_j·std_j, mean_j + s_j·std_j]` with centre `mean`, where `(mean, std)` is row
`i` of the full-matrix prediction and `s` the broadcast of the scale row of position `k`. -/
theorem listed_rect_is_prediction_scaled (regs : List Region) (table : List Pred) (sc : Scale)
    (idx : List Nat) (hnd : idx.Nodup) (hok : (update regs table sc idx).2 = none)
    (k i : Nat) (hk : idx[k]? = some i) (r : Rect) (hr : regs[i]? = some (.rect r)) (hi : r.iter = false) :
    ∃ (p : Pred) (r' : Rect), table[i]? = some p ∧ (update regs table sc idx).1[i]? = some (.rect r') ∧
      r'.iter = false ∧
      ∃ s', bcast p.std.length (scaleRow sc k) = some s' ∧
        ∀ (j : Nat) (μ σ a : Rat), p.mean[j]? = some μ → p.std[j]? = some σ → s'[j]? = some a →
          r'.lower[j]? = some (μ - σ * a) ∧ r'.upper[j]? = some (μ + σ * a) ∧ r'.center[j]? = some μ := by
  obtain ⟨r0, p, r1, h0, hp, hupd, hres⟩ := update_listed regs table sc idx hnd hok k i hk
  obtain rfl := Option.some.inj (hr.symm.trans h0)
  obtain ⟨r', hq, rfl⟩ := except_map_eq_ok.1 hupd
  obtain ⟨e1, _, _, s', hs', hent⟩ := rect_update_entries r r' p (scaleRow sc k) hq hi
  exact ⟨p, r', hp, hres, e1, s', hs', hent⟩

/-- **The property for ellipsoids, end to end.**  After `update` with a duplicate-free list (no
exception), the ellipsoid of the design `i` at position `k` is `(mean, cov, s)`: row `i` of the
full-matrix prediction and the single entry of the scale row of position `k`. -/
theorem listed_ell_is_prediction (regs : List Region) (table : List Pred) (sc : Scale)
    (idx : List Nat) (hnd : idx.Nodup) (hok : (update regs table sc idx).2 = none)
    (k i : Nat) (hk : idx[k]? = some i) (e : Ell) (he : regs[i]? = some (.ell e)) :
    ∃ (p : Pred) (a : Rat), table[i]? = some p ∧ scaleRow sc k = [a] ∧
      (update regs table sc idx).1[i]? = some (.ell { center := p.mean, sigma := p.cov, alpha := a }) := by
  obtain ⟨r0, p, r1, h0, hp, hupd, hres⟩ := update_listed regs table sc idx hnd hok k i hk
  obtain rfl := Option.some.inj (he.symm.trans h0)
  obtain ⟨e', he', rfl⟩ := except_map_eq_ok.1 hupd
  obtain ⟨_, a, hsc, rfl⟩ := ell_update_eq_ok.1 he'
  exact ⟨p, a, hp, hsc, hres⟩

/-- non-vacuity: three rectangles, designs 2 and 0 updated (in this order) with per-design scales -/
example :
    (update [.rect (Rect.init 1), .rect (Rect.init 1), .rect (Rect.init 1)]
      [{ mean := [1], cov := [[1]], std := [1] }, { mean := [5], cov := [[1]], std := [1] },
       { mean := [-1], cov := [[4]], std := [2] }]
      (.mat [[2], [3]]) [2, 0]) =
    ([.rect { lower := [-2], upper := [4], iter := false }, .rect (Rect.init 1),
      .rect { lower := [-5], upper := [3], iter := false }], none) := by decide +kernel

/-- **Unlisted designs are untouched in every case** — also with duplicates in the list and when the
call stops with an exception half-way. -/
theorem unlisted_untouched (regs : List Region) (table : List Pred) (sc : Scale) (idx : List Nat) (d : Nat)
    (hd : d ∉ idx) : (update regs table sc idx).1[d]? = regs[d]? :=
  update_unlisted regs table sc idx d hd

/-- **Duplicates.**  The loop is sequential: running it over `a ++ b` is running it over `a` and then,
if nothing was raised, over `b` from the regions `a` left.  So a design listed twice is updated twice,
in list order, each time with the prediction of that design and the scale row of that *position*;
for an ellipsoid or a rectangle without iterative intersection the last occurrence wins
(`rect_update_entries` does not mention the previous bounds), with iterative intersection both
rectangles are intersected in turn. -/
theorem duplicates_sequential (a b : List (Nat × Pred × Vec)) (regs : List Region) :
    updLoop regs (a ++ b) =
      if (updLoop regs a).2 = none then updLoop (updLoop regs a).1 b else updLoop regs a :=
  updLoop_append a b regs

/-- **Malformed scale.**  A 2-D scale whose number of rows differs from the number of listed designs,
or a scale with more than two axes, raises `ValueError` before anything is touched. -/
theorem bad_scale_rejected (regs : List Region) (table : List Pred) (idx : List Nat) :
    (∀ M : Mat, M.length ≠ idx.length → update regs table (.mat M) idx = (regs, some .valueError)) ∧
    update regs table .other idx = (regs, some .valueError) := by
  constructor
  · intro M hM
    simp [update, scaleRows, hM]
  · simp [update, scaleRows]

/-- **`lower ≤ upper` is an invariant of every call sequence with non-negative scales.**  Starting
from fresh regions, after any sequence of `update` (any index lists, duplicates, exceptions half-way),
child creation and toggling of `intersect_iteratively` — with and without intersection — every
rectangle satisfies `lower_j ≤ upper_j` for all `j`, provided every scale entry and every predicted
standard deviation is non-negative. -/
theorem lower_le_upper_invariant (n m : Nat) (ops : List Op) (hops : ∀ o ∈ ops, opNonneg o) :
    AllValid (run (List.replicate n (.rect (Rect.init m))) ops) :=
  run_valid ops _ hops (init_valid n m).1

/-- non-vacuity of the invariant's hypotheses: an intersecting update sequence -/
example : opNonneg (.upd [{ mean := [1], cov := [[1]], std := [1] }] (.scalar 2) [0]) := by
  refine ⟨?_, show (0 : Rat) ≤ 2 by norm_num⟩
  intro p hp σ hσ
  obtain rfl := List.mem_singleton.1 hp
  obtain rfl := List.mem_singleton.1 hσ
  exact zero_le_one

/-- **Iterative intersection, as sets.**  Let `K` be any ordered field (ℚ, ℝ).  For a rectangle `r`
and a new rectangle `[l, u]` of the same dimension:
* if the code's test `checkIntersection` succeeds, the result has corners `max`/`min` and is, as a
  set of points, exactly the intersection of the two closed boxes;
* otherwise the result is the new rectangle, and no point lies strictly inside both (the two are
  interior-disjoint — they may touch);
* if both rectangles have non-empty interior (`lower_j < upper_j`), the test succeeds *iff* the
  interiors meet. -/
theorem intersect_rule (K : Type) [Field K] [LinearOrder K] [IsStrictOrderedRing K]
    (r : Rect) (l u : Vec) (hl : r.lower.length = l.length) (hu : r.upper.length = u.length) :
    (checkIntersection r.lower r.upper l u = true →
      (r.intersect l u).lower = List.zipWith max r.lower l ∧ (r.intersect l u).upper = List.zipWith min r.upper u ∧
      ∀ x : List K, memBox K (r.intersect l u).lower (r.intersect l u).upper x ↔
        memBox K r.lower r.upper x ∧ memBox K l u x) ∧
    (checkIntersection r.lower r.upper l u = false →
      (r.intersect l u).lower = l ∧ (r.intersect l u).upper = u ∧
      ¬ ∃ x : List K, memInt K r.lower r.upper x ∧ memInt K l u x) ∧
    (List.Forall₂ (· < ·) r.lower r.upper → List.Forall₂ (· < ·) l u →
      (checkIntersection r.lower r.upper l u = true ↔ ∃ x : List K, memInt K r.lower r.upper x ∧ memInt K l u x)) := by
  refine ⟨?_, ?_, ?_⟩
  · intro hc
    simp only [Rect.intersect, hc, if_true, true_and]
    intro x
    exact memBox_inter hl hu x
  · intro hc
    refine ⟨by simp [Rect.intersect, hc], by simp [Rect.intersect, hc], ?_⟩
    rintro ⟨x, hx1, hx2⟩
    rw [check_of_interiors_meet hx1 hx2] at hc
    cases hc
  · intro h1 h2
    exact ⟨interiors_meet_of_check h1 h2 hl, fun ⟨x, hx1, hx2⟩ => check_of_interiors_meet hx1 hx2⟩

/-- With iterative intersection the update is `intersect` applied to the new rectangle
`[mean ∓ std·s]` (so `intersect_rule` describes it), and the result again has `lower ≤ upper`
when the previous rectangle had, `std ≥ 0` and `scale ≥ 0`. -/
theorem rect_update_iter (r r' : Rect) (p : Pred) (scale : Vec)
    (h : r.update p scale = .ok r') (hi : r.iter = true) :
    (∃ L U, bounds p.mean p.std scale = some (L, U) ∧ r' = r.intersect L U) ∧
    (r.valid → (∀ σ ∈ p.std, 0 ≤ σ) → (∀ a ∈ scale, 0 ≤ a) → r'.valid) := by
  obtain ⟨_, L, U, hb, h'⟩ := rect_update_eq_ok.1 h
  rw [hi, if_pos rfl] at h'
  exact ⟨⟨L, U, hb, h'⟩, fun hv hstd hs => Rect.update_valid h hstd hs (fun _ => hv)⟩

/-- non-vacuity: touching rectangles are *not* intersected (the new one is taken), overlapping
ones are -/
example :
    (({ lower := [-1, 0], upper := [1, 2], iter := true } : Rect).intersect [-3, 0] [-1, 2]).lower = [-3, 0] ∧
    (({ lower := [-1, 0], upper := [1, 2], iter := true } : Rect).intersect [-3, 1] [0, 5]) =
      { lower := [-1, 1], upper := [0, 2], iter := true } := by decide +kernel

/-! ## INVARIANCES — the displayed-region law is offset-free

About the executable `checkIntersection` / `Rect.intersect` / `Rect.update` / `updLoop` / `update`
the driver ops `rect` / `seq` (and C09's `intersect`) evaluate (helpers: `Proofs/InvRegion.lean`).
`Rect.translate r t`, `Ell.translate e t`, `Region.translate R t`, `Pred.translate p t` move the
bounds / the centre / the predicted mean by `t` and leave everything else (widths, covariance,
`intersect_iteratively`) alone.  No `l ≤ u` hypothesis.  These equalities are what the harness'
large-offset histories rely on: an intersection test or a bound computed with a relative tolerance
would not commute with the offset. -/

section Invariance

/-- **The intersection test depends on differences only**: moving both rectangles by `t` changes
neither `hyperrectangle_check_intersection` (overlap and disjointness are preserved, touching
included) nor its `±τ` band versions (so neither the driver's "borderline" flag). -/
theorem checkIntersection_translate (l1 u1 l2 u2 t : Vec)
    (h1 : l1.length = t.length) (h2 : u1.length = t.length) (h3 : l2.length = t.length)
    (h4 : u2.length = t.length) :
    checkIntersection (vadd l1 t) (vadd u1 t) (vadd l2 t) (vadd u2 t) = checkIntersection l1 u1 l2 u2 ∧
    ∀ τ : ℚ, borderline τ (vadd l1 t) (vadd u1 t) (vadd l2 t) (vadd u2 t) = borderline τ l1 u1 l2 u2 := by
  refine ⟨Region.checkIntersection_translate l1 u1 l2 u2 t h1 h2 h3 h4, fun τ => ?_⟩
  unfold borderline
  rw [checkIntersectionSlack_translate τ l1 u1 l2 u2 t h1 h2 h3 h4,
    checkIntersectionSlack_translate (-τ) l1 u1 l2 u2 t h1 h2 h3 h4]

/-- **`intersect` commutes with translation**: the intersection of the translated rectangles is the
translated intersection (componentwise `max`/`min` when they overlap, the new rectangle otherwise —
the same branch is taken before and after the move). -/
theorem intersect_translate (r : Rect) (l u t : Vec)
    (h1 : r.lower.length = t.length) (h2 : r.upper.length = t.length) (h3 : l.length = t.length)
    (h4 : u.length = t.length) :
    (r.translate t).intersect (vadd l t) (vadd u t) = (r.intersect l u).translate t :=
  Region.intersect_translate r l u t h1 h2 h3 h4

/-- **One `update` commutes with translation**, for rectangles (with or without
`intersect_iteratively`) and ellipsoids: old region and predicted mean moved by `t`, same std /
covariance / scale ⇒ the new region is the old answer moved by `t`, and the same exception is raised
when one is raised. -/
theorem region_update_translate (R : Region) (p : Pred) (scale t : Vec) (hR : R.dim t.length)
    (hm : p.mean.length = t.length) :
    (R.translate t).update (p.translate t) scale = (R.update p scale).map (fun R' => R'.translate t) :=
  Region.region_update_translate R p scale t hR hm

/-- **The whole design-space `update` commutes with translation**: all regions and all predicted means
moved by `t` (rectangles and means of dimension `|t|`), same scale and index list ⇒ every displayed
region afterwards is the original one moved by `t`, with the same exception (if any) at the same
point of the loop. -/
theorem update_translate (regs : List Region) (table : List Pred) (sc : Scale) (idx : List Nat) (t : Vec)
    (hregs : ∀ R ∈ regs, R.dim t.length) (htab : ∀ p ∈ table, p.mean.length = t.length) :
    update (regs.map (·.translate t)) (table.map (·.translate t)) sc idx =
      ((update regs table sc idx).1.map (·.translate t), (update regs table sc idx).2) := by
  unfold update
  cases scaleRows sc idx.length with
  | none => rfl
  | some rows =>
    rw [lookupAll_map]
    cases hp : lookupAll table idx with
    | none => rfl
    | some preds =>
      simp only [Option.map_some]
      rw [List.zip_map_left, List.zip_map_right]
      exact updLoop_translate t _ regs hregs fun x hx =>
        htab _ (lookupAll_mem idx table preds hp _ (List.of_mem_zip (List.of_mem_zip hx).2).1)

/-- non-vacuity, large offset and tiny gap: `[0,1]²` and `[1 − 2⁻²⁰, 2]²` overlap, `[1, 2]²` only
touches (counts as disjoint); the same after the offset `(2²⁰, −2²⁰)`, and the intersection moves
with it -/
example :
    checkIntersection [0, 0] [1, 1] [1 - 1/1048576, 1 - 1/1048576] [2, 2] = true ∧
    checkIntersection (vadd [0, 0] [1048576, -1048576]) (vadd [1, 1] [1048576, -1048576])
      (vadd [1 - 1/1048576, 1 - 1/1048576] [1048576, -1048576]) (vadd [2, 2] [1048576, -1048576]) = true ∧
    checkIntersection [0, 0] [1, 1] [1, 1] [2, 2] = false ∧
    checkIntersection (vadd [0, 0] [1048576, -1048576]) (vadd [1, 1] [1048576, -1048576])
      (vadd [1, 1] [1048576, -1048576]) (vadd [2, 2] [1048576, -1048576]) = false ∧
    (Rect.intersect { lower := vadd [0, 0] [1048576, -1048576], upper := vadd [1, 1] [1048576, -1048576], iter := true }
      (vadd [1 - 1/1048576, 1 - 1/1048576] [1048576, -1048576]) (vadd [2, 2] [1048576, -1048576])).lower =
      [1048577 - 1/1048576, -1048575 - 1/1048576] := by
  decide +kernel

end Invariance

end VOPy.C14
